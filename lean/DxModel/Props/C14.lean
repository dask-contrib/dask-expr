/-
  Props/C14.lean — blockwise fusion only changes task granularity.

  Model: DxModel/Fusion.lean (transliteration of `optimize_blockwise_fusion`, `_fusion_pass`,
  `Fused._task`, `Fused._execute_task`), checkers: DxModel/FusionCheck.lean.
  Every statement holds for *every* iteration order `ord` of the Python sets involved.

    C14_group_ok          every group returned by the pass is `GroupOK`
    C14_group_check_sound the executable group checker used on native-order runs is sound
    C14_task              the fused sub-graph (nested groups at any position) computes what the unfused member tasks compute
    C14_task_counterexample   witness of the open finding D60 (one-partition nested group in an n-partition group);
                              C14_task_counterexample_check: the checker rejects it
    C14_meta              npartitions / ndim (meta) of `Fused G` are those of `G[0]`; C14_meta_pass: that node is what the pass inserts
    C14_substitute        the substitution of `Fused G` for `G[0]` leaves the value of every key of every other expression (and of the plan's root) unchanged
    C14_loop_values       … and so does the whole loop of `optimize_blockwise_fusion`: the returned plan's root has the original root's value
    C14_ranked_check_sound, C14_planok_check_sound, C14_loop_hyps_of_check
                          the decidable checks run on real plans imply the hypotheses of the three theorems above
    C14_terminates        a successful pass strictly decreases the number of reachable blockwise nodes
    C14_loop_terminates   hence the outer loop of `optimize_blockwise_fusion` stops
    C14_walk_total        the operand walk never exhausts its fuel
-/
import DxModel.Lemmas.FusionPass
import DxModel.Lemmas.FusionMeasure
import DxModel.Lemmas.FusionTask
import DxModel.Lemmas.FusionSubst
import DxModel.Lemmas.FusionLoop
namespace Dx
open Fusion

namespace C14Ex
/-- `x = df + 1 ; x + (df.sum() * 2)`-like plan: 0 source (3 partitions, not a valid blockwise op),
    1 reduction (1 partition), 2 series op on it, 3 frame op, 4 = frame op(3, broadcast 2) = root -/
def dag : Dag :=
  [ ⟨0, false, 3, 2, [], false, []⟩, ⟨1, false, 1, 1, [0], false, []⟩, ⟨2, true, 1, 1, [1], false, []⟩,
    ⟨3, true, 3, 2, [0], false, []⟩, ⟨4, true, 3, 2, [3, 2], false, []⟩ ]

/-- a plan after two passes: 0 source, 1 reduction, 2 and 3 one-partition series ops, 4 frame op,
    5 = frame op(4, broadcast 3); 6 = Fused[5,4] (external 0 and 3), 7 = Fused[6,3] — a nested group
    whose second member is the one-partition series op broadcast into the fused frame op -/
def dag2 : Dag :=
  [ ⟨0, false, 3, 2, [], false, []⟩, ⟨1, false, 1, 1, [0], false, []⟩, ⟨2, true, 1, 1, [1], false, []⟩,
    ⟨3, true, 1, 1, [2], false, []⟩, ⟨4, true, 3, 2, [0], false, []⟩, ⟨5, true, 3, 2, [4, 3], false, []⟩,
    ⟨6, true, 3, 2, [0, 3], true, [5, 4]⟩, ⟨7, true, 3, 2, [0, 2], true, [6, 3]⟩ ]

def f7 : Node := ⟨7, true, 3, 2, [0, 2], true, [6, 3]⟩

def ordId : Nat → List Nat → List Nat := fun _ l => l
def ordRev : Nat → List Nat → List Nat := fun _ l => l.reverse
def I0 : Interp := fun f args => V.frame [⟨(f : Int), args.length, 0⟩]
end C14Ex
open C14Ex

/-! ### 1. groups -/

/-- Every group returned by `_fusion_pass` — for every plan, every iteration order of the
    dependency sets — is non-empty and duplicate free, consists of valid blockwise operations of the
    plan, every non-first member has *all* its dependents (blockwise or not: the dependents map
    records every parent met by the operand walk) inside the group, is an operand of a member, and
    has the first member's partition count or is broadcast to a consuming member.
    A returned group has at least two members. -/
theorem C14_group_ok (ord : Nat → List Nat → List Nat) (hord : OrdOK ord) (dag : Dag) (root : Nat)
    (r : PassResult) (G : List Nat) (h : fusionPass ord dag root = some r) (hg : r.group = some G) :
    GroupOK dag root G ∧ 2 ≤ G.length :=
  fusionPass_groupOK ord hord dag root r G h hg

example : (fusionPass ordId C14Ex.dag 4).map (·.group) = some (some [4, 2, 3]) := by decide +kernel
example : (fusionPass ordRev C14Ex.dag 4).map (·.group) = some (some [4, 3, 2]) := by decide +kernel
example : OrdOK ordId := fun _ _ _ h => h
example : OrdOK ordRev := fun _ _ _ h => List.mem_reverse.mp h

/-- The group checker run on the groups found by the unmodified code (native set order) is sound. -/
theorem C14_group_check_sound (dag : Dag) (root : Nat) (G : List Nat) (h : groupOKb dag root G = true) :
    GroupOK dag root G :=
  groupOKb_sound dag root G h

example : GroupOK C14Ex.dag 4 [4, 3, 2] := C14_group_check_sound _ _ _ (by decide +kernel)

/-! ### 2. the fused task -/

/-- For a `Fused` node accepted by `fusedOK` — nested groups at any position and depth, as they arise
    when a collection is built on an already optimised one — the value of its task for partition
    `index` (`dask.core.get` on the dict built by `Fused._task(index)` with the placeholders `"_j"`
    bound to the values `ev` of the positional arguments) equals the value of the first member's key
    `(exprs[0], index)` in the graph of the *unfused* member tasks `Blockwise._task(i)` (a nested group
    standing for its first member), with the same values `ev` for every key outside the group.
    For every interpretation `I` of the members' operations, every `ev`, all sufficiently large fuels
    on both sides (so neither side is the fuel-exhaustion error). -/
theorem C14_task (I : Interp) (dag : Dag) (f : Node) (index : Nat) (ev : FKey → V)
    (hok : fusedOK dag f = true) (hi : index < f.npart) (N N' : Nat)
    (hN : 2 * f.name + 2 ≤ N) (hN' : f.name ≤ N') :
    fusedValue I dag f index ev N =
      run I (memberGraph dag (flat dag (f.name + 1) f) (nested dag (f.name + 1) f)) (fun k => some (ev k)) N'
        (FKey.part (f.members.headD 0) index) :=
  fused_task_correct I dag f index ev hok hi N N' hN hN'

example : fusedOK dag2 f7 = true := by decide +kernel
example : flat dag2 8 f7 = [5, 4, 3] ∧ nested dag2 8 f7 = [6] := by decide +kernel
example (ev : FKey → V) : fusedValue I0 dag2 f7 2 ev 25 =
    run I0 (memberGraph dag2 [5, 4, 3] [6]) (fun k => some (ev k)) 7 (FKey.part 6 2) :=
  C14_task I0 dag2 f7 2 ev (by decide +kernel) (by decide +kernel) 25 7 (by decide +kernel) (by decide +kernel)

/-! #### regression witness of the fixed defect "a nested Fused group overwrote members of the
     enclosing group with its dependency placeholders":
      d = 1 - df.sum(); inner = (df + (2 + d)).optimize(); q = inner + d
  (0 = FromPandas, 1 = frame op, 2 = TreeReduce, 3 = `1 - sum` = d, 4 = `2 + d`, 5 = `df + …`,
   6 = Fused[5,4] = inner with external dependencies [0, 3], 7 = `inner + d`, 8 = Fused[7, 3, 6]):
  member 3 is written before the nested group 6, which depends on it.  Before the fix the nested
  group's placeholder entry `(3, 0) ↦ "_1"` overwrote member 3's task. -/

namespace C14Ex
def dag3 : Dag :=
  [ ⟨0, false, 2, 2, [], false, []⟩, ⟨1, true, 2, 2, [0], false, []⟩, ⟨2, false, 1, 1, [1], false, []⟩,
    ⟨3, true, 1, 1, [2], false, []⟩, ⟨4, true, 1, 1, [3], false, []⟩, ⟨5, true, 2, 2, [0, 4], false, []⟩,
    ⟨6, true, 2, 2, [0, 3], true, [5, 4]⟩, ⟨7, true, 2, 2, [6, 3], false, []⟩,
    ⟨8, true, 2, 2, [2, 0], true, [7, 3, 6]⟩ ]
def f8 : Node := ⟨8, true, 2, 2, [2, 0], true, [7, 3, 6]⟩
def code : V → Nat
  | .frame (r :: _) => r.pay + 1
  | _ => 0
/-- an interpretation that records which values an operation received -/
def I1 : Interp := fun f args => V.frame [⟨(f : Int), 0, (args.map code).foldl (fun a b => 31 * a + b) 7⟩]
def ev1 : FKey → V
  | .part n i => V.frame [⟨0, 0, 100 * n + i⟩]
  | _ => V.err
end C14Ex

example : fusedOK dag3 f8 = true := by decide +kernel
example : fusedValue I1 dag3 f8 0 ev1 40 =
    run I1 (memberGraph dag3 [7, 3, 5, 4] [6]) (fun k => some (ev1 k)) 40 (FKey.part 7 0) :=
  C14_task I1 dag3 f8 0 ev1 (by decide +kernel) (by decide +kernel) 40 40 (by decide +kernel) (by decide +kernel)
/-- … and the value is the one of the completely unfused plan -/
example : fusedValue I1 dag3 f8 0 ev1 40 = run I1 (refGraph dag3) (fun k => some (ev1 k)) 40 (FKey.part 7 0) := by
  decide +kernel

/-! #### OPEN FINDING D60: a one-partition nested group inside an n-partition group.

  Full statement (false for the current code): `C14_task` for every `Fused` node whose nested groups
  have the partition count of the enclosing group *or a single partition* (broadcast), as ordinary
  members may.  `C14_task` above is the proven part: `fusedOK` requires a nested group to have the
  partition count of the enclosing one.  With `Fused._task` entering a broadcast nested group with
  `i = 0 if self._broadcast_dep(_expr) else index` the full statement is expected to hold; the
  code does not do that.

  Witness — the plan of   sc = ((df.a.sum() + 1) * 2).optimize(); q = df.a + sc   (2 partitions):
  0 FromPandas, 1 `df.a`, 2 chunk, 3 = Fused[2,1], 4 TreeReduce, 5 `+ 1`, 6 `* 2`,
  7 = Fused[6,5] = sc (ONE partition), 8 `df.a + sc`, 9 = Fused[8,1,7].  For partition 1 the nested
  group 7 is registered as `(7, 1) ↦ T7 ↦ (6, 1)` while member 8 refers to `(7, 0)` and member 6 is
  keyed `(6, 0)`. -/

namespace C14Ex
def dagD60 : Dag :=
  [ ⟨0, false, 2, 2, [], false, []⟩, ⟨1, true, 2, 1, [0], false, []⟩, ⟨2, true, 2, 0, [1], false, []⟩,
    ⟨3, true, 2, 0, [0], true, [2, 1]⟩, ⟨4, false, 1, 0, [3], false, []⟩, ⟨5, true, 1, 0, [4], false, []⟩,
    ⟨6, true, 1, 0, [5], false, []⟩, ⟨7, true, 1, 0, [4], true, [6, 5]⟩, ⟨8, true, 2, 1, [1, 7], false, []⟩,
    ⟨9, true, 2, 1, [0, 4], true, [8, 1, 7]⟩ ]
def f9 : Node := ⟨9, true, 2, 1, [0, 4], true, [8, 1, 7]⟩
end C14Ex

/-- the checker rejects the witness (it is outside the proven fragment) … -/
theorem C14_task_counterexample_check : fusedOK dagD60 f9 = false := by decide +kernel

/-- … and for partition 1 the fused task does not compute what the unfused member tasks compute
    (partition 0 is fine). -/
theorem C14_task_counterexample :
    fusedValue I1 dagD60 f9 1 ev1 40 ≠ run I1 (refGraph dagD60) (fun k => some (ev1 k)) 40 (FKey.part 8 1) ∧
    fusedValue I1 dagD60 f9 0 ev1 40 = run I1 (refGraph dagD60) (fun k => some (ev1 k)) 40 (FKey.part 8 0) := by
  decide +kernel

/-! ### 3. meta -/

/-- `Fused(group, …)` reports the partition count and dimensionality (`_meta`, `_divisions`) of
    `group[0]`, is a valid blockwise operation with the `Fused` broadcast rule, keeps the group as
    its members, and its dependencies are the members' operands outside the group. -/
theorem C14_meta (dag : Dag) (G : List Nat) :
    (fusedNode dag G).npart = npartOf dag (G.headD 0) ∧
    (fusedNode dag G).ndim = (match getNode dag (G.headD 0) with | some nd => nd.ndim | none => 0) ∧
    (fusedNode dag G).blockwise = true ∧ (fusedNode dag G).kall = true ∧
    (fusedNode dag G).members = G ∧ (fusedNode dag G).deps = groupDeps dag G :=
  ⟨rfl, rfl, rfl, rfl, rfl, rfl⟩

/-- … and that node is what the pass puts in place of `group[0]`. -/
theorem C14_meta_pass (ord : Nat → List Nat → List Nat) (dag : Dag) (root : Nat) (r : PassResult)
    (G : List Nat) (h : fusionPass ord dag root = some r) (hg : r.group = some G) :
    r.dag = substitute dag (G.headD 0) (fusedNode dag G).name ++ [fusedNode dag G] ∧
    r.root = (if root = G.headD 0 then (fusedNode dag G).name else root) := by
  obtain ⟨_, _, _, _, _, h1, h2⟩ := fusionPass_some ord dag root r G h hg
  exact ⟨h1, h2⟩

example : (fusedNode C14Ex.dag [4, 2, 3]).npart = 3 ∧ (fusedNode C14Ex.dag [4, 2, 3]).deps = [1, 0] := by decide +kernel

/-! ### 4. substitution -/

/-- `nameRankedB` (FusionCheck.lean) is a decidable instance of "the plan is acyclic": operands
    and the first member of a `Fused` node have smaller names (the harness numbers plans in post-order). -/
theorem C14_ranked_check_sound (dag : Dag) (h : nameRankedB dag = true) : RankedBy dag id :=
  nameRankedB_sound dag h

/-- **Substitution.**  A successful pass returns the plan in which every operand `G[0]` has become
    the new `Fused G` node.  In the reference semantics (every blockwise node computes
    `Blockwise._task(i)`; a `Fused` node stands for its first member — which is what `C14_task` proves
    its task computes) every key `(x, i)` of every expression `x` of the old plan — consumers of the
    group, members, unrelated branches — keeps its value, and the key `(root', i)` of the new root has
    the value of the old root's `(root, i)`: consumers read the same partition number of the `Fused`
    node as they read of `G[0]` because `Fused` reports `G[0]`'s partition count and dimensionality
    (`_broadcast_dep` decides on those).  For every interpretation of the operations, all inputs
    `inp` (values of non-blockwise keys), every acyclic plan (`ρ` any rank), all sufficiently large fuels. -/
theorem C14_substitute (I : Interp) (ord : Nat → List Nat → List Nat) (hord : OrdOK ord) (dag : Dag)
    (root : Nat) (r : PassResult) (G : List Nat) (h : fusionPass ord dag root = some r)
    (hg : r.group = some G) (ρ : Nat → Nat) (hr : RankedBy dag ρ)
    (hmem : ∀ x nd, getNode dag x = some nd → ∀ m rs, nd.members = m :: rs → (getNode dag m).isSome = true)
    (hroot : (getNode dag root).isSome = true) (inp : FKey → Option V) :
    (∀ x i N N', x ≠ freshName dag → ρ x < N → 2 * ρ x + 2 ≤ N' →
        run I (refGraph r.dag) inp N' (.part x i) = run I (refGraph dag) inp N (.part x i)) ∧
    (∀ i N N', ρ root < N → 2 * ρ root + 3 ≤ N' →
        run I (refGraph r.dag) inp N' (.part r.root i) = run I (refGraph dag) inp N (.part root i)) := by
  obtain ⟨hok, _⟩ := fusionPass_groupOK ord hord dag root r G h hg
  obtain ⟨_, _, _, _, _, h1, h2⟩ := fusionPass_some ord dag root r G h hg
  have hf := fusedNode_for dag G hok.nonempty (member_ne_fresh hmem)
  have hrootne : root ≠ (fusedNode dag G).name := Nat.ne_of_lt (lt_fresh_of_isSome hroot)
  rw [h1, h2]
  exact ⟨fun x i N N' hx hN hN' => subst_value I dag (G.headD 0) (fusedNode dag G) hf ρ hr inp N x hx i N' hN hN',
    fun i N N' hN hN' =>
      subst_root_value I dag (G.headD 0) (fusedNode dag G) hf ρ hr inp root hrootne i N N' hN hN'⟩

example : nameRankedB C14Ex.dag = true ∧ nameRankedB C14Ex.dag2 = true := by decide +kernel
/-- non-vacuity: the pass on `C14Ex.dag` fuses `[4, 2, 3]` into node 5 = the new root; the old root's
    partition 1 and the new root's partition 1 have the same (non-error) value. -/
example : (fusionPass ordId C14Ex.dag 4).map (fun r => (r.root, r.group)) = some (5, some [4, 2, 3]) := by decide +kernel
example : (fusionPass ordId C14Ex.dag 4).map (fun r => run I0 (refGraph r.dag) (fun _ => some (.frame [])) 12 (.part r.root 1))
    = some (run I0 (refGraph C14Ex.dag) (fun _ => some (.frame [])) 5 (.part 4 1)) := by decide +kernel
example : run I0 (refGraph C14Ex.dag) (fun _ => some (.frame [])) 5 (.part 4 1) = V.frame [⟨4, 2, 0⟩] := by decide +kernel

/-! ### 5. termination -/

/-- `planOKb` (FusionCheck.lean) is a decidable sufficient condition for `PlanOK`: the root is a node
    and operands have smaller names than their consumers (the harness numbers plans in post-order). -/
theorem C14_planok_check_sound (dag : Dag) (root : Nat) (h : planOKb dag root = true) : PlanOK dag root :=
  planOKb_sound dag root h

/-- Each successful pass strictly decreases the number of valid blockwise expressions reachable
    from the plan's root (all members of the group become unreachable, one `Fused` appears), and the
    resulting plan is again well formed. -/
theorem C14_terminates (ord : Nat → List Nat → List Nat) (hord : OrdOK ord) (dag : Dag) (root : Nat)
    (hplan : PlanOK dag root) (r : PassResult) (G : List Nat)
    (h : fusionPass ord dag root = some r) (hg : r.group = some G) :
    Fusion.measure r.dag r.root < Fusion.measure dag root ∧ PlanOK r.dag r.root :=
  pass_decreases ord hord dag root hplan r G h hg

example : PlanOK C14Ex.dag 4 := C14_planok_check_sound _ _ (by decide +kernel)
example : Fusion.measure C14Ex.dag 4 = 3 := by decide +kernel
example : (fusionPass ordId C14Ex.dag 4).map (fun r => Fusion.measure r.dag r.root) = some 1 := by decide +kernel

/-- The outer `while True` of `optimize_blockwise_fusion` stops after at most `measure` successful
    passes: with that much fuel the model loop returns, unless an *inner* loop of some pass ran out
    of its own (generous) fuel — which the driver would report as `FUEL` in every correspondence run.
    As stated the conclusion names some plan on which a pass returns `none`, not one the loop reached. -/
theorem C14_loop_terminates (ord : Nat → List Nat → List Nat) (hord : OrdOK ord) (fuel : Nat) (dag : Dag)
    (root n : Nat) (hplan : PlanOK dag root) (hfuel : Fusion.measure dag root < fuel)
    (hnone : fuseLoop ord fuel dag root n = none) : ∃ dag' root', fusionPass ord dag' root' = none :=
  fuseLoop_terminates ord hord fuel dag root n hplan hfuel hnone

example : (fuseLoop ordId 4 C14Ex.dag 4 0).map (fun r => r.2.2) = some 1 := by decide +kernel

/-- The operand walk of the first half of `_fusion_pass` never exhausts its fuel. -/
theorem C14_walk_total (dag : Dag) (root : Nat) : (globalMaps dag root).isSome = true :=
  globalMaps_total dag root

/-! ### 6. the whole loop -/

/-- **The whole of `optimize_blockwise_fusion`.**  Whatever the outer `while True` returns — after any
    number of passes — computes at its root, for every partition `i`, the value the original plan
    computes at its root (reference semantics; all sufficiently large fuels on both sides).  The
    invariants carried from pass to pass are proven, not assumed: the plan after a pass is again
    well formed (`PlanOK`), acyclic (a rank is constructed: `Fused G` ranks just above `G[0]` — no member
    outranks `G[0]` because every other member has a parent inside the group) and its `Fused` nodes
    name members of the plan. -/
theorem C14_loop_values (I : Interp) (ord : Nat → List Nat → List Nat) (hord : OrdOK ord)
    (inp : FKey → Option V) (fuel : Nat) (dag : Dag) (root n : Nat) (dag' : Dag) (root' n' : Nat)
    (h : fuseLoop ord fuel dag root n = some (dag', root', n'))
    (hplan : PlanOK dag root) (hrk : ∃ ρ, RankedBy dag ρ) (hmk : MembersKnown dag) (i : Nat) :
    ∃ B B', ∀ N N', B ≤ N → B' ≤ N' →
      run I (refGraph dag') inp N' (.part root' i) = run I (refGraph dag) inp N (.part root i) :=
  fuseLoop_values I ord hord inp fuel dag root n dag' root' n' h hplan hrk hmk i

/-- the decidable hypotheses the driver re-checks on every real plan imply those of `C14_loop_values` -/
theorem C14_loop_hyps_of_check (dag : Dag) (root : Nat) (h1 : planOKb dag root = true) (h2 : substOKb dag root = true) :
    PlanOK dag root ∧ (∃ ρ, RankedBy dag ρ) ∧ MembersKnown dag := by
  unfold substOKb at h2
  simp only [Bool.and_eq_true] at h2
  exact ⟨C14_planok_check_sound dag root h1, ⟨id, nameRankedB_sound dag h2.1.1⟩, membersKnownB_sound dag h2.1.2⟩

/-! non-vacuity: `C14Ex.dag` satisfies the checked hypotheses and the loop returns (root 5 after one successful pass) -/
example : planOKb C14Ex.dag 4 = true ∧ substOKb C14Ex.dag 4 = true := by decide +kernel
example : (fuseLoop ordId 4 C14Ex.dag 4 0).map (fun r => (r.2.1, r.2.2)) = some (5, 1) := by decide +kernel

end Dx

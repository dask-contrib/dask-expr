/-
  Props/C06.lean — reported partition structure (npartitions, divisions, lengths) is truthful.

  `DivInv d n parts` (Lemmas/RepartitionDiv.lean, with its reading by partition number `divInv_intro/_bound/_mono` and
  `divInv_coarsen`): `d` sorted, `n + 1` entries, every row of partition `i` has its index label in `[d[i], d[i+1])` (last partition right-inclusive), rows of a partition sorted.
  For every modelled `_divisions()` + task pair:  DivInv d_in parts_in → DivInv (divisionsOf op d_in) (run op parts_in),
  and the number of emitted output partitions is `npartitions op`.

    C06_blockwise(_count), C06_partitions(_unknown/_count), C06_head(_all), C06_tail, C06_fusedio(_buckets/_guarded),
    C06_repartition_fewer / _divisions / _more_count (from C13), C06_concat, C06_merge_divisions, C06_fromarray, C06_frompandas
    C06_len_pushdown_table, C06_len_rowcount_*, C06_len_concat, C06_size, C06_len_selected_frame_kept, C06_len_frompandas,
    C06_len_parquet (full since D62/D63), C06_len_elemwise_partial(_counterexample)
-/
import DxModel.Lemmas.Divisions
import DxModel.Lemmas.FromArray
import DxModel.Lemmas.FusedIO
import DxModel.Lemmas.Head
import DxModel.Lemmas.HeadPush
import DxModel.Generated.LengthFlags
import DxModel.Props.C13
namespace Dx
open Parts Head Divs Repartition

/-! ### 1. Blockwise -/

/-- `Blockwise._divisions` returns the divisions of its (first non-broadcast) dependency.  Every output
    partition of a row-local or row-selecting operator carries a sub-sequence of the index labels of the
    corresponding input partition, hence the divisions stay truthful; the layer has `p.n` outputs. -/
theorem C06_blockwise (d : List Int) (n : Nat) (parts out : Nat → List Row) (hinv : DivInv d n parts)
    (hsub : ∀ i, i < n → ((out i).map (·.idx)).Sublist ((parts i).map (·.idx))) :
    DivInv d n out := divInv_of_idx_sublist hinv hsub

theorem C06_blockwise_count (p : Blockwise.Params) : (Blockwise.keys p).length = p.n := by
  simp [Blockwise.keys]

example : DivInv [0, 2, 4] 2 (fun i => if i = 0 then [⟨0, 0, 0⟩, ⟨1, 0, 1⟩] else if i = 1 then [⟨3, 0, 2⟩, ⟨4, 0, 3⟩] else []) := by
  refine divInv_intro rfl (by decide) ?_ ?_ <;> intro i hi <;>
    match i with
    | 0 => decide
    | 1 => decide

/-! ### 2. Partitions / PartitionsFiltered -/

/-- strictly ascending selections (any gaps): truthful -/
theorem C06_partitions (full : List Int) (n : Nat) (parts : Nat → List Row) (P : List Nat)
    (hinv : DivInv full n parts) (hs : strictAsc P = true) (hne : P ≠ []) (hP : ∀ p ∈ P, p < n) :
    ∃ d', selDivisions full P = .ok (some d') ∧ DivInv d' P.length (sel P parts) :=
  selDivisions_truthful full n parts P hinv hs hne hP

/-- every other selection reports unknown divisions (D12) — which claims nothing -/
theorem C06_partitions_unknown (full : List Int) (P : List Nat) (h : strictAsc P = false) :
    selDivisions full P = .ok none := selDivisions_unknown full P h

/-- the layer has one output per selected index, repeats included -/
theorem C06_partitions_count (P : List Nat) : (outKeys P).length = P.length := by simp [outKeys]

example : strictAsc [1, 3] = true ∧ strictAsc [1, 1] = false ∧ strictAsc [3, 1] = false := by decide

/-! ### 3. Head, Tail -/

/-- `Head._divisions = (d[0], d[k])` (`k` leading partitions, `1 ≤ k ≤ np`; `k = np` for `npartitions = -1`)
    bounds the `n` leading rows of the `k` leading partitions; one output partition. -/
theorem C06_head (d : List Int) (np : Nat) (parts : Nat → List Row) (k n : Nat) (hinv : DivInv d np parts)
    (hk : k ≤ np) :
    ∃ lo hi, headDivisions d (k : Int) = (if k = 0 then some [lo, lo] else some [lo, hi]) ∧
      (1 ≤ k → DivInv [lo, hi] 1 (fun _ => ((List.range k).flatMap parts).take n)) := by
  have hl := hinv.len
  have h0 : d[0]? = some (d.getD 0 0) := getElem?_getD 0 (hl ▸ Nat.succ_pos _)
  have hk' : d[k]? = some (d.getD k 0) := getElem?_getD 0 (hl ▸ Nat.lt_succ_of_le hk)
  refine ⟨_, _, ?_, fun _ => divInv_head d np parts k n _ _ hinv hk h0 hk'⟩
  have hnn : ¬ ((k : Int) ≤ -1) := Int.not_le.mpr (Int.lt_of_lt_of_le (by decide) (Int.natCast_nonneg k))
  simp only [headDivisions, h0, hnn, if_false, Int.toNat_natCast, hk']
  split
  · subst k; rfl
  · rfl

/-- `npartitions = -1`: `(d[0], d[-1])` -/
theorem C06_head_all (d : List Int) (np : Nat) (parts : Nat → List Row) (n : Nat) (hinv : DivInv d np parts) :
    ∃ lo hi, headDivisions d (-1) = some [lo, hi] ∧
      DivInv [lo, hi] 1 (fun _ => ((List.range np).flatMap parts).take n) := by
  have hl := hinv.len
  have h0 : d[0]? = some (d.getD 0 0) := getElem?_getD 0 (hl ▸ Nat.succ_pos _)
  have hn : d[np]? = some (d.getD np 0) := getElem?_getD 0 (hl ▸ Nat.lt_succ_self _)
  have hlast : d.getLast? = some (d.getD np 0) := by rw [List.getLast?_eq_getElem?, hl]; exact hn
  refine ⟨_, _, ?_, divInv_head d np parts np n _ _ hinv (Nat.le_refl _) h0 hn⟩
  simp only [headDivisions, h0, hlast, Int.le_refl, if_true]

/-- `Tail._divisions = d[-2:]` bounds the last `n` rows of the last partition. -/
theorem C06_tail (d : List Int) (np : Nat) (parts : Nat → List Row) (n : Nat) (hinv : DivInv d np parts) (hnp : 1 ≤ np) :
    DivInv (tailDivisions d) 1 (fun _ => lastN n (parts (np - 1))) := by
  have hd : d.length - 2 = np - 1 := by rw [hinv.len]; rfl
  have hl : (tailDivisions d).length = 1 + 1 := by
    rw [tailDivisions, List.length_drop, Nat.sub_sub_self (by rw [hinv.len]; exact Nat.succ_le_succ hnp)]
  refine divInv_coarsen hinv (fun j => np - 1 + j) hl (fun i j hij _ => Nat.add_lt_add_left hij _)
    (Nat.le_of_eq (Nat.sub_add_cancel hnp)) (fun j _ => ?_) (fun j hj => ?_)
  · rw [tailDivisions, hd, List.getD_eq_getElem?_getD, List.getElem?_drop, ← List.getD_eq_getElem?_getD]
  · cases Nat.lt_one_iff.mp hj
    refine ((List.drop_sublist _ _).trans (sublist_flatMap_of_mem (List.mem_range'_1.mpr ⟨Nat.le_refl _, ?_⟩))).map _
    -- membership of `np - 1` in `range' (pos 0) (pos 1 - pos 0)`, with `pos j = np - 1 + j` unfolded
    show np - 1 < np - 1 + (np - 1 + 1 - (np - 1))
    rw [Nat.add_sub_cancel_left]
    exact Nat.lt_succ_self _

example : headDivisions [0, 10, 20, 30] 2 = some [0, 20] ∧ headDivisions [0, 10, 20, 30] (-1) = some [0, 30] ∧
    tailDivisions [0, 10, 20, 30] = [20, 30] := by decide

/-! ### 4. FusedIO -/

/-- `_fusion_buckets` is an ordered partition of `_partitions` (any selection, any step ≥ 1). -/
theorem C06_fusedio_buckets (P : List Nat) (step : Nat) (hs : 1 ≤ step) :
    (buckets P step).flatten = P ∧ (buckets P step).length = nChunks P.length step :=
  ⟨buckets_flatten P step hs, buckets_length P step⟩

/-- **FusedIO** (`_fusion_buckets`, `_divisions` as fixed by D5, `_task`): for a strictly ascending `_partitions`
    (any gaps) and every bucket size, the reported divisions — first division of every bucket + the division AFTER
    the last bucket — are truthful for the concatenated buckets, and there is one output per bucket. -/
theorem C06_fusedio (full : List Int) (n : Nat) (parts : Nat → List Row) (P : List Nat) (step : Nat)
    (hinv : DivInv full n parts) (hs : strictAsc P = true) (hne : P ≠ []) (hP : ∀ p ∈ P, p < n) (hstep : 1 ≤ step) :
    ∃ d, fusedDivisions full P step = some d ∧
      DivInv d (buckets P step).length (fusedRows P step parts) := by
  obtain ⟨d', hd', hinv'⟩ := C06_partitions full n parts P hinv hs hne hP
  have hPpos : 1 ≤ P.length := List.length_pos_iff.mpr hne
  have ⟨hb, hm⟩ := bucketBounds_ok P.length step hstep hPpos
  obtain ⟨d'', hd'', hinv''⟩ := fewer_divisions_truthful d' (bucketBounds P.length step) P.length (sel P parts) hb hm hinv'
  have hbl : (bucketBounds P.length step).length - 1 = (buckets P step).length := by
    simp [bucketBounds, pyRange_length, buckets_length]
  refine ⟨d'', fusedDivisions_eq_fewer full P step hstep n hinv.len hP hne d' d'' hd' hd'', ?_⟩
  rw [← hbl]
  refine divInv_of_idx_sublist hinv'' (fun j hj => ?_)
  rw [hbl, buckets_length] at hj
  rw [fusedRows_eq_fewerSem P step hstep parts j hj]
  exact List.Sublist.refl _

-- the transliterated `_fusion_buckets` / `_divisions` / `_task` coincide with that reading on an instance …
example : buckets [1, 3, 4, 6, 7] 2 = [[1, 3], [4, 6], [7]] ∧ bucketBounds 5 2 = [0, 2, 4, 5] ∧
    fusedDivisions [0, 10, 20, 30, 40, 50, 60, 70, 80] [1, 3, 4, 6, 7] 2 = some [10, 40, 70, 80] ∧
    fewerDivisions [10, 30, 40, 60, 70, 80] [0, 2, 4, 5] = some [10, 40, 70, 80] := by decide
example : boundariesOK (bucketBounds 5 2) 5 = true ∧ strictMono (bucketBounds 5 2) = true := by decide

/-- **FusedIO, every selection** (full since D71): the guarded `_divisions` either reports unknown divisions — exactly
    for reordered or repeated selections — or the truthful bucket bounds of `C06_fusedio`. -/
theorem C06_fusedio_guarded (full : List Int) (n : Nat) (parts : Nat → List Row) (P : List Nat) (step : Nat)
    (hinv : DivInv full n parts) (hne : P ≠ []) (hP : ∀ p ∈ P, p < n) (hstep : 1 ≤ step) :
    (strictAsc P = false → fusedDivisionsGuarded full P step = some none) ∧
    (strictAsc P = true → ∃ d, fusedDivisionsGuarded full P step = some (some d) ∧
      DivInv d (buckets P step).length (fusedRows P step parts)) := by
  constructor
  · intro h; simp [fusedDivisionsGuarded, h]
  · intro h
    obtain ⟨d, hd, hinv'⟩ := C06_fusedio full n parts P step hinv h hne hP hstep
    exact ⟨d, by simp [fusedDivisionsGuarded, h, hd], hinv'⟩

/-- the witness of the former finding D71: the reordered selection `[5, 2, 3, 0]` reports unknown divisions, like
    `PartitionsFiltered.divisions` of the same source (the unguarded formula gave the unsorted `(125, 115, 105)`) -/
example :
    fusedDivisionsGuarded [100, 105, 110, 115, 120, 125, 130, 135, 140] [5, 2, 3, 0] 2 = some none ∧
    fusedDivisions [100, 105, 110, 115, 120, 125, 130, 135, 140] [5, 2, 3, 0] 2 = some [125, 115, 105] ∧
    selDivisions [100, 105, 110, 115, 120, 125, 130, 135, 140] [5, 2, 3, 0] = .ok none := ⟨by decide, by decide, rfl⟩

/-! ### 5. Repartition (from C13) -/

theorem C06_repartition_fewer (din : List Int) (bs : List Nat) (nin : Nat) (parts : Nat → List Row)
    (hb : boundariesOK bs nin = true) (hs : strictMono bs = true) (hinv : DivInv din nin parts) :
    ∃ d, fewerDivisions din bs = some d ∧ DivInv d (bs.length - 1) (fewerSem bs parts) ∧
      (fewerKeys bs).length = bs.length - 1 :=
  have ⟨d, h1, h2⟩ := C13_fewer_divisions_truthful din bs nin parts hb hs hinv
  ⟨d, h1, h2, by simp [fewerKeys]⟩

/-- RepartitionDivisions: every plan accepted by the proven validator yields outputs satisfying the NEW divisions. -/
theorem C06_repartition_divisions (a b : List Int) (plan : Plan) (n : Nat) (parts : Nat → List Row)
    (hok : planOK a b plan = true) (hinv : DivInv a n parts) : DivInv b plan.length (runPlan plan parts) :=
  (C13_div_validator a b plan n parts hok hinv).2

/-- RepartitionToMore keeps the partition count it reports: `sum nsplits = nout` outputs. -/
theorem C06_repartition_more_count (nout nin : Nat) (h1 : 1 ≤ nin) (h2 : nin ≤ nout) :
    ∃ ns, nsplits nout nin = .ok ns ∧ Repartition.sum ns = nout := by
  obtain ⟨ns, h, _, _, hs⟩ := C13_more_nsplits nout nin h1 h2
  exact ⟨ns, h, hs⟩

/-! ### 6. Concat, indexed Merge -/

/-- **Concat._divisions**, monotonic case (`dfs[i].divisions[-1] < dfs[i+1].divisions[0]`), two frames
    (n frames by iteration): truthful for the stacked partitions; `n₁ + n₂` partitions. -/
theorem C06_concat (d₁ d₂ : List Int) (n₁ n₂ : Nat) (p₁ p₂ : Nat → List Row)
    (h₁ : DivInv d₁ n₁ p₁) (h₂ : DivInv d₂ n₂ p₂) (hmono : monotonic [d₁, d₂] = true) :
    concatDivisions [d₁, d₂] false = some (d₁.dropLast ++ d₂) ∧
    DivInv (d₁.dropLast ++ d₂) (n₁ + n₂) (stackParts n₁ p₁ p₂) := by
  refine ⟨by simp [concatDivisions, hmono, stackDivisions], ?_⟩
  simp only [monotonic, Bool.and_true] at hmono
  cases hx : d₁.getLast? with
  | none => simp [hx] at hmono
  | some x =>
    cases hy : d₂.head? with
    | none => simp [hx, hy] at hmono
    | some y =>
      simp only [hx, hy, decide_eq_true_eq] at hmono
      exact divInv_stack d₁ d₂ n₁ n₂ p₁ p₂ x y h₁ h₂ hx hy hmono

example : concatDivisions [[0, 5, 9], [10, 12]] false = some [0, 5, 10, 12] ∧
    concatDivisions [[0, 5, 9], [3, 12]] false = none ∧
    concatDivisions [[0, 5, 9], [3, 12]] true = some [0, 3, 5, 9, 12] := by
  decide +kernel

/-- **indexed Merge / interleaved Concat**: what `unique(merge_sorted(left.divisions, right.divisions))` claims —
    a strictly increasing vector that contains exactly the entries of the inputs (so it starts at the smallest
    and ends at the largest division, the coverage precondition of the repartition both sides then undergo;
    truthfulness of the re-divided sides is `C06_repartition_divisions`). -/
theorem C06_merge_divisions (ds : List (List Int)) (h : ∀ d ∈ ds, d.Pairwise (· ≤ ·)) :
    (mergeUniqueAll ds).Pairwise (· < ·) ∧ ∀ v, v ∈ mergeUniqueAll ds ↔ ∃ d ∈ ds, v ∈ d := by
  unfold mergeUniqueAll
  refine ⟨strict_of_sorted_nodup ((mergeAll_sorted ds h).sublist (uniq_sublist _ _)) (uniq_nodup _ _), ?_⟩
  intro v
  rw [mem_uniq, mem_mergeAll]
  simp

example : mergeUniqueAll [[0, 4, 8], [2, 4, 10]] = [0, 2, 4, 8, 10] := by
  decide +kernel

/-! ### 7. sources -/

theorem C06_fromarray (len cs : Nat) (hcs : 1 ≤ cs) (hlen : 1 ≤ len) :
    DivInv (faDivisions len cs) (nChunks len cs) (fun i => (faRows len cs i).getD []) ∧
    (faDivisions len cs).length = nChunks len cs + 1 :=
  -- `hlen` is not used: the empty array has no partition and the single division `-1`
  have _ := hlen
  ⟨faDivInv len cs hcs, faDivisions_length len cs⟩

/-- **FromPandas**: for any `(divisions, locations)` pair passing the executable check `locsOK` (run on the real
    output of `sorted_division_locations` for every enumerated frame), the divisions are truthful for the
    partitions `frame.iloc[locations[i] : locations[i+1]]`, and there are `len(locations) - 1` of them. -/
theorem C06_frompandas (rows : List Row) (divs : List Int) (locs : List Nat)
    (h : locsOK (rows.map (·.idx)) divs locs = true) :
    DivInv divs (locs.length - 1) (fpRows rows locs) := by
  obtain ⟨hlen, h2, hsd, hsi, hall⟩ := locsOK_spec h
  refine ⟨hlen.trans (Nat.sub_add_cancel (Nat.le_of_succ_le h2)).symm, isSorted_pairwise _ hsd, ?_, ?_⟩
  · intro i lo hi hlo hhi r hr
    have hi1 : i + 1 < locs.length := hlen ▸ (List.getElem?_eq_some_iff.mp hhi).1
    have ha := List.getElem?_eq_getElem (Nat.lt_of_succ_lt hi1)
    have hb := List.getElem?_eq_getElem hi1
    have ⟨h1, h2⟩ := hall i _ _ lo hi ha hb hlo hhi r.idx
      (by rw [← fpRows_idx rows locs i _ _ ha hb]; exact List.mem_map_of_mem hr)
    exact ⟨h1, h2.imp id (fun ⟨a, b⟩ => ⟨hlen ▸ a, b⟩)⟩
  · intro i hi
    have hi1 : i + 1 < locs.length := Nat.add_lt_of_lt_sub hi
    refine pairwise_of_map_sublist ?_ (List.pairwise_map.mp (isSorted_pairwise _ hsi))
    rw [fpRows_idx rows locs i _ _ (List.getElem?_eq_getElem (Nat.lt_of_succ_lt hi1)) (List.getElem?_eq_getElem hi1)]
    exact (List.take_sublist _ _).trans (List.drop_sublist _ _)

example : locsOK [0, 0, 1, 1, 1, 2] [0, 1, 2] [0, 2, 6] = true := by decide
example : locsOK [0, 0, 1, 1, 1, 2] [0, 1, 2] [0, 3, 6] = false := by decide   -- a cut inside the run of 1s

/-! ### 8. row counts obtained from metadata -/

/-- **the flag table**: every live class flagged `_is_length_preserving` is in a row-count-preserving category -/
theorem C06_len_pushdown_table :
    (Generated.lengthFlags.all (fun e => !e.flag || rowCountPreserving e.cat)) = true := by decide +kernel

/-- … and each category preserves the row count:  row-local (every partition keeps its length) -/
theorem C06_len_rowcount_rowlocal (n : Nat) (p q : Nat → List Row) (h : ∀ i, i < n → (q i).length = (p i).length) :
    totalLen n q = totalLen n p := by
  unfold totalLen
  rw [List.length_flatMap, List.length_flatMap]
  exact congrArg List.sum (List.map_congr_left fun i hi => h i (List.mem_range.mp hi))

/-- reorder (the outputs together are a permutation of the inputs, any partition counts) -/
theorem C06_len_rowcount_reorder (n m : Nat) (p q : Nat → List Row)
    (h : ((List.range m).flatMap q).Perm ((List.range n).flatMap p)) : totalLen m q = totalLen n p :=
  h.length_eq

/-- partition-only (the concatenation is unchanged) -/
theorem C06_len_rowcount_partition_only (n m : Nat) (p q : Nat → List Row)
    (h : (List.range m).flatMap q = (List.range n).flatMap p) : totalLen m q = totalLen n p := by
  unfold totalLen; rw [h]

/-- `Len(Concat(a, b)) = Len(a) + Len(b)` -/
theorem C06_len_concat (n₁ n₂ : Nat) (p₁ p₂ : Nat → List Row) :
    totalLen (n₁ + n₂) (stackParts n₁ p₁ p₂) = totalLen n₁ p₁ + totalLen n₂ p₂ := by
  unfold totalLen
  rw [List.range_add, List.flatMap_append, List.length_append, List.flatMap_map,
    flatMap_congr' _ (stackParts n₁ p₁ p₂) p₁ (fun i hi => if_pos (List.mem_range.mp hi)),
    flatMap_congr' (List.range n₂) (fun a => stackParts n₁ p₁ p₂ (n₁ + a)) p₂ (fun i _ => by
      unfold stackParts
      rw [if_neg (Nat.not_lt.mpr (Nat.le_add_right n₁ i)), Nat.add_sub_cancel_left])]

/-- `Size._simplify_down` (full since D75): `ncols * Len` for frames, `Len` for series — the number of cells
    `ncols * rows`, also for a frame without columns. -/
theorem C06_size (isFrame : Bool) (ncols rows : Nat) (hs : isFrame = false → ncols = 1) :
    (sizeRule isFrame ncols).1 * rows = ncols * rows := by
  unfold sizeRule
  cases isFrame with
  | true =>
    by_cases h1 : ncols = 1
    · subst h1; simp
    · simp [h1]
  | false => have := hs rfl; subst this; simp

example : (sizeRule true 0).1 * 6 = 0 ∧ (sizeRule true 3).1 * 6 = 18 ∧ (sizeRule false 1).1 * 6 = 6 := by decide

/-- `Len` does not look through a node that computes a selection of its partitions (D108) -/
theorem C06_len_selected_frame_kept (cls : String) (lp childlp : Bool) (deps : List Nat) (c0 : Bool) (ndim ncols : Nat)
    (a : LenAction) (h : lenRule cls lp childlp deps c0 ndim ncols true true = a) :
    a ≠ .childOfIndex ∧ ∀ i, a ≠ .dep i := by
  -- with both selection flags set the first two branches of `lenRule` are closed
  have : a = .keep ∨ a = .sumOfDeps ∨ a = .index ∨ a = .none := by
    subst h
    unfold lenRule
    simp only [not_true_eq_false, and_false, if_false]
    by_cases h1 : cls = "IO"
    · rw [if_pos h1]; exact Or.inl rfl
    · rw [if_neg h1]
      by_cases h2 : cls = "Concat" ∧ c0 = true
      · rw [if_pos h2]; exact Or.inr (Or.inl rfl)
      · rw [if_neg h2]
        by_cases h3 : ndim = 2 ∧ ncols > 0
        · rw [if_pos h3]; exact Or.inr (Or.inr (Or.inl rfl))
        · rw [if_neg h3]; exact Or.inr (Or.inr (Or.inr rfl))
  rcases this with rfl | rfl | rfl | rfl <;> exact ⟨nofun, fun _ => nofun⟩

/-- **FromPandas._get_lengths** (full since D62): unfiltered — the partition sizes; filtered by ANY valid
    `_partitions` (any order, repeats) — the sizes of the selected partitions, in the order of the selection. -/
theorem C06_len_frompandas (locs : List Nat) (P : List Nat) (hP : ∀ p ∈ P, p < locs.length - 1) :
    fpLengths locs none = some (fpTrueLengths locs none) ∧
    fpLengths locs (some P) = some (fpTrueLengths locs (some P)) := by
  refine ⟨rfl, ?_⟩
  simp only [fpLengths, fpTrueLengths]
  rw [pick_valid (allLengths locs) P (by rwa [allLengths_length])]
  exact congrArg some (List.map_congr_left (fun p hp => allLengths_getD locs (hP p hp)))

example : fpLengths [0, 4, 7, 10] (some [0, 0]) = some [4, 4] ∧ fpLengths [0, 4, 7, 10] (some [2, 0]) = some [3, 4] ∧
    fpLengths [0, 4, 7, 10] (some [3]) = none := by decide

/-- **parquet `_get_lengths`** (full since D63), both readers: for ANY valid `_partitions` the lengths of the
    selected partitions in the order of the selection (the statistics are taken as given). -/
theorem C06_len_parquet (stats : List Nat) (P : List Nat) (hP : ∀ p ∈ P, p < stats.length) :
    pqLengths stats (some P) = some (trueLengths stats (some P)) ∧
    pqLengthsArrow stats (some P) = some (trueLengths stats (some P)) ∧
    pqLengths stats none = some stats ∧ pqLengthsArrow stats none = some stats :=
  ⟨pqLengths_valid stats P hP, by simp [pqLengthsArrow, trueLengths, pick_valid stats P hP], rfl, rfl⟩

example : pqLengths [3, 4, 3, 3, 4, 3] (some [1, 2]) = some [4, 3] ∧ pqLengths [3, 4, 3, 3, 4, 3] (some [5, 0, 0]) = some [3, 3, 3] ∧
    pqLengthsArrow [3, 4, 3, 3, 4, 3] (some [2, 1]) = some [3, 4] := by decide

/-
  FULL STATEMENT (false for the code as it is): `Len(op(args)) = Len(child)` for the child
  `max(op.dependencies(), key=npartitions)` of every length-preserving `op`.
-/
/-- proven: the child the rule picks is the FIRST dependency with the most partitions; the rewrite is sound when
    that dependency is row-aligned with the result (same number of rows in every partition). -/
theorem C06_len_elemwise_partial (deps : List Nat) (i : Nat) (h : argmaxFirst deps = some i) :
    i < deps.length ∧ (∀ j, j < deps.length → deps.getD j 0 ≤ deps.getD i 0) ∧ (∀ j, j < i → deps.getD j 0 < deps.getD i 0) := by
  induction deps generalizing i with
  | nil => cases h
  | cons x t ih =>
    unfold argmaxFirst at h
    cases ht : argmaxFirst t with
    | none =>
      cases argmaxFirst_eq_none ht
      rw [ht] at h
      cases h
      exact ⟨Nat.one_pos, fun j hj => by cases Nat.lt_one_iff.mp hj; exact Nat.le_refl _,
        fun j hj => absurd hj (Nat.not_lt_zero j)⟩
    | some k =>
      -- `k` is the first maximum of the tail; the head wins unless it is strictly smaller
      have ⟨hk, hmax, hfirst⟩ := ih k ht
      rw [ht] at h
      replace h : (if t.getD k 0 > x then some (k + 1) else some 0) = some i := h
      by_cases hgt : t.getD k 0 > x
      · rw [if_pos hgt] at h
        cases h
        refine ⟨Nat.succ_lt_succ hk, fun j hj => ?_, fun j hj => ?_⟩
        · cases j with
          | zero => exact Nat.le_of_lt hgt
          | succ j => exact hmax j (Nat.lt_of_succ_lt_succ hj)
        · cases j with
          | zero => exact hgt
          | succ j => exact hfirst j (Nat.lt_of_succ_lt_succ hj)
      · rw [if_neg hgt] at h
        cases h
        refine ⟨Nat.succ_pos _, fun j hj => ?_, fun j hj => absurd hj (Nat.not_lt_zero j)⟩
        cases j with
        | zero => exact Nat.le_refl _
        | succ j => exact Nat.le_trans (hmax j (Nat.lt_of_succ_lt_succ hj)) (Nat.le_of_not_lt hgt)

/-- (findings) (a) all operands of a single-partition frame tie: `len(s.max() - s)` picks the scalar
    (`Len` of a scalar raises); (b) for `x[x.a > 4] + y[y.v < 9]` the rule answers `Len` of the first filtered
    operand although the sum has the union of both index sets. -/
theorem C06_len_elemwise_counterexample :
    lenRule "other" true false [1, 1] false 1 0 = .dep 0 ∧ lenRule "other" true false [3, 3] false 1 0 = .dep 0 := by decide

end Dx

/-
  Props/C16.lean — collections survive serialization to another process.
  Model: DxModel/Pickle.lean; lemmas: Lemmas/Pickle.lean, Lemmas/Cache.lean; tables: Generated/CacheSites.lean.
-/
import DxModel.Lemmas.Pickle
import DxModel.Lemmas.Cache
import DxModel.Lemmas.Names
import DxModel.Generated.CacheSites
namespace Dx
open Pickle Names Cache

/-- `pickle.loads(pickle.dumps(e))` in a fresh process rebuilds exactly the tree `e` — every node with its
    class and operands, nested lists of expressions (`Fused.exprs`) included — except that every
    `_BackendData` wrapper arrives with an empty `_division_info` cache (structural induction, all trees). -/
theorem C16_roundtrip (e : PE) : reconstruct (reduce e) = .sub (cold e) := roundtripE e

/-- the same for a collection (`FrameBase.__reduce__ = (new_collection, (expr,))`) and for any operand -/
theorem C16_roundtrip_collection (e : PE) : reconstruct (reduceColl e) = .sub (cold e) := by
  simp only [reduceColl, reconstruct, roundtripE]

theorem C16_roundtrip_operand (o : POp) : reconstruct (reduceO o) = coldO o := roundtripO o

/-- if no wrapper had a warm cache the round trip is the identity -/
theorem C16_roundtrip_cold (e : PE) (h : ColdE e) : reconstruct (reduce e) = .sub e := by
  rw [roundtripE, cold_idE e h]

/-- The reconstructed expression has the *same name* (names ignore per-object caches: `_BackendData` is
    tokenized through its data), for every naming scheme. -/
theorem C16_same_name {τ : Type} (S : Scheme Nat τ) (e : PE) : nameOf S (toE (cold e)) = nameOf S (toE e) := by
  rw [toE_cold]

/-- Observables.  A method that obtains its value purely from operands, or through get-or-compute on a
    process-global cache, returns `f key` in *every* process state satisfying the cache invariant — in
    particular the same value in the originating process (warm caches) and in a fresh one (empty caches). -/
theorem C16_observables {κ ν : Type} [DecidableEq κ] (f : κ → Option ν) {cap : Nat} (hcap : 0 < cap)
    (d : Discipline) (hd : d ≠ .assertHit) (warm : LRU κ ν) (hw : Inv f warm) (k : κ) :
    (observe d cap f warm k).1 = (observe d cap f ([] : LRU κ ν) k).1 := by
  rw [(observe_spec hcap d hd hw k).1, (observe_spec hcap d hd (inv_nil f) k).1]

/-- … whereas an assert-on-miss read fails in the fresh process although it succeeded at home (D10) -/
theorem C16_assert_on_miss_fails_elsewhere :
    ∃ (f : Nat → Option Nat) (warm : LRU Nat Nat) (k : Nat), Inv f warm ∧
      (observe .assertHit 10 f warm k).1 = some 5 ∧ (observe .assertHit 10 f ([] : LRU Nat Nat) k).1 = none :=
  ⟨fun _ => some 5, [(0, 5)], 0, by intro p hp; simp at hp; subst hp; rfl, by decide +kernel, by decide +kernel⟩

/-! ### table obligation: which observables of which classes read process-global state, and how -/

/-- discipline of a scanned site (an unreachable read does not count) -/
def siteDiscipline (s : Site) : Discipline :=
  if !s.reads || s.unreachable then .pure else if s.guarded then .recompute else .assertHit

/-- Every observable of every expression class that touches process-global state computes from operands or
    recomputes on a miss: no reachable assert-on-miss read is left (D10 was the one exception until /repo 53e3171;
    its branch is now unreachable because every `_SetIndexPost(…)` call carries the divisions as an operand). -/
theorem C16_observables_table :
    ∀ s ∈ Generated.cacheSites, s.observable = true → siteDiscipline s ≠ .assertHit := by decide +kernel

/-! ### non-vacuity -/

/-- a fused plan over a source frame with a warm cache: `Fused([Add(FromPandas(data 7, …), 1)], FromPandas …)` -/
def demoTree : PE :=
  .node 3 [.seq [.sub (.node 1 [.sub (.node 0 [.backend 7 [(2, 9)], .lit 4]), .lit 1])],
           .sub (.node 0 [.backend 7 [(2, 9)], .lit 4])]

example : reconstruct (reduce demoTree) =
    .sub (.node 3 [.seq [.sub (.node 1 [.sub (.node 0 [.backend 7 [], .lit 4]), .lit 1])],
                   .sub (.node 0 [.backend 7 [], .lit 4])]) := by
  rw [C16_roundtrip]; rfl

example : ¬ ColdE demoTree := by simp [demoTree, ColdE, ColdOps, ColdO]
example : ColdE (cold demoTree) := by simp [demoTree, cold, coldOps, coldO, ColdE, ColdOps, ColdO]

/-- a warm cache satisfying the invariant, used through get-or-compute -/
example : (observe .recompute 10 (fun k => some (k + 1)) ([(3, 4)] : LRU Nat Nat) 3).1
    = (observe .recompute 10 (fun k => some (k + 1)) ([] : LRU Nat Nat) 3).1 := by decide +kernel

end Dx

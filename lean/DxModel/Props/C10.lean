/-
  Props/C10.lean — C10: the execution knobs (`split_every`, shuffle method and `max_branch`, join strategy,
  partition count of sort / set_index, `split_out`) change the layout of the result, not its rows: for each knob
  all alternatives equal one specification, up to the order of rows.  The thresholds that choose between the
  alternatives are not modelled; the theorems hold for every outcome.
-/
import DxModel.Props.C02
import DxModel.Lemmas.Knobs
namespace Dx

section
open Tree

/-- `split_every` does not change the value of a tree reduction whose combine/aggregate obey `HomLaw`:
    both bounds give the aggregate of the whole list. -/
theorem C10_split_every_value {α β} (comb : List α → α) (agg : List α → β) (h : HomLaw comb agg)
    (se₁ se₂ : Option Nat) (h₁ : ∀ k, se₁ = some k → 1 ≤ k) (h₂ : ∀ k, se₂ = some k → 1 ≤ k) (xs : List α) :
    treeEval comb agg se₁ xs = treeEval comb agg se₂ xs := by
  rw [C02_tree_value comb agg h se₁ h₁, C02_tree_value comb agg h se₂ h₂]

/-- Two `TreeReduce` layers over the same chunks that differ only in `split_every` (each `False` or
    ≥ 2) evaluate to the same value — whatever the tree depth. -/
theorem C10_split_every (I : Interp) (p₁ p₂ : Params) (hn : p₁.n = p₂.n) (hkw : p₁.kwargs = p₂.kwargs)
    (hse₁ : ∀ k, p₁.splitEvery = some k → 2 ≤ k) (hse₂ : ∀ k, p₂.splitEvery = some k → 2 ≤ k)
    (h : HomLaw (I (combFn p₁)) (I aggFn)) (vals : Nat → V) (F : Nat) (hF : p₁.n + 2 ≤ F) :
    run I (layer p₁) (inputs vals) F .out = run I (layer p₂) (inputs vals) F .out := by
  obtain ⟨n₂, se₂, kw₂⟩ := p₂
  subst hn hkw
  rw [C02_tree I p₁ hse₁ h vals F hF, C02_tree I _ hse₂ h vals F hF]

open C02Ex in
example : run ISum (layer ⟨5, some 2, false⟩) (inputs (fun i => chunkSum (parts5 i))) 7 .out =
    run ISum (layer ⟨5, none, false⟩) (inputs (fun i => chunkSum (parts5 i))) 7 .out :=
  C10_split_every ISum ⟨5, some 2, false⟩ ⟨5, none, false⟩ rfl rfl (by intro k h; cases h; decide)
    (by intro k h; cases h) (ISum_hom _) _ 7 (by decide)

example : treeEval List.sum List.sum (some 2) [1, 2, 3, 4, 5, 6, 7] = treeEval List.sum List.sum (some 3) [1, 2, 3, 4, 5, 6, 7] := by
  decide +kernel
end

section
open Shuffle

/-- The three shuffle implementations — and the staged one for every `max_branch`, stage count and
    fan-out satisfying the arithmetic hypothesis — put the same rows into output partition `j`. -/
theorem C10_shuffle_method_branch (I : Interp) (p ps : Params) (rows : Nat → List Row)
    (hnin : ps.nin = p.nin) (hnout : ps.nout = p.nout) (hparts : ps.parts = p.parts)
    (harith : stageArithOK ps.nin ps.stages ps.nsplits = true) (hpos : 0 < p.nin)
    (hp : ∀ o ∈ p.parts, o < p.nout) (hrows : ∀ i, ∀ r ∈ rows i, r.tgt < p.nout)
    (j : Nat) (hj : j < p.parts.length) (fuel : Nat) (hfuel : 3 * ps.stages + 3 ≤ fuel) :
    ∃ l₁ l₂ l₃,
      run I (simpleTask p) (inputs rows) 3 (.out .self j) = .frame l₁ ∧
      run I (stagedTask ps) (inputs rows) fuel (.out .self j) = .frame l₂ ∧
      run I (diskTask p) (inputs rows) 3 (.out .self j) = .frame l₃ ∧
      l₂.Perm l₁ ∧ l₃ = l₁ := by
  -- `ps` agrees with `p` in all that `sem` and the hypotheses of `C12_staged` read
  obtain ⟨nin, nout, parts, _, _, _, stages, nsplits⟩ := ps
  subst hnin hnout hparts
  obtain ⟨l₂, e₂, perm₂⟩ := C12_staged I _ rows harith hpos hp hrows j hj fuel hfuel
  exact ⟨_, l₂, _, C12_simple I p rows j hj hp hrows, e₂, C12_disk I p rows j hj 3 (Nat.le_refl 3), perm₂, rfl⟩

open C12Ex in
example : ∃ l₁ l₂ l₃,
      run I0 (simpleTask pEq) (inputs (rowsMod 5)) 3 (.out .self 1) = .frame l₁ ∧
      run I0 (stagedTask pEq) (inputs (rowsMod 5)) 12 (.out .self 1) = .frame l₂ ∧
      run I0 (diskTask pEq) (inputs (rowsMod 5)) 3 (.out .self 1) = .frame l₃ ∧
      l₂.Perm l₁ ∧ l₃ = l₁ :=
  C10_shuffle_method_branch I0 pEq pEq (rowsMod 5) rfl rfl rfl (by decide) (by decide) (by decide)
    (rowsMod_lt 5 (by decide)) 1 (by decide) 12 (by decide)
end

/-! ## join strategy: the plans `Merge._lower` chooses between (Layers/KnobJoin.lean) -/
section Join
open Shuffle GJ KJ

/-- Hash join (two `RearrangeByColumn` to `n` partitions + `BlockwiseMerge`; `HashJoinP2P` produces the
    same buckets): for every `how`, every `n ≥ 1` (the `npartitions` hint or `max(nl, nr)`) and every hash
    function, the partition-wise `merge_chunk` results are a permutation of the join of the whole frames. -/
theorem C10_join_hash_spec {κ} [DecidableEq κ] (how : How) (kL kR : Row → κ) (h : κ → Nat) (n : Nat)
    (hn : 0 < n) (L R : List Row) :
    (hashPlan how kL kR h n L R).Perm (joinSpec how kL kR L R) :=
  joinSpec_split how kL kR (fun k => h k % n) n (fun _ => Nat.mod_lt _ hn) L R

/-- …stated on the output partitions of the two shuffles (C12's `sem`), for ANY partitioning of both
    inputs (`rows₁`, `rows₂`, `nin` arbitrary, empty partitions included). -/
theorem C10_join_hash_partitioned {κ} [DecidableEq κ] (how : How) (p₁ p₂ : Shuffle.Params)
    (rows₁ rows₂ : Nat → List Row) (kL kR : Row → κ) (h : κ → Nat) (hn : p₁.nout = p₂.nout) (hpos : 0 < p₁.nout)
    (ha₁ : ∀ i, ∀ r ∈ rows₁ i, r.tgt = h (kL r) % p₁.nout)
    (ha₂ : ∀ i, ∀ r ∈ rows₂ i, r.tgt = h (kR r) % p₂.nout) :
    ((List.range p₁.nout).flatMap (fun o => joinSpec how kL kR (sem p₁ rows₁ o) (sem p₂ rows₂ o))).Perm
      (joinSpec how kL kR (allRows p₁.nin rows₁) (allRows p₂.nin rows₂)) := by
  refine List.Perm.trans (List.Perm.of_eq (flatMap_congr' _ _ _ fun o _ => ?_))
    (C10_join_hash_spec how kL kR h p₁.nout hpos _ _)
  rw [sem_assigned p₁ rows₁ _ ha₁, sem_assigned p₂ rows₂ _ ha₂, ← hn]
  rfl

/-- …and through the two real SimpleShuffle graphs (`C12_simple`): `merge_chunk` of the evaluated output
    partitions `o` of both shuffles, concatenated over `o`. -/
theorem C10_join_hash_run {κ} [DecidableEq κ] (how : How) (I : Interp) (p₁ p₂ : Shuffle.Params)
    (rows₁ rows₂ : Nat → List Row) (kL kR : Row → κ) (h : κ → Nat) (hn : p₁.nout = p₂.nout) (hpos : 0 < p₁.nout)
    (ha₁ : ∀ i, ∀ r ∈ rows₁ i, r.tgt = h (kL r) % p₁.nout)
    (ha₂ : ∀ i, ∀ r ∈ rows₂ i, r.tgt = h (kR r) % p₂.nout)
    (hp₁ : p₁.parts = List.range p₁.nout) (hp₂ : p₂.parts = List.range p₂.nout) :
    ((List.range p₁.nout).flatMap (fun o =>
        match run I (simpleTask p₁) (inputs rows₁) 3 (.out .self o), run I (simpleTask p₂) (inputs rows₂) 3 (.out .self o) with
        | .frame a, .frame b => joinSpec how kL kR a b
        | _, _ => [])).Perm
      (joinSpec how kL kR (allRows p₁.nin rows₁) (allRows p₂.nin rows₂)) := by
  refine List.Perm.trans (List.Perm.of_eq (flatMap_congr' _ _ _ fun o ho => ?_))
    (C10_join_hash_partitioned how p₁ p₂ rows₁ rows₂ kL kR h hn hpos ha₁ ha₂)
  have ho₁ := List.mem_range.mp ho
  rw [run_simple_all I p₁ rows₁ hp₁ (fun i r hr => ha₁ i r hr ▸ Nat.mod_lt _ hpos) o ho₁,
    run_simple_all I p₂ rows₂ hp₂ (fun i r hr => ha₂ i r hr ▸ Nat.mod_lt _ (hn ▸ hpos)) o (hn ▸ ho₁)]

/-- the join of the whole frames with the sides in left/right order (the same term as `mergePiece`) -/
abbrev specFor {κ} [DecidableEq κ] (how : How) (side : Side) (kL kR : Row → κ) (other B : List Row) : List JRow :=
  match side with
  | .right => joinSpec how kL kR other B
  | .left => joinSpec how kL kR B other

/-- BroadcastJoin: for the allowed `how × broadcast side` pairs, ANY partitioning of the other side
    (`nother` partitions — after the optional `Repartition` to the `npartitions` hint), any number
    `m ≥ 1` of partitions of the broadcast side:
      * `inner`: the broadcast side in ANY partitioning (`B` = its concatenation);
      * otherwise its partition `j` holds a permutation of hash bucket `j` of `B` (what
        `RearrangeByColumn(npartitions_out = m)` delivers by C12) and the other side's partitions are
        split by the same hash.
    The concatenated output is a permutation of the join of the whole frames. -/
theorem C10_join_broadcast_spec {κ} [DecidableEq κ] (how : How) (side : Side) (hallow : allowed how side = true)
    (kL kR : Row → κ) (h : κ → Nat) (nother m : Nat) (hm : 0 < m) (other bc : Nat → List Row) (B : List Row)
    (hB : if how = .inner then B = catRows m bc
          else ∀ j, j < m → (bc j).Perm (bucket h (bcastKey side kL kR) m j B)) :
    (bcastPlan how side kL kR h nother m other bc).Perm (specFor how side kL kR (catRows nother other) B) := by
  unfold bcastPlan
  exact (perm_flatMap_congr _ _ _ (fun i _ => bcastPart_spec how side hallow kL kR h m hm bc B hB (other i))).trans
    (mergePiece_concat_other how side hallow kL kR nother other B)

/-- Single-partition broadcast (`_is_single_partition_broadcast` → `BlockwiseMerge` whose one-partition
    operand is a broadcast dependency): every partition of the other side is merged with the whole
    one-partition side, no hashing at all. -/
theorem C10_join_single_spec {κ} [DecidableEq κ] (how : How) (side : Side) (hallow : allowed how side = true)
    (kL kR : Row → κ) (n : Nat) (other : Nat → List Row) (B : List Row) :
    ((List.range n).flatMap (fun i => specFor how side kL kR (other i) B)).Perm
      (specFor how side kL kR (catRows n other) B) :=
  mergePiece_concat_other how side hallow kL kR n other B

/-- The same through the transliterated `BroadcastJoin._layer` (no partition selection): task
    `(name, i)` evaluates to `bcastPart` of partition `i`, and the concatenation of all output partitions
    is a permutation of the join of the whole frames (`mk` turns a matched pair into a result row). -/
theorem C10_join_broadcast_run {κ : Type} [DecidableEq κ] (p : KJ.Params) (hallow : allowed p.how p.side = true)
    (kL kR : Row → κ) (h : κ → Nat) (mk : JRow → Row) (nother : Nat) (hparts : p.parts = List.range nother)
    (hm : 0 < p.bsize) (other bc : Nat → List Row) (B : List Row)
    (hB : if p.how = .inner then B = catRows p.bsize bc
          else ∀ j, j < p.bsize → (bc j).Perm (bucket h (bcastKey p.side kL kR) p.bsize j B))
    (F : Nat) (hF : 3 ≤ F) :
    ∃ l, concatV ((List.range nother).map (fun i =>
          run (KJ.interp p kL kR h mk) (KJ.layer p) (KJ.inputs other bc) F (.out i))) = .frame l ∧
      l.Perm ((specFor p.how p.side kL kR (catRows nother other) B).map mk) := by
  refine ⟨_, concatV_map_frames (List.range nother) _ _
    (fun i hi => bj_run_out p kL kR h mk other bc i (hparts ▸ hi) F hF), ?_⟩
  rw [← List.map_flatMap]
  exact (C10_join_broadcast_spec p.how p.side hallow kL kR h nother p.bsize hm other bc B hB).map mk

theorem C10_join_broadcast_wf (p : KJ.Params) (other bc : Nat → List Row) :
    Closed (KJ.layer p) (KJ.inputs other bc) ∧ Ranked (KJ.layer p) bjRank :=
  have h := bj_stratified' p (KJ.inputs other bc) (fun _ _ => rfl) (fun _ _ => rfl)
  ⟨h.closed, h.ranked⟩

/-- Join strategy is a performance knob: for an allowed pair the hash plan (any `n`) and the broadcast
    plan (any `nother`, `m`, any partitioning) are permutations of each other — whatever the thresholds
    `n_low < log2(n_high) * bias`, `broadcast=True/False/float`, the `npartitions` hint decide. -/
theorem C10_join_strategy {κ} [DecidableEq κ] (how : How) (side : Side) (hallow : allowed how side = true)
    (kL kR : Row → κ) (h h' : κ → Nat) (n nother m : Nat) (hn : 0 < n) (hm : 0 < m)
    (other bc : Nat → List Row) (B : List Row)
    (hB : if how = .inner then B = catRows m bc
          else ∀ j, j < m → (bc j).Perm (bucket h (bcastKey side kL kR) m j B)) :
    (bcastPlan how side kL kR h nother m other bc).Perm
      (match side with
       | .right => hashPlan how kL kR h' n (catRows nother other) B
       | .left => hashPlan how kL kR h' n B (catRows nother other)) := by
  have hb := C10_join_broadcast_spec how side hallow kL kR h nother m hm other bc B hB
  cases side
  · exact hb.trans (C10_join_hash_spec how kL kR h' n hn B (catRows nother other)).symm
  · exact hb.trans (C10_join_hash_spec how kL kR h' n hn (catRows nother other) B).symm

namespace C10Ex
def kp (r : Row) : Nat := r.pay
def row (k : Nat) (i : Int) : Row := ⟨i, 0, k⟩
/-- the replicated side: one matched key (1) and one unmatched key (7), a single partition -/
def wB : List Row := [row 1 0, row 7 1]
/-- the other side: key 1 occurs in both partitions -/
def wOther (i : Nat) : List Row := match i with | 0 => [row 1 10] | 1 => [row 1 11, row 2 12] | _ => []
/-- large side for the positive examples: 3 partitions, one empty -/
def big (i : Nat) : List Row := match i with | 0 => [row 1 0, row 2 1] | 2 => [row 3 2, row 1 3, row 9 4] | _ => []
/-- small side in 2 arbitrary partitions / hash-bucketed into 2 partitions (h = id) -/
def small (j : Nat) : List Row := match j with | 0 => [row 1 20, row 4 21] | 1 => [row 2 22, row 1 23] | _ => []
def smallB (j : Nat) : List Row := bucket id kp 2 j (catRows 2 small)
def mkRow (jr : JRow) : Row :=
  ⟨0, 0, (match jr.1 with | some l => l.pay + 1 | none => 0) * 100 + (match jr.2 with | some r => r.pay + 1 | none => 0)⟩
end C10Ex
open C10Ex

example : (hashPlan .outer kp kp id 3 (catRows 3 big) (catRows 2 small)).Perm
    (joinSpec .outer kp kp (catRows 3 big) (catRows 2 small)) :=
  C10_join_hash_spec .outer kp kp id 3 (by decide) _ _
example : (joinSpec .outer kp kp (catRows 3 big) (catRows 2 small)).length = 8 := by decide +kernel

open C02Ex in
example : ((List.range 7).flatMap (fun o =>
      match run C12Ex.I0 (simpleTask C12Ex.pNeAll) (inputs jrows₁) 3 (.out .self o),
            run C12Ex.I0 (simpleTask C12Ex.pNeAll) (inputs jrows₂) 3 (.out .self o) with
      | .frame a, .frame b => joinSpec .outer (fun r => r.pay) (fun r => r.pay) a b
      | _, _ => [])).Perm
    (joinSpec .outer (fun r => r.pay) (fun r => r.pay) (allRows 3 jrows₁) (allRows 3 jrows₂)) :=
  C10_join_hash_run .outer C12Ex.I0 C12Ex.pNeAll C12Ex.pNeAll jrows₁ jrows₂ (fun r => r.pay) (fun r => r.pay)
    (fun k => 3 * k) rfl (by decide)
    (by
      intro i r hr
      simp only [jrows₁, List.mem_cons, List.not_mem_nil, or_false] at hr
      rcases hr with rfl | rfl <;> rfl)
    (by
      intro i r hr
      simp only [jrows₂, List.mem_singleton] at hr
      subst hr; rfl) (by decide) (by decide)

example : (bcastPlan .inner .right kp kp id 3 2 big small).Perm
    (joinSpec .inner kp kp (catRows 3 big) (catRows 2 small)) :=
  C10_join_broadcast_spec .inner .right rfl kp kp id 3 2 (by decide) big small _ rfl
example : (bcastPlan .left .right kp kp id 3 2 big smallB).Perm
    (joinSpec .left kp kp (catRows 3 big) (catRows 2 small)) :=
  C10_join_broadcast_spec .left .right rfl kp kp id 3 2 (by decide) big smallB (catRows 2 small)
    (fun _ _ => List.Perm.refl _)
example : (bcastPlan .right .left kp kp id 3 2 big smallB).Perm
    (joinSpec .right kp kp (catRows 2 small) (catRows 3 big)) :=
  C10_join_broadcast_spec .right .left rfl kp kp id 3 2 (by decide) big smallB (catRows 2 small)
    (fun _ _ => List.Perm.refl _)
example : (joinSpec .left kp kp (catRows 3 big) (catRows 2 small)).length = 7 ∧
    (bcastPlan .left .right kp kp id 3 2 big smallB).length = 7 := by decide +kernel
example : (bcastPlan .left .right kp kp id 3 2 big smallB).Perm
    (hashPlan .left kp kp (fun k => 3 * k) 5 (catRows 3 big) (catRows 2 small)) :=
  C10_join_strategy .left .right rfl kp kp id _ 5 3 2 (by decide) (by decide) big smallB (catRows 2 small)
    (fun _ _ => List.Perm.refl _)
example : ((List.range 3).flatMap (fun i => specFor .leftsemi .right kp kp (big i) (catRows 2 small))).Perm
    (joinSpec .leftsemi kp kp (catRows 3 big) (catRows 2 small)) :=
  C10_join_single_spec .leftsemi .right rfl kp kp 3 big _

/-- the graph of a left join broadcasting the (bucketed) right side, evaluated: 7 result rows -/
example : ∃ l, concatV ((List.range 3).map (fun i =>
      run (KJ.interp ⟨.left, .right, [0, 1, 2], 2⟩ kp kp id mkRow) (KJ.layer ⟨.left, .right, [0, 1, 2], 2⟩)
        (KJ.inputs big smallB) 3 (.out i))) = .frame l ∧
    l.Perm ((joinSpec .left kp kp (catRows 3 big) (catRows 2 small)).map mkRow) :=
  C10_join_broadcast_run ⟨.left, .right, [0, 1, 2], 2⟩ rfl kp kp id mkRow 3 rfl (by decide) big smallB
    (catRows 2 small) (fun _ _ => List.Perm.refl _) 3 (by decide)
example : run (KJ.interp ⟨.left, .right, [0, 1, 2], 2⟩ kp kp id mkRow) (KJ.layer ⟨.left, .right, [0, 1, 2], 2⟩)
    (KJ.inputs big smallB) 3 (.out 0) = .frame [⟨0, 0, 303⟩, ⟨0, 0, 202⟩, ⟨0, 0, 202⟩] := by decide +kernel

/-- Every `how × side` pair outside `allowed` is WRONG: replicating that side changes the result (here
    with one broadcast partition, two partitions on the other side; the hypothesis on the broadcast
    side's layout holds).  E.g. broadcasting the left side of a left join repeats its unmatched rows
    once per partition of the right side. -/
theorem C10_join_not_allowed_wrong (how : How) (side : Side) (hna : allowed how side = false) :
    (if how = .inner then wB = catRows 1 (fun _ => wB)
      else ∀ j, j < 1 → ((fun _ => wB) j).Perm (bucket id (bcastKey side kp kp) 1 j wB)) ∧
    (bcastPlan how side kp kp id 2 1 wOther (fun _ => wB)).length ≠
      (specFor how side kp kp (catRows 2 wOther) wB).length :=
  ⟨by
      split
      · rfl
      · intro j hj
        rw [Nat.lt_one_iff.mp hj, bucket_one],
    match how, side, hna with
    | .left, .left, _ => by decide +kernel
    | .right, .right, _ => by decide +kernel
    | .outer, .left, _ => by decide +kernel
    | .outer, .right, _ => by decide +kernel
    | .leftsemi, .left, _ => by decide +kernel⟩

example : (bcastPlan .left .left kp kp id 2 1 wOther (fun _ => wB)).length = 4 ∧
    (joinSpec .left kp kp wB (catRows 2 wOther)).length = 3 := by decide +kernel

theorem max_eq_one (nl nr : Nat) (hl : 1 ≤ nl) (hr : 1 ≤ nr) : (Nat.max nl nr == 1) = (nl == 1 && nr == 1) := by
  rw [Bool.eq_iff_iff, Bool.and_eq_true, beq_iff_eq, beq_iff_eq, beq_iff_eq]
  constructor
  · intro h
    exact ⟨Nat.le_antisymm (h ▸ Nat.le_max_left nl nr) hl, Nat.le_antisymm (h ▸ Nat.le_max_right nl nr) hr⟩
  · rintro ⟨rfl, rfl⟩
    rfl

/-- `_is_single_partition_broadcast` tests exactly that the single-partition plan is legal. -/
theorem isSingle_eq_legal (x : LowerIn) (hl : 1 ≤ x.nl) (hr : 1 ≤ x.nr) :
    isSingle x = planLegal x.how x.nl x.nr .single := by
  rw [isSingle, planLegal, max_eq_one _ _ hl hr]
  -- its two lists of join kinds are `allowed · .left` and `allowed · .right`
  cases x.how <;> rfl

/-- The three tests of `is_broadcast_join` that look at `how` and the broadcast side (the list of join
    kinds, `how != broadcast_side`, the (leftsemi, left) exclusion) say together that the pair is `allowed`. -/
theorem bcastTests_eq_allowed (how : How) (side : Side) :
    ((how == .inner || how == .left || how == .right || how == .leftsemi) && !(howName how side) &&
      !(how == .leftsemi && side == .left)) = allowed how side := by
  cases how <;> cases side <;> decide +kernel

theorem isBroadcast_eq (x : LowerIn) :
    isBroadcast x = ((x.method == .tasks || x.method == .p2p) && allowed x.how (broadcastSide x)
      && x.bcast != .no && (x.bcast == .yes || x.thr)) := by
  rw [isBroadcast, ← bcastTests_eq_allowed]
  simp only [Bool.and_assoc]

/-- The decisions of `Merge._lower` (`_is_single_partition_broadcast`, `is_broadcast_join`,
    `broadcast_side`, the `npartitions` hint), for BOTH outcomes of the float threshold test, every
    `broadcast` knob value, every shuffle method and all partition counts, only ever choose a plan that is
    legal for `how`: a single-partition broadcast or BroadcastJoin of an `allowed` side (hash-shuffled
    unless `inner`), or a hash join into ≥ 1 partitions. -/
theorem C10_join_lower_legal (x : LowerIn) (hl : 1 ≤ x.nl) (hr : 1 ≤ x.nr)
    (hh : ∀ n, x.hint = some n → 1 ≤ n) :
    planLegal x.how x.nl x.nr (lowerPlan x) = true := by
  rw [lowerPlan]
  by_cases hs : isSingle x = true
  · rw [if_pos hs, ← isSingle_eq_legal x hl hr, hs]
  · rw [if_neg hs]
    by_cases hb : isBroadcast x = true
    · rw [if_pos hb]
      simp only [isBroadcast_eq, Bool.and_eq_true] at hb
      -- the broadcast side is `shuffled` exactly when `how != inner`
      exact Bool.and_eq_true_iff.mpr ⟨hb.1.1.2, Bool.not_or_self _⟩
    · rw [if_neg hb]
      refine decide_eq_true ?_
      unfold KJ.npartitions
      split
      · exact hh _ ‹_›
      · exact Nat.le_trans hl (Nat.le_max_left _ _)

example : lowerPlan ⟨.left, 40, 2, .yes, .tasks, some 6, false⟩ = .broadcast .right 6 2 true ∧
    lowerPlan ⟨.left, 2, 40, .yes, .tasks, none, true⟩ = .hash 40 false ∧
    lowerPlan ⟨.inner, 2, 40, .none, .tasks, none, true⟩ = .broadcast .left 40 2 false ∧
    lowerPlan ⟨.inner, 2, 40, .none, .tasks, none, false⟩ = .hash 40 false ∧
    lowerPlan ⟨.right, 1, 4, .no, .disk, some 6, false⟩ = .single := by decide +kernel
example : planLegal .left 40 2 (lowerPlan ⟨.left, 40, 2, .yes, .tasks, some 6, false⟩) = true :=
  C10_join_lower_legal ⟨.left, 40, 2, .yes, .tasks, some 6, false⟩ (by decide) (by decide)
    (by intro n h; cases h; decide)

/-- Why `is_broadcast_join` has to exclude (leftsemi, left) explicitly (D87, `fix:` 14bac10 — the test
    `how != broadcast_side` alone compares the strings "leftsemi" and "left", so a leftsemi join with 1
    left and 8 right partitions would broadcast its LEFT side): that plan returns a left row once per
    right partition holding its key.  With the exclusion the decision picks the hash join for that input. -/
theorem C10_join_lower_leftsemi_counterexample :
    (bcastPlan .leftsemi .left kp kp id 2 1 wOther (fun _ => wB)).length = 2 ∧
    (joinSpec .leftsemi kp kp wB (catRows 2 wOther)).length = 1 ∧
    planLegal .leftsemi 1 8 (.broadcast .left 8 1 true) = false ∧
    lowerPlan ⟨.leftsemi, 1, 8, .none, .tasks, none, true⟩ = .hash 8 false ∧
    lowerPlan ⟨.leftsemi, 2, 4, .yes, .tasks, none, false⟩ = .hash 4 false ∧
    lowerPlan ⟨.leftsemi, 4, 2, .yes, .tasks, none, false⟩ = .broadcast .right 4 2 true := by decide +kernel

end Join

/-! ## sort / set_index: the divisions only influence the layout (Layers/KnobSort.lean) -/
section SortSec
open Shuffle KS

/-- For ANY divisions vector with at least two entries (any `npartitions`, any `upsample`, sorted or
    not, covering the data or not) and any permutation-preserving per-partition sort, the pipeline
    returns every input row exactly once. -/
theorem C10_sort_perm (srt : List Row → List Row) (hperm : ∀ l, (srt l).Perm l) (d : List Int) (asc : Bool)
    (hd : 2 ≤ d.length) (l : List Row) : (sortPlan srt d asc l).Perm l := by
  unfold sortPlan
  refine (perm_flatMap_congr _ _ _ (fun o _ => hperm _)).trans ?_
  exact split_perm l (fun r => setPartitionsPre d asc r.idx) (d.length - 1)
    (fun r _ => setPartitionsPre_lt d asc r.idx hd)

/-- If moreover no key lies below every division (the first division produced by the quantile
    sampling is the minimum of the data; T3-checked) the concatenated output is in the requested order. -/
theorem C10_sort_sorted (srt : List Row → List Row) (hperm : ∀ l, (srt l).Perm l) (d : List Int) (asc : Bool)
    (hsorted : ∀ l, (srt l).Pairwise (before asc)) (hd : 2 ≤ d.length) (l : List Row)
    (hcov : ∀ r ∈ l, ∃ c ∈ d, c ≤ r.idx) : (sortPlan srt d asc l).Pairwise (before asc) := by
  unfold sortPlan
  rw [List.pairwise_flatMap]
  refine ⟨fun o _ => hsorted _, ?_⟩
  refine List.Pairwise.imp ?_ (List.pairwise_lt_range (n := d.length - 1))
  intro o₁ o₂ hlt x hx y hy
  have hx' := List.mem_filter.mp ((hperm _).mem_iff.mp hx)
  have hy' := List.mem_filter.mp ((hperm _).mem_iff.mp hy)
  exact setPartitionsPre_order d asc hd x y (hcov x hx'.1) (hcov y hy'.1)
    (by rw [eq_of_beq hx'.2, eq_of_beq hy'.2]; exact hlt)

/-- `npartitions` / `upsample` / the sampled quantiles are performance knobs: two runs with different
    divisions vectors (and even different sort kernels) return permutations of each other with the SAME
    key sequence — the sorted permutation of the input; only the partition layout differs. -/
theorem C10_sort_npartitions (srt₁ srt₂ : List Row → List Row) (asc : Bool)
    (hp₁ : ∀ l, (srt₁ l).Perm l) (hp₂ : ∀ l, (srt₂ l).Perm l)
    (hs₁ : ∀ l, (srt₁ l).Pairwise (before asc)) (hs₂ : ∀ l, (srt₂ l).Pairwise (before asc))
    (d₁ d₂ : List Int) (hd₁ : 2 ≤ d₁.length) (hd₂ : 2 ≤ d₂.length) (l : List Row)
    (hc₁ : ∀ r ∈ l, ∃ c ∈ d₁, c ≤ r.idx) (hc₂ : ∀ r ∈ l, ∃ c ∈ d₂, c ≤ r.idx) :
    (sortPlan srt₁ d₁ asc l).Perm (sortPlan srt₂ d₂ asc l) ∧
    (sortPlan srt₁ d₁ asc l).map (·.idx) = (sortPlan srt₂ d₂ asc l).map (·.idx) ∧
    (sortPlan srt₁ d₁ asc l).map (·.idx) = (stableSort asc l).map (·.idx) := by
  have p₁ := C10_sort_perm srt₁ hp₁ d₁ asc hd₁ l
  have p₂ := C10_sort_perm srt₂ hp₂ d₂ asc hd₂ l
  have s₁ := C10_sort_sorted srt₁ hp₁ d₁ asc hs₁ hd₁ l hc₁
  have s₂ := C10_sort_sorted srt₂ hp₂ d₂ asc hs₂ hd₂ l hc₂
  exact ⟨p₁.trans p₂.symm, sorted_perm_keys_eq asc (p₁.trans p₂.symm) s₁ s₂,
    sorted_perm_keys_eq asc (p₁.trans (stableSort_perm asc l).symm) s₁ (stableSort_sorted asc l)⟩

/-- soundness of the checker run on the real `_calculate_divisions` output -/
theorem C10_sort_divsOK_sound (d keys : List Int) (h : divsOK d keys = true) :
    2 ≤ d.length ∧ d.Pairwise (· ≤ ·) ∧ ∀ k ∈ keys, ∃ c ∈ d, c ≤ k := by
  simp only [divsOK, Bool.and_eq_true, decide_eq_true_eq] at h
  obtain ⟨⟨h2, hs⟩, hc⟩ := h
  refine ⟨h2, sortedInts_pairwise d hs, ?_⟩
  cases d with
  | nil => cases hc
  | cons d0 t =>
    exact fun k hk => ⟨d0, List.mem_cons_self, of_decide_eq_true (List.all_eq_true.mp hc k hk)⟩

/-- the partitions the sort kernel receives are the outputs of the real shuffle graph: with the
    `_partitions` column computed by `set_partitions_pre`, output `j` of the SimpleShuffle layer is the
    sub-list of the concatenated input assigned to `j` -/
theorem C10_sort_shuffle_run (I : Interp) (p : Shuffle.Params) (rows : Nat → List Row) (d : List Int) (asc : Bool)
    (hd : 2 ≤ d.length) (hnout : p.nout = d.length - 1) (hparts : p.parts = List.range p.nout)
    (ha : ∀ i, ∀ r ∈ rows i, r.tgt = setPartitionsPre d asc r.idx) (j : Nat) (hj : j < p.nout) :
    run I (simpleTask p) (inputs rows) 3 (.out .self j) = .frame (assigned d asc j (allRows p.nin rows)) := by
  rw [run_simple_all I p rows hparts (fun i r hr => ha i r hr ▸ hnout ▸ setPartitionsPre_lt d asc r.idx hd) j hj,
    sem_assigned p rows _ ha]
  rfl

/-- Why the coverage hypothesis is needed — the code's clamp `partitions < 0 → len(divisions) - 2` sends
    a key below the first division to the LAST partition: with divisions `[5, 10, 15]` the key 1 ends up
    after 7 (in the last partition, next to 12).  (Divisions computed by the library start at the minimum; user-supplied ones need not.) -/
theorem C10_sort_below_first_division_counterexample :
    (sortPlan (stableSort true) [5, 10, 15] true [⟨12, 0, 0⟩, ⟨1, 0, 1⟩, ⟨7, 0, 2⟩]).map (·.idx) = [7, 1, 12] := by
  decide +kernel

/-- Sorting in place is enough when every row of an earlier partition comes before every row of a
    later one. -/
theorem presortedPlan_sorted (srt : List Row → List Row) (hperm : ∀ l, (srt l).Perm l) (asc : Bool)
    (hsorted : ∀ l, (srt l).Pairwise (before asc)) (parts : List (List Row))
    (hsep : parts.Pairwise (fun p q => ∀ x ∈ p, ∀ y ∈ q, before asc x y)) :
    (presortedPlan srt parts).Pairwise (before asc) :=
  List.pairwise_flatMap.mpr ⟨fun p _ => hsorted p, hsep.imp (fun h x hx y hy =>
    h x ((hperm _).mem_iff.mp hx) y ((hperm _).mem_iff.mp hy))⟩

/-- Presorted fast path (`SortValues._lower` / `SetIndex._lower` skip the shuffle when
    `_calculate_divisions` reports `presorted` and the partition count is unchanged): if the flag computed from
    the per-partition minima and maxima is true — minima in order, maxima in order, and each partition's
    maximum strictly before its successor's minimum — then sorting every input partition in place returns a
    permutation of the input in the requested order, with the same key sequence as the shuffle path. -/
theorem C10_sort_presorted (srt : List Row → List Row) (hperm : ∀ l, (srt l).Perm l) (asc : Bool)
    (hsorted : ∀ l, (srt l).Pairwise (before asc)) (ps : List (List Row × Int × Int))
    (hb : ∀ q ∈ ps, ∀ r ∈ q.1, q.2.1 ≤ r.idx ∧ r.idx ≤ q.2.2)
    (hg : presorted asc (ps.map (·.2)) = true) :
    (presortedPlan srt (ps.map (·.1))).Perm (ps.flatMap (·.1)) ∧
    (presortedPlan srt (ps.map (·.1))).Pairwise (before asc) ∧
    (presortedPlan srt (ps.map (·.1))).map (·.idx) = (stableSort asc (ps.flatMap (·.1))).map (·.idx) := by
  have hp : (presortedPlan srt (ps.map (·.1))).Perm (ps.flatMap (·.1)) := by
    rw [presortedPlan, List.flatMap_map]
    exact perm_flatMap_congr ps _ _ (fun q _ => hperm q.1)
  have hs : (presortedPlan srt (ps.map (·.1))).Pairwise (before asc) := by
    refine presortedPlan_sorted srt hperm asc hsorted _ (List.pairwise_map.mpr ?_)
    -- the flag separates the (min, max) ranges of any two partitions; the rows lie within their ranges
    refine (List.pairwise_map.mp (presorted_nonoverlap asc _ hg)).imp_of_mem ?_
    intro q₁ q₂ h₁ h₂ hsep x hx y hy
    have bx := hb q₁ h₁ x hx
    have b_y := hb q₂ h₂ y hy
    cases asc
    · exact Int.le_trans b_y.2 (Int.le_trans (Int.le_of_lt hsep) bx.1)
    · exact Int.le_trans bx.2 (Int.le_trans (Int.le_of_lt hsep) b_y.1)
  exact ⟨hp, hs, sorted_perm_keys_eq asc (hp.trans (stableSort_perm asc _).symm) hs (stableSort_sorted asc _)⟩

namespace C10Ex
/-- a descending presorted layout `30..26 | 25..20 | 12`, each partition with its (min, max) -/
def pparts : List (List Row × Int × Int) :=
  [([⟨26, 0, 0⟩, ⟨30, 0, 1⟩], 26, 30), ([⟨20, 0, 2⟩, ⟨25, 0, 3⟩, ⟨21, 0, 4⟩], 20, 25), ([⟨12, 0, 5⟩], 12, 12)]
end C10Ex

example : (presortedPlan (stableSort false) (C10Ex.pparts.map (·.1))).map (·.idx) =
    (stableSort false (C10Ex.pparts.flatMap (·.1))).map (·.idx) :=
  (C10_sort_presorted (stableSort false) (stableSort_perm false) false (stableSort_sorted false) C10Ex.pparts
    (by decide +kernel) (by decide +kernel)).2.2
example : (presortedPlan (stableSort false) (C10Ex.pparts.map (·.1))).map (·.idx) = [30, 26, 25, 21, 20, 12] := by decide +kernel
/-- staggered descending chunks 30..20 | 25..15 | 20..10: minima and maxima both decrease but the ranges
    overlap — the flag must be (and is) false, the shuffle path is taken -/
example : presorted false [(20, 30), (15, 25), (10, 20)] = false ∧ presorted false [(26, 30), (20, 25), (12, 12)] = true ∧
    presorted true [(0, 3), (3, 5)] = false ∧ presorted true [(0, 3), (4, 5)] = true := by decide +kernel

namespace C10Ex
def srows : List Row := [⟨12, 0, 0⟩, ⟨5, 0, 1⟩, ⟨7, 0, 2⟩, ⟨5, 0, 3⟩, ⟨30, 0, 4⟩, ⟨9, 0, 5⟩]
theorem srows_cov (d0 : Int) (t : List Int) (h : d0 ≤ 5) : ∀ r ∈ srows, ∃ c ∈ d0 :: t, c ≤ r.idx :=
  fun r hr => ⟨d0, List.mem_cons_self,
    Int.le_trans h ((by decide +kernel : ∀ r ∈ srows, (5 : Int) ≤ r.idx) r hr)⟩
end C10Ex
open C10Ex

example : (sortPlan (stableSort true) [5, 9, 30] true srows).map (·.idx) =
    (sortPlan (stableSort true) [5, 6, 7, 8, 8, 40] true srows).map (·.idx) :=
  (C10_sort_npartitions (stableSort true) (stableSort true) true (stableSort_perm true) (stableSort_perm true)
    (stableSort_sorted true) (stableSort_sorted true) [5, 9, 30] [5, 6, 7, 8, 8, 40] (by decide) (by decide) srows
    (srows_cov 5 _ (by decide)) (srows_cov 5 _ (by decide))).2.1
example : (sortPlan (stableSort true) [5, 9, 30] true srows).map (·.idx) = [5, 5, 7, 9, 12, 30] := by decide +kernel
example : (sortPlan (stableSort false) [5, 9, 30] false srows).map (·.idx) = [30, 12, 9, 7, 5, 5] := by decide +kernel
example : (sortPlan (stableSort false) [5, 9, 30] false srows).Pairwise (before false) :=
  C10_sort_sorted (stableSort false) (stableSort_perm false) [5, 9, 30] false (stableSort_sorted false) (by decide)
    srows (srows_cov 5 _ (by decide))
example : divsOK [5, 9, 30] (srows.map (·.idx)) = true ∧ divsOK [6, 9, 30] (srows.map (·.idx)) = false := by decide +kernel
example : 2 ≤ ([5, 9, 30] : List Int).length ∧ ([5, 9, 30] : List Int).Pairwise (· ≤ ·) ∧
    ∀ k ∈ srows.map (·.idx), ∃ c ∈ ([5, 9, 30] : List Int), c ≤ k :=
  C10_sort_divsOK_sound [5, 9, 30] (srows.map (·.idx)) (by decide +kernel)
example : (sortPlan (stableSort true) [100, 3] true srows).Perm srows :=
  C10_sort_perm (stableSort true) (stableSort_perm true) [100, 3] true (by decide) srows

end SortSec

/-! ## split_out: tree reduction or shuffle reduction (Layers/KnobReduce.lean) -/
section SplitOut
open Shuffle GJ KR

/-- `split_out` (and `split_every`, which enters `shuffle_npartitions`) is a performance knob: hashing the
    group keys into ANY number `n ≥ 1` of partitions with ANY hash function and aggregating every
    partition group-wise yields the same groups — every group once, aggregated over exactly its rows
    in frame order — as the tree reduction used for `split_out = 1`, up to the order of the groups. -/
theorem C10_split_out {κ β} [DecidableEq κ] (key : Row → κ) (agg : κ → List Row → List β)
    (h₁ h₂ : κ → Nat) (n₁ n₂ : Nat) (hn₁ : 0 < n₁) (hn₂ : 0 < n₂) (chunks : List Row) :
    (shufflePlan key agg h₁ n₁ chunks).Perm (treePlan key agg chunks) ∧
    (shufflePlan key agg h₁ n₁ chunks).Perm (shufflePlan key agg h₂ n₂ chunks) ∧
    shufflePlan key agg h₁ 1 chunks = treePlan key agg chunks :=
  ⟨shufflePlan_perm_tree key agg h₁ n₁ hn₁ chunks,
   (shufflePlan_perm_tree key agg h₁ n₁ hn₁ chunks).trans (shufflePlan_perm_tree key agg h₂ n₂ hn₂ chunks).symm,
   shufflePlan_one key agg h₁ chunks⟩

/-- the partition count `ShuffleReduce._lower` computes is ≥ 1 for every `split_every`, so the theorem
    applies to every `split_every` / `split_out ≥ 1` combination of its hash-shuffle branch (`sort=False`;
    with `sort=True` it partitions by `SortValues`, which `shufflePlan` does not model) -/
theorem C10_split_out_npartitions (nin splitEvery splitOut : Nat) (h : 1 ≤ splitOut) :
    1 ≤ shuffleNpartitions nin splitEvery splitOut := by
  unfold shuffleNpartitions
  exact Nat.le_trans h (Nat.le_max_right _ _)

/-- …through the real SimpleShuffle graph: the chunks get their `_partitions` column from
    `AssignPartitioningIndex` (`hash(key) % nout`), are shuffled, the column is dropped, every output
    partition is aggregated group-wise. -/
theorem C10_split_out_run {κ β} [DecidableEq κ] (I : Interp) (p : Shuffle.Params) (chunks : Nat → List Row)
    (key : Row → κ) (hkey : ∀ r t, key { r with tgt := t } = key r)
    (agg : κ → List Row → List β) (h : κ → Nat) (hpos : 0 < p.nout) (hp : p.parts = List.range p.nout) :
    ((List.range p.nout).flatMap (fun j =>
        match run I (simpleTask p) (inputs (fun i => (chunks i).map (assignTgt key h p.nout))) 3 (.out .self j) with
        | .frame l => groupApply key agg (l.map dropTgt)
        | _ => [])).Perm
      (treePlan key agg ((allRows p.nin chunks).map dropTgt)) := by
  have hdrop : ∀ r, key (dropTgt r) = key r := fun r => hkey r 0
  have ha : ∀ i, ∀ r ∈ (chunks i).map (assignTgt key h p.nout), r.tgt = h (key r) % p.nout := by
    intro i r hr
    obtain ⟨r0, _, rfl⟩ := List.mem_map.mp hr
    exact congrArg (h · % p.nout) (hkey r0 _).symm
  -- dropping the column after assigning it is dropping it
  have e : (allRows p.nin chunks).map dropTgt =
      (allRows p.nin (fun i => (chunks i).map (assignTgt key h p.nout))).map dropTgt := by
    simp only [allRows, List.map_flatMap, List.map_map]
    rfl
  -- C02's shuffle reduction of the chunks with the column, each group aggregated after dropping it
  rw [treePlan, e, groupApply_map key agg dropTgt hdrop]
  refine List.Perm.trans (List.Perm.of_eq (flatMap_congr' _ _ _ fun j hj => ?_))
    (C02_shuffle_reduce p _ key _ (fun k => h k % p.nout) (fun _ => Nat.mod_lt _ hpos) ha)
  rw [run_simple_all I p _ hp (fun i r hr => ha i r hr ▸ Nat.mod_lt _ hpos) j (List.mem_range.mp hj)]
  exact groupApply_map key agg dropTgt hdrop _

/-- unique / drop_duplicates: the distinct keys; value_counts: (key, number of rows) — for every split_out -/
example (h : Nat → Nat) (n : Nat) (hn : 0 < n) :
    (shufflePlan (fun r => r.pay) (fun k _ => [k]) h n (allRows 3 C02Ex.jrows₁)).Perm [0, 1, 2, 3] := by
  have e : treePlan (fun r => r.pay) (fun k _ => [k]) (allRows 3 C02Ex.jrows₁) = [0, 1, 2, 3] := by decide +kernel
  exact e ▸ (C10_split_out (fun r => r.pay) (fun k _ => [k]) h h n n hn hn (allRows 3 C02Ex.jrows₁)).1
example : shufflePlan (fun r : Row => r.pay) (fun k g => [(k, g.length)]) (fun k => 5 * k) 4 (allRows 3 C02Ex.jrows₁) =
    [(0, 1), (1, 2), (2, 2), (3, 1)] := by decide +kernel
example : (shufflePlan (fun r => r.pay) (fun k g => [(k, g.length)]) (fun k => 7 * k) 3 (allRows 3 C02Ex.jrows₁)).Perm
    (shufflePlan (fun r => r.pay) (fun k g => [(k, g.length)]) (fun k => k) 2 (allRows 3 C02Ex.jrows₁)) :=
  (C10_split_out _ _ _ _ 3 2 (by decide) (by decide) _).2.1
example : 1 ≤ shuffleNpartitions 20 8 3 ∧ shuffleNpartitions 20 8 1 = 2 ∧ shuffleNpartitions 20 0 3 = 3 :=
  ⟨C10_split_out_npartitions 20 8 3 (by decide), by decide, by decide⟩
example : ((List.range 7).flatMap (fun j =>
      match run C12Ex.I0 (simpleTask C12Ex.pNeAll) (inputs (fun i => (C02Ex.jrows₁ i).map (assignTgt (fun r => r.pay) (fun k => 3 * k) 7)))
          3 (.out .self j) with
      | .frame l => groupApply (fun r => r.pay) (fun k g => [(k, g.length)]) (l.map dropTgt)
      | _ => [])).Perm
    (treePlan (fun r => r.pay) (fun k g => [(k, g.length)]) ((allRows 3 C02Ex.jrows₁).map dropTgt)) :=
  C10_split_out_run C12Ex.I0 C12Ex.pNeAll C02Ex.jrows₁ (fun r => r.pay) (fun _ _ => rfl) _ (fun k => 3 * k) (by decide) (by decide +kernel)

end SplitOut

end Dx

/-
  Props/C11.lean — selecting partitions or leading/trailing rows commutes with the computation.
  Helper lemmas: Lemmas/Partitions, FromArray, Head, HeadPush, SortedHead (+ the C12 theorems for shuffles).

  Conventions: `parts i` = rows of partition `i` of the unselected collection; index lists `P` are
  arbitrary (any order, repeats) unless a hypothesis says otherwise; `sel P parts j = parts P[j]`.

    C11_partitions_task, C11_filtered_contract(_count)      tasks of cls(_partitions := P) = P.map tasks
    C11_filtered_divisions(_unknown)                        divisions of an ascending selection are truthful
    C11_fromarray, C11_frompandas                           the two sources that rebuild their task from `index`
    C11_filtered_shuffle_simple/_task/_disk                 via C12: output j = unfiltered output P[j] (up to order)
    C11_bjoin_keys_partial / _counterexample                BroadcastJoin writes keys under ORIGINAL numbers (finding)
    C11_partitions_blockwise(_rule), _counterexample        Partitions through Blockwise with broadcast operands
    C11_head(_error/_no_spurious_error), C11_tail           lowered graphs
    C11_head_push(_rule/_operands), C11_head_nested, C11_tail_push(_rule/_operands)      (full since D64)
    C11_sorted_head(_any_sort/_tree)                        NFirst
-/
import DxModel.Lemmas.Partitions
import DxModel.Lemmas.FromArray
import DxModel.Lemmas.Head
import DxModel.Lemmas.HeadPush
import DxModel.Lemmas.SortedHead
import DxModel.Props.C12
namespace Dx
open Parts Head

/-! ### 1. `Partitions` and the `PartitionsFiltered` contract -/

/-- `Partitions._task`: output `j` is partition `P[j]` of the frame — any `P`. -/
theorem C11_partitions_task (I : Interp) (P : List Nat) (parts : Nat → List Row) (j : Nat) (hj : j < P.length)
    (fuel : Nat) (hf : 1 ≤ fuel) :
    run I (partitionsTask P) (Parts.inputs parts) fuel (.out j) = .frame (sel P parts j) := by
  obtain ⟨f, rfl⟩ := Nat.exists_eq_add_of_le' hf
  have hg : partitionsTask P (.out j) = some (.alias (.dep P[j])) := by
    simp [partitionsTask, List.getElem?_eq_getElem hj]
  rw [run_defined _ _ _ f _ _ hg]
  rw [evalTsk, run_input I (partitionsTask P) (Parts.inputs parts) (.dep P[j]) (.frame (parts P[j])) rfl rfl,
    sel, List.getElem?_eq_getElem hj]

example : run C12Ex.I0 (partitionsTask [2, 0, 2]) (Parts.inputs (fun i => [⟨i, 0, i⟩])) 1 (.out 2) = .frame [⟨2, 0, 2⟩] :=
  C11_partitions_task _ [2, 0, 2] _ 2 (by decide) 1 (by decide)

/-- **The contract of `PartitionsFiltered`** for every source whose `_filtered_task(i)` only reads source
    inputs (FromPandas, FromArray, FromMap(Projectable), FromDelayed, Timeseries, ReadCSV, ReadParquet:
    `LeafTasks`): output `j` of `cls(…, _partitions := P)` is output `P[j]` of `cls(…)` — i.e. the tasks of
    the filtered layer are `P.map (tasks of the unfiltered layer)`; `P` in any order, with repeats;
    `n` = number of partitions of the unfiltered source. -/
theorem C11_filtered_contract (I : Interp) (ft : Nat → Tsk Parts.Key) (hleaf : LeafTasks ft) (n : Nat) (P : List Nat)
    (hP : ∀ p ∈ P, p < n) (inp : Parts.Key → Option V) (j : Nat) (hj : j < P.length) (fuel : Nat) (hf : 1 ≤ fuel) :
    run I (filteredTask ft P) inp fuel (.out j) = run I (filteredTask ft (List.range n)) inp fuel (.out P[j]) := by
  obtain ⟨f, rfl⟩ := Nat.exists_eq_add_of_le' hf
  exact run_filtered I ft hleaf P (List.range n) inp f j P[j] P[j] (List.getElem?_eq_getElem hj)
    (List.getElem?_range (hP _ (List.getElem_mem hj)))

/-- … and it has exactly `len(P)` output keys, numbered `0 … len(P)-1` (what `__dask_keys__` requests). -/
theorem C11_filtered_contract_count (ft : Nat → Tsk Parts.Key) (P : List Nat) :
    (outKeys P).length = P.length ∧ ∀ k ∈ outKeys P, (filteredTask ft P k).isSome := by
  refine ⟨by simp [outKeys], ?_⟩
  intro k hk
  simp only [outKeys, List.mem_map, List.mem_range] at hk
  obtain ⟨j, hj, rfl⟩ := hk
  simp [filteredTask, List.getElem?_eq_getElem hj]

-- non-vacuity: a three-partition source read through `apply f [src 0 i]`, selection [2, 0, 2]
example : LeafTasks (fun i => Tsk.apply 7 [Parts.Key.src 0 i]) := by
  intro i d hd j
  simp [Tsk.refs] at hd
  subst hd; exact fun h => by cases h
example : run C12Ex.I0 (filteredTask (fun i => Tsk.const [⟨i, 0, i⟩]) [2, 0, 2]) (fun _ => none) 1 (.out 2) =
    run C12Ex.I0 (filteredTask (fun i => Tsk.const [⟨i, 0, i⟩]) (List.range 3)) (fun _ => none) 1 (.out 2) :=
  C11_filtered_contract _ _ (by intro i d hd; simp [Tsk.refs] at hd) 3 [2, 0, 2] (by decide) _ 2 (by decide) 1 (by decide)

/-- Divisions of a selection (`_divisions_of_selection`, used by `Partitions._divisions` and
    `PartitionsFiltered.divisions`): for a strictly ascending `P` (any gaps) the reported divisions are
    truthful for the selected partitions. -/
theorem C11_filtered_divisions (full : List Int) (n : Nat) (parts : Nat → List Row) (P : List Nat)
    (hinv : Repartition.DivInv full n parts) (hs : strictAsc P = true) (hne : P ≠ []) (hP : ∀ p ∈ P, p < n) :
    ∃ d', selDivisions full P = .ok (some d') ∧ Repartition.DivInv d' P.length (sel P parts) :=
  selDivisions_truthful full n parts P hinv hs hne hP

/-- … and for every other selection (reordered, repeated) they are reported as unknown. -/
theorem C11_filtered_divisions_unknown (full : List Int) (P : List Nat) (h : strictAsc P = false) :
    selDivisions full P = .ok none := selDivisions_unknown full P h

example : selDivisions [0, 10, 20, 30, 40] [1, 3] = .ok (some [10, 30, 40]) := rfl
example : selDivisions [0, 10, 20, 30, 40] [2, 0] = .ok none := rfl
example : selDivisions [0, 10, 20, 30, 40] [0, 0] = .ok none := rfl
-- the empty selection (`df.partitions[[]]`): `part` is unbound — UnboundLocalError, not an empty frame
example : selDivisions [0, 10, 20] [] = .error .unbound := rfl

/-- composing a selection with an already filtered source (`Partitions._simplify_down`):
    `partitions[p]` of `cls(_partitions := Q)` is `cls(_partitions := [Q[p] for p in P])`. -/
theorem C11_filtered_compose (Q P R : List Nat) (parts : Nat → List Row) (hQ : Q ≠ [])
    (h : composeSel (some Q) P = some R) (j : Nat) (hj : j < P.length) :
    sel R parts j = sel P (sel Q parts) j := by
  have h' : pick Q P = some R := by
    cases Q with
    | nil => exact absurd rfl hQ
    | cons _ _ => exact h
  obtain ⟨hlt, rfl⟩ := pick_eq_map Q P R h'
  have hp := List.getElem?_eq_getElem (hlt _ (List.getElem_mem hj))
  simp only [sel, List.getElem?_map, List.getElem?_eq_getElem hj, Option.map_some, hp, Repartition.getD_of_getElem? hp]

example : composeSel (some [4, 2, 7]) [2, 0, 0] = some [7, 4, 4] := by decide

/-! ### 2. the two sources that rebuild their task from the partition number -/

/-- **FromArray** (`_divisions`, `_filtered_task`; D4's site): for every array length, chunk size and
    partition number `i` of the UNFILTERED collection the index range built from the unfiltered divisions
    is as long as the data slice (the frame constructor cannot fail), row at array position `p` is labelled
    `p`, and the reported divisions are truthful. -/
theorem C11_fromarray (len cs : Nat) (hcs : 1 ≤ cs) (hlen : 1 ≤ len) :
    (∀ i, i < nChunks len cs → faRows len cs i = some ((List.range (chunkLen len cs i)).map
        (fun t => ({ idx := ((i * cs + t : Nat) : Int), tgt := 0, pay := i * cs + t } : Row)))) ∧
    Repartition.DivInv (faDivisions len cs) (nChunks len cs) (fun i => (faRows len cs i).getD []) :=
  -- `hlen` is not used: the empty array has no partition and the single division `-1`
  have _ := hlen
  ⟨fun i hi => faRows_spec len cs i hcs hi, faDivInv len cs hcs⟩

example : faDivisions 10 3 = [0, 3, 6, 9, 9] ∧ faRows 10 3 3 = some [⟨9, 0, 9⟩] ∧
    faRows 10 3 1 = some [⟨3, 0, 3⟩, ⟨4, 0, 4⟩, ⟨5, 0, 5⟩] := by decide

/-- **FromPandas** `_filtered_task(i) = frame.iloc[locations[i] : locations[i+1]]`: the partitions of the
    unfiltered source concatenate to the frame, for any monotone location list from 0 to `len(frame)`. -/
theorem C11_frompandas (rows : List Row) (locs : List Nat)
    (h : Repartition.boundariesOK locs rows.length = true) :
    (List.range (locs.length - 1)).flatMap (fpRows rows locs) = rows :=
  Repartition.seg_cover rows locs h

example : fpRows [⟨0, 0, 0⟩, ⟨1, 0, 1⟩, ⟨2, 0, 2⟩] [0, 2, 3] 1 = [⟨2, 0, 2⟩] := by decide

/-! ### 3. shuffles: the filtered layer computes the selected outputs of the unfiltered one (via C12) -/

/-- unfiltered version of a shuffle's parameters -/
def unfiltered (p : Shuffle.Params) : Shuffle.Params :=
  { p with parts := List.range p.nout, filtered := false }

theorem sem_unfiltered (p : Shuffle.Params) (rows : Nat → List Row) (o : Nat) :
    Shuffle.sem (unfiltered p) rows o = Shuffle.sem p rows o := rfl

theorem unfiltered_valid (p : Shuffle.Params) : ∀ o ∈ (unfiltered p).parts, o < (unfiltered p).nout :=
  fun _ ho => List.mem_range.mp ho

theorem unfiltered_lt (p : Shuffle.Params) {o : Nat} (ho : o < p.nout) : o < (unfiltered p).parts.length :=
  (List.length_range (n := p.nout)).symm ▸ ho

/-- output `o` of the unfiltered layer is the bucket of target `o` -/
theorem sem_unfiltered_getElem (p : Shuffle.Params) (rows : Nat → List Row) (o : Nat)
    (h : o < (unfiltered p).parts.length) :
    Shuffle.sem (unfiltered p) rows (unfiltered p).parts[o] = Shuffle.sem p rows o :=
  congrArg (Shuffle.sem p rows) (List.getElem_range h)

/-- SimpleShuffle with `_partitions := P`: output `j` equals output `P[j]` of the unfiltered layer. -/
theorem C11_filtered_shuffle_simple (I : Interp) (p : Shuffle.Params) (rows : Nat → List Row)
    (hparts : ∀ o ∈ p.parts, o < p.nout) (hrows : ∀ i, ∀ r ∈ rows i, r.tgt < p.nout)
    (j : Nat) (hj : j < p.parts.length) :
    run I (Shuffle.simpleTask p) (Shuffle.inputs rows) 3 (.out .self j) =
      run I (Shuffle.simpleTask (unfiltered p)) (Shuffle.inputs rows) 3 (.out .self p.parts[j]) := by
  have hj' := unfiltered_lt p (hparts _ (List.getElem_mem hj))
  rw [C12_simple I p rows j hj hparts hrows,
      C12_simple I (unfiltered p) rows p.parts[j] hj' (unfiltered_valid p) hrows, sem_unfiltered_getElem]

/-- TaskShuffle (simple or staged, D6's site) with `_partitions := P`: output `j` is a permutation of
    output `P[j]` of the unfiltered layer. -/
theorem C11_filtered_shuffle_task (I : Interp) (p : Shuffle.Params) (rows : Nat → List Row)
    (harith : Shuffle.stageArithOK p.nin p.stages p.nsplits = true)
    (hparts : ∀ o ∈ p.parts, o < p.nout) (hrows : ∀ i, ∀ r ∈ rows i, r.tgt < p.nout)
    (j : Nat) (hj : j < p.parts.length) (fuel : Nat) (hfuel : 3 * p.stages + 3 ≤ fuel) :
    ∃ l₁ l₂, run I (Shuffle.taskTask p) (Shuffle.inputs rows) fuel (.out .self j) = .frame l₁ ∧
      run I (Shuffle.taskTask (unfiltered p)) (Shuffle.inputs rows) fuel (.out .self p.parts[j]) = .frame l₂ ∧
      l₁.Perm l₂ := by
  have hj' := unfiltered_lt p (hparts _ (List.getElem_mem hj))
  obtain ⟨l₁, h₁, hp₁⟩ := C12_task I p rows (fun _ => harith) hparts hrows j hj fuel hfuel
  obtain ⟨l₂, h₂, hp₂⟩ := C12_task I (unfiltered p) rows (fun _ => harith)
    (unfiltered_valid p) hrows p.parts[j] hj' fuel hfuel
  rw [sem_unfiltered_getElem] at hp₂
  exact ⟨l₁, l₂, h₁, h₂, hp₁.trans hp₂.symm⟩

/-- DiskShuffle with `_partitions := P`. -/
theorem C11_filtered_shuffle_disk (I : Interp) (p : Shuffle.Params) (rows : Nat → List Row)
    (hparts : ∀ o ∈ p.parts, o < p.nout) (j : Nat) (hj : j < p.parts.length) (fuel : Nat) (hfuel : 3 ≤ fuel) :
    run I (Shuffle.diskTask p) (Shuffle.inputs rows) fuel (.out .self j) =
      run I (Shuffle.diskTask (unfiltered p)) (Shuffle.inputs rows) fuel (.out .self p.parts[j]) := by
  have hj' := unfiltered_lt p (hparts _ (List.getElem_mem hj))
  rw [C12_disk I p rows j hj fuel hfuel, C12_disk I (unfiltered p) rows p.parts[j] hj' fuel hfuel,
    sem_unfiltered_getElem]

example : ∃ l₁ l₂, run C12Ex.I0 (Shuffle.taskTask C12Ex.pEq) (Shuffle.inputs (C12Ex.rowsMod 5)) 12 (.out .self 0) = .frame l₁ ∧
    run C12Ex.I0 (Shuffle.taskTask (unfiltered C12Ex.pEq)) (Shuffle.inputs (C12Ex.rowsMod 5)) 12 (.out .self 2) = .frame l₂ ∧
    l₁.Perm l₂ :=
  C11_filtered_shuffle_task _ C12Ex.pEq _ (by decide) (by decide) (C12Ex.rowsMod_lt 5 (by decide)) 0 (by decide) 12 (by decide)

/-! ### 4. BroadcastJoin (finding): output keys of the filtered layer -/

/-
  FULL STATEMENT (false for the code as it is): for every `P` the keys `BroadcastJoin._layer` writes its
  outputs under are the keys `__dask_keys__` requests, `(name, j) for j < len(P)`.
  The layer writes `(name, part_out) for part_out in _partitions`.
-/
/-- proven: the keys coincide exactly for the unfiltered join and for leading selections `[0, …, m-1]` -/
theorem C11_bjoin_keys_partial (P : List Nat) : bjoinOutKeys P = requestedKeys P ↔ P = List.range P.length := by
  simp [bjoinOutKeys, requestedKeys]

/-- `merge(…, broadcast=True).partitions[[2]]`: the only output is written under `(name, 2)`, the
    collection asks for `(name, 0)` — KeyError at execution (every selection that is not a leading range,
    also the `[npartitions-1]` of `tail`). -/
theorem C11_bjoin_keys_counterexample : bjoinOutKeys [2] ≠ requestedKeys [2] ∧ ¬ (0 ∈ bjoinOutKeys [2]) := by decide

/-! ### 5. `Partitions` through Blockwise operators with broadcast operands -/

/-- the rule wraps exactly the `Expr` operands the frame does not broadcast -/
theorem C11_partitions_blockwise_rule (selfNdim : Nat) (anyNdim : Bool) (ops : List Operand) (i : Nat) (hi : i < ops.length) :
    (partitionsPush selfNdim anyNdim ops)[i]? = some (ops[i].isExpr && !broadcastDep selfNdim anyNdim ops[i]) := by
  simp [partitionsPush, hi]

/-- graph level: output `j` of the operator applied to `Partitions(dep, P)` for its non-broadcast
    dependencies (broadcast ones untouched) is output `P[j]` of the operator — any `P`. -/
theorem C11_partitions_blockwise (I : Interp) (p : Blockwise.Params) (P : List Nat) (bc : Nat → Bool)
    (vals : Nat → Nat → V)
    (hbc : ∀ d np nd, Blockwise.Arg.expr d np nd ∈ p.args → bc d = Blockwise.broadcastDep p np nd)
    (hP : ∀ q ∈ P, q < p.n) (j : Nat) (hj : j < P.length) (fuel : Nat) (hf : 1 ≤ fuel) :
    run I (Blockwise.layer (pushed p P.length)) (Blockwise.inputs (selVals bc P vals)) fuel (.out j) =
      run I (Blockwise.layer p) (Blockwise.inputs vals) fuel (.out P[j]) := by
  obtain ⟨f, rfl⟩ := Nat.exists_eq_add_of_le' hf
  rw [bw_run_out I (pushed p P.length) _ f j (by simpa [pushed] using hj),
      bw_run_out I p vals f P[j] (hP _ (List.getElem_mem hj))]
  congr 1
  show (p.args.map (wrapArg p P.length)).filterMap _ = _
  rw [List.filterMap_map]
  apply filterMap_congr'
  intro a ha
  exact pushed_argVal p P bc vals j hj a (fun d np nd e => hbc d np nd (e ▸ ha))

example : ∀ d np nd, Blockwise.Arg.expr d np nd ∈ [Blockwise.Arg.expr 0 4 2, .expr 1 1 0, .lit "x"] →
    (fun d => d == 1) d = Blockwise.broadcastDep ⟨4, 2, false, [.expr 0 4 2, .expr 1 1 0, .lit "x"]⟩ np nd := by
  intro d np nd h
  simp only [List.mem_cons, List.not_mem_nil, or_false] at h
  rcases h with h | h | h
  · cases h; decide
  · cases h; decide
  · cases h

/-- (finding) when the frame has ONE partition every lower-dimensional operand counts as "broadcast", also
    a row-aligned series: nothing is wrapped, the rule returns the frame unchanged and a repeated
    selection `[0, 0]` is lost (`df1.map_partitions(f, s1).partitions[[0, 0]]` has one partition). -/
theorem C11_partitions_blockwise_counterexample :
    partitionsPush 2 true [⟨true, 1, 2⟩, ⟨true, 1, 0⟩] = [false, false] := by decide

/-- **Why the class guard exists.**  Pushing the selection below an operation is sound exactly because a
    blockwise task is a function of the partition it is given: for a task that does NOT look at the partition
    number, selecting `P` first and applying the operation gives output `P[j]` of the operation … -/
theorem C11_partitions_push_position_independent (g : List Row → List Row) (parts : List (List Row)) (P : List Nat)
    (j : Nat) (hj : j < P.length) :
    numberedOut (fun _ x => g x) (selectParts parts P) j = numberedOut (fun _ x => g x) parts P[j] := by
  simp [numberedOut, selectParts, hj]

/-- … while for a task that looks at the partition number (`partition_info`, a random state per partition,
    neighbouring partitions) the pushed plan computes something else as soon as `P[j] ≠ j` (D82, D105):
    `f i x` tags every row with the partition number `i`. -/
theorem C11_partitions_push_number_dependent_counterexample :
    let f : Nat → List Row → List Row := fun i x => x.map (fun r => ({ r with tgt := i } : Row))
    let parts : List (List Row) := [[⟨0, 0, 10⟩], [⟨1, 0, 11⟩], [⟨2, 0, 12⟩]]
    numberedOut f (selectParts parts [2]) 0 ≠ numberedOut f parts 2 := by
  decide

/-- **Per-partition arguments travel with the selection** (`BlockwiseDep`: resample bin edges).  When the
    selection is applied to the argument list as well (what `Partitions._simplify_down` does), output `j` of the
    pushed plan is output `P[j]` of the operation, for every operation `g`, argument list, frame and in-range
    selection — repeated and reordered selections included. -/
theorem C11_partitions_push_blockwisedep (g : Nat → List Row → List Row) (args : List Nat) (parts : List (List Row))
    (P sel : List Nat) (hsel : selectArgs args P = some sel) (j : Nat) (hj : j < P.length) :
    depOut g sel (selectParts parts P) j = depOut g args parts P[j] := by
  rw [selectArgs_eq_pick] at hsel
  obtain ⟨_, rfl⟩ := pick_eq_map args P sel hsel
  simp only [depOut, selectParts, List.getD_eq_getElem?_getD, List.getElem?_map, List.getElem?_eq_getElem hj,
    Option.map_some, Option.getD_some]

/-- the selection of the arguments succeeds exactly for in-range selections and has the selection's length -/
theorem C11_select_args_total (args P : List Nat) (h : ∀ p ∈ P, p < args.length) :
    ∃ sel, selectArgs args P = some sel ∧ sel.length = P.length :=
  ⟨_, (selectArgs_eq_pick args P).trans (pick_valid args P h), List.length_map ..⟩

/-- … while passing the argument list on UNCHANGED (the defect fixed as D113) gives partition `j` the argument of
    partition `j` instead of `P[j]`: `resample(...).sum().partitions[[1]]` aggregated partition 1 into the bins
    of partition 0. -/
theorem C11_partitions_push_blockwisedep_unselected_counterexample :
    let g : Nat → List Row → List Row := fun a x => x.map (fun r => ({ r with tgt := a } : Row))
    let parts : List (List Row) := [[⟨0, 0, 10⟩], [⟨1, 0, 11⟩]]
    depOut g [7, 8] (selectParts parts [1]) 0 ≠ depOut g [7, 8] parts 1 := by
  decide

example : selectArgs [7, 8, 9] [2, 0, 0] = some [9, 7, 7] ∧ selectArgs [7, 8] [2] = none := by decide

/-- the guard forbids the push exactly for the structural exceptions and the number-dependent classes -/
theorem C11_partitions_push_guard (structural numberDependent : Bool) :
    partitionsPushAllowed structural numberDependent = true ↔ structural = false ∧ numberDependent = false := by
  cases structural <;> cases numberDependent <;> simp [partitionsPushAllowed]

/-- a number-dependent class is never wrapped: it absorbs the selection itself or keeps the `Partitions` node -/
theorem C11_partitions_rule_number_dependent (structural filtered : Bool) :
    partitionsRule structural true filtered ≠ .wrap := by
  cases structural <;> cases filtered <;> decide

/-! ### 6. head and tail: the lowered graphs -/

/-- **Head._lower**: whenever lowering succeeds, the single output of the lowered graph holds the first
    `n` rows of the concatenation of the first `k` partitions (all of them for `k = -1`). -/
theorem C11_head (I : Interp) (hI : HeadInterp I) (np n : Nat) (k : Int) (parts : Nat → List Row) (pl : HeadPlan)
    (hnp : 1 ≤ np) (hk : k ≠ 0) (h : lowerHead np k = .ok pl) (fuel : Nat) (hf : 4 ≤ fuel) :
    run I (headTask pl n) (Head.inputs parts) fuel (outKey pl) =
      .frame (((List.range (if k > -1 then min k.toNat np else np)).flatMap parts).take n) := by
  obtain ⟨f, rfl⟩ := Nat.exists_eq_add_of_le' hf
  have ⟨hparts, hsec⟩ := lowerHead_ok np k pl h
  rw [headPartitions_eq] at hparts
  -- the number of selected partitions is at least one, and exactly one when there is no second stage
  have hpos : 0 < (if k > -1 then min k.toNat np else np) := by
    split
    · have h0 : (0 : Int) < k := Int.lt_iff_le_and_ne.mpr ⟨Int.add_one_le_of_lt ‹k > -1›, Ne.symm hk⟩
      exact Nat.lt_min.mpr ⟨Int.lt_toNat.mpr h0, hnp⟩
    · exact hnp
  have hlen : pl.parts.length = (if k > -1 then min k.toNat np else np) := by rw [hparts, List.length_range]
  rw [run_head I hI pl n parts ?_ (List.length_pos_iff.mp (hlen ▸ hpos)) f, hparts]
  intro hs
  cases hsec hs
  rw [hlen, if_pos (by decide)]
  exact Nat.min_eq_left hnp

/-- error iff more partitions are requested than the frame has … -/
theorem C11_head_error (np : Nat) (k : Int) : (∃ e, lowerHead np k = .error e) ↔ k > (np : Int) := by
  unfold lowerHead
  split
  · exact ⟨fun _ => by assumption, fun _ => ⟨.value, rfl⟩⟩
  · rename_i hk
    constructor
    · intro h
      obtain ⟨e, he⟩ := h
      cases he
    · intro h
      exact absurd h hk

/-- … so a head within the frame's partitions (or `npartitions = -1`) never fails to lower. -/
theorem C11_head_no_spurious_error (np : Nat) (k : Int) (hk : k ≤ (np : Int)) : ∃ pl, lowerHead np k = .ok pl := by
  cases h : lowerHead np k with
  | ok pl => exact ⟨pl, rfl⟩
  | error e => exact absurd ((C11_head_error np k).mp ⟨e, h⟩) (Int.not_lt.mpr hk)

example : lowerHead 4 2 = .ok ⟨[0, 1], 2, false, some true⟩ ∧ lowerHead 4 1 = .ok ⟨[0], 1, true, none⟩ ∧
    lowerHead 4 (-1) = .ok ⟨[0, 1, 2, 3], -1, false, some false⟩ ∧ lowerHead 4 5 = .error .value := ⟨rfl, rfl, rfl, rfl⟩

example : run Head.I0 (headTask ⟨[0, 1], 2, false, some true⟩ 3) (Head.inputs (fun i => [⟨i, 0, 0⟩, ⟨i, 0, 1⟩])) 4 .out =
    .frame [⟨0, 0, 0⟩, ⟨0, 0, 1⟩, ⟨1, 0, 0⟩] :=
  C11_head Head.I0 I0_headInterp 4 3 2 _ _ (by decide) (by decide) rfl 4 (by decide)

/-- **Tail._lower**: the last `n` rows of the last partition. -/
theorem C11_tail (I : Interp) (hI : HeadInterp I) (np n : Nat) (parts : Nat → List Row) (fuel : Nat) (hf : 2 ≤ fuel) :
    run I (tailTask np n) (Head.inputs parts) fuel (.bh 0) = .frame (lastN n (parts (np - 1))) := by
  obtain ⟨f, rfl⟩ := Nat.exists_eq_add_of_le' hf
  have hg : tailTask np n (.bh 0) = some (.apply (tailFn n) [.sel 0]) := rfl
  rw [run_defined _ _ _ (f+1) _ _ hg]
  have hs : tailTask np n (.sel 0) = some (.alias (.dep (np - 1))) := rfl
  simp only [evalTsk, List.map_cons, List.map_nil]
  rw [run_defined _ _ _ f _ _ hs]
  rw [evalTsk, run_input I (tailTask np n) (Head.inputs parts) (.dep (np - 1)) (.frame (parts (np - 1))) rfl rfl,
    hI.tail, lastN]

example : run Head.I0 (tailTask 3 2) (Head.inputs (fun i => [⟨i, 0, 0⟩, ⟨i, 0, 1⟩, ⟨i, 0, 2⟩])) 2 (.bh 0) =
    .frame [⟨2, 0, 1⟩, ⟨2, 0, 2⟩] :=
  C11_tail Head.I0 I0_headInterp 3 2 _ 2 (by decide)

/-! ### 7. push-down rules -/

/-- `Head._simplify_down` (D2, D3, D64): no rewrite when the frame has an ambiguous operand; otherwise exactly the
    `Expr` operands the elementwise frame does not broadcast are wrapped, each with the head's own `n` and its
    `npartitions` OPERAND `k`. -/
theorem C11_head_push_rule (selfNdim selfNp : Nat) (ops : List Operand) (n : Nat) (k : Int) :
    (ambiguous selfNdim selfNp ops = true → headPush selfNdim selfNp ops n k = none) ∧
    (ambiguous selfNdim selfNp ops = false → ∀ i (hi : i < ops.length), ∃ r, headPush selfNdim selfNp ops n k = some r ∧
      r[i]? = some (if ops[i].isExpr && !broadcastDep selfNdim false ops[i] then some (n, k) else none)) := by
  refine ⟨fun h => by rw [headPush, h, if_pos rfl],
    fun h i hi => ⟨_, by rw [headPush, h, if_neg Bool.false_ne_true], ?_⟩⟩
  rw [List.getElem?_map, List.getElem?_eq_getElem hi, Option.map_some]

/-- **Semantic core**: for a row-local operation `G` (additive over co-partitioned pieces, commuting with
    common prefixes) applying it to the heads of ALL its row-aligned operands gives the head of its result:
    `n` rows of the `k` leading partitions. -/
theorem C11_head_push (G : (Nat → List Row) → List Row) (hA : Additive G) (hT : TakeCommutes G)
    (rows : Nat → Nat → List Row) (hco : ∀ i, CoLen (fun d => rows d i)) (n k : Nat) :
    G (fun d => ((List.range k).flatMap (rows d)).take n) =
      ((List.range k).flatMap (fun i => G (fun d => rows d i))).take n := by
  rw [hT _ n (coLen_flatMap rows hco k), ← additive_concat G hA rows hco k]

example : Additive (fun xs => List.zipWith (fun (r s : Row) => (⟨r.idx, 0, r.pay + s.pay⟩ : Row)) (xs 0) (xs 1)) ∧
    TakeCommutes (fun xs => List.zipWith (fun (r s : Row) => (⟨r.idx, 0, r.pay + s.pay⟩ : Row)) (xs 0) (xs 1)) :=
  ⟨additive_zipWith _, takeCommutes_zipWith _⟩

/-- **Head push-down, full statement** (holds since D64): whenever the rule rewrites, the operands it wraps in
    `Head(·, n, k)` are EXACTLY the row-aligned operands — the hypothesis of `C11_head_push`. -/
theorem C11_head_push_operands (selfNdim selfNp : Nat) (ops : List Operand) (n : Nat) (k : Int)
    (hwf : OperandsWF selfNdim selfNp ops) (r : List (Option (Nat × Int)))
    (h : headPush selfNdim selfNp ops n k = some r) (i : Nat) (hi : i < ops.length) :
    r[i]? = some (if rowAligned selfNp ops[i] then some (n, k) else none) :=
  pushed_operands selfNdim selfNp ops hwf (n, k) r h i hi

-- a frame with 4 partitions, a co-partitioned series, a scalar reduction, a literal: series wrapped, scalar not
example : headPush 2 4 [⟨true, 4, 2⟩, ⟨true, 4, 1⟩, ⟨true, 1, 0⟩, ⟨false, 0, 0⟩] 7 2 =
    some [some (7, 2), some (7, 2), none, none] := by decide
-- the single-partition frame with a series operand (`df1.mul(df1.a, axis=0).head(3)`): not rewritten any more
example : headPush 2 1 [⟨true, 1, 2⟩, ⟨true, 1, 1⟩] 3 1 = none ∧ tailPush 2 1 [⟨true, 1, 2⟩, ⟨true, 1, 1⟩] 3 = none := by decide
example : OperandsWF 2 4 [⟨true, 4, 2⟩, ⟨true, 4, 1⟩, ⟨true, 1, 0⟩, ⟨false, 0, 0⟩] := by
  refine ⟨by decide, ?_, ?_⟩ <;> intro o ho <;> simp only [List.mem_cons, List.not_mem_nil, or_false] at ho <;>
    rcases ho with rfl | rfl | rfl | rfl <;> decide

/-- nested heads keep the INNER head's `npartitions` (D3b): `take m (take n (first k)) = take (min m n) (first k)` -/
theorem C11_head_nested (nOuter nInner : Nat) (kOuter kInner : Int) (l : List Row) :
    headNested nOuter kOuter nInner kInner = (min nOuter nInner, kInner) ∧
    (l.take nInner).take nOuter = l.take (min nOuter nInner) :=
  ⟨rfl, List.take_take ..⟩

/-- `Tail._simplify_down` (D64): the same guard and the same operands as `Head`. -/
theorem C11_tail_push_rule (selfNdim selfNp : Nat) (ops : List Operand) (n : Nat) (k : Int) :
    (tailPush selfNdim selfNp ops n).map (fun r => r.map (fun o => o.map (fun m => (m, k)))) =
      headPush selfNdim selfNp ops n k := by
  unfold tailPush headPush
  cases ambiguous selfNdim selfNp ops with
  | true => rfl
  | false =>
    rw [if_neg Bool.false_ne_true, if_neg Bool.false_ne_true, Option.map_some, List.map_map]
    refine congrArg some (List.map_congr_left fun o _ => ?_)
    show Option.map (fun m => (m, k)) (if (o.isExpr && !broadcastDep selfNdim false o) = true then some n else none) = _
    cases (o.isExpr && !broadcastDep selfNdim false o) <;> rfl

/-- **Tail push-down, full statement** (holds since D64): the wrapped operands are exactly the row-aligned ones … -/
theorem C11_tail_push_operands (selfNdim selfNp : Nat) (ops : List Operand) (n : Nat)
    (hwf : OperandsWF selfNdim selfNp ops) (r : List (Option Nat))
    (h : tailPush selfNdim selfNp ops n = some r) (i : Nat) (hi : i < ops.length) :
    r[i]? = some (if rowAligned selfNp ops[i] then some n else none) :=
  pushed_operands selfNdim selfNp ops hwf n r h i hi

/-- … and applying a row-local operation to the tails of all row-aligned operands gives the tail of its result. -/
theorem C11_tail_push (G : (Nat → List Row) → List Row) (hL : LastCommutes G)
    (rows : Nat → Nat → List Row) (hco : ∀ i, CoLen (fun d => rows d i)) (n last : Nat) :
    G (fun d => lastN n (rows d last)) = lastN n (G (fun d => rows d last)) :=
  hL _ n (hco last)

example : tailPush 1 4 [⟨true, 4, 1⟩, ⟨true, 1, 0⟩] 5 = some [some 5, none] := by decide

/-! ### 8. head of a sorted frame: `NFirst` -/

/-- **Sorted head**: the first `n` rows of the sorted frame are the first `n` rows of the sorted
    concatenation of the per-partition `n`-firsts — for every total antisymmetric order, every `n`, every
    partitioning. -/
theorem C11_sorted_head {α : Type} (le : α → α → Bool) (h : SortedHead.TotalOrder le) (n : Nat) (parts : List (List α)) :
    (parts.flatten.mergeSort le).take n =
      ((parts.flatMap (fun p => (p.mergeSort le).take n)).mergeSort le).take n := by
  have := SortedHead.topN_flatten_aux h n parts []
  rw [List.append_nil, List.append_nil] at this
  exact this

/-- the same for any sorting function (pandas' `sort_values`): under a total antisymmetric order all
    sorting functions agree. -/
theorem C11_sorted_head_any_sort {α : Type} (le : α → α → Bool) (h : SortedHead.TotalOrder le)
    (sort' : List α → List α)
    (hs : ∀ l, (sort' l).Pairwise (fun a b => le a b = true) ∧ (sort' l).Perm l) (n : Nat) (parts : List (List α)) :
    (sort' parts.flatten).take n = (sort' (parts.flatMap (fun p => (sort' p).take n))).take n := by
  have e := SortedHead.sort_unique h sort' hs
  have : (fun p => (sort' p).take n) = (fun p => (p.mergeSort le).take n) := by funext p; rw [e]
  rw [e, e, this]
  exact C11_sorted_head le h n parts

/-- tree reduction: combining partial results is idempotent -/
theorem C11_sorted_head_tree {α : Type} (le : α → α → Bool) (h : SortedHead.TotalOrder le) (n : Nat) (l : List α) :
    SortedHead.topN le n (SortedHead.topN le n l) = SortedHead.topN le n l := by
  have := SortedHead.topN_append_left h n l []
  simpa using this.symm

example : ([[5, 1, 9], [4, 8], [], [0, 7, 2]].flatten.mergeSort (fun (a b : Nat) => decide (a ≤ b))).take 2 =
    (([[5, 1, 9], [4, 8], [], [0, 7, 2]].flatMap (fun p => (p.mergeSort (fun (a b : Nat) => decide (a ≤ b))).take 2)).mergeSort
      (fun (a b : Nat) => decide (a ≤ b))).take 2 :=
  C11_sorted_head _ SortedHead.natLe_total 2 _

end Dx

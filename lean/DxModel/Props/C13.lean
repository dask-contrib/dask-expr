/-
  Props/C13.lean — property theorems for C13 (repartitioning preserves rows and order and honours the
  requested layout).  Helper lemmas live in Lemmas/Repartition*.lean.

  Conventions: `parts i` are the rows of input partition `i`; `inputs parts` feeds them to the layer;
  "concat of the outputs" is `(List.range nout).flatMap outputs`; row lists are compared with `=`
  (same rows, same order, same multiplicity).
-/
import DxModel.Lemmas.Repartition
import DxModel.Lemmas.RepartitionDiv
import DxModel.Lemmas.RepartitionPlanner
namespace Dx
open Repartition

/-! ### RepartitionToFewer -/

/-- For ANY boundary list that starts at 0, ends at `nin` and is monotone (the float expression
    `int(i * nin/nout)` is checked against exactly this predicate for all (nin, nout) ≤ 400):
    every emitted task evaluates (no error) to the concatenation of its input range, there are
    `bs.length - 1` outputs, and the outputs concatenate to the inputs, in order. -/
theorem C13_fewer (I : Interp) (bs : List Nat) (nin : Nat) (parts : Nat → List Row)
    (h : boundariesOK bs nin = true) :
    (∀ j, j + 1 < bs.length →
        run I (fewerTask bs) (Repartition.inputs parts) 1 (.out j) = .frame (fewerSem bs parts j)) ∧
    (fewerKeys bs).length = bs.length - 1 ∧
    (List.range (bs.length - 1)).flatMap (fewerSem bs parts) = (List.range nin).flatMap parts :=
  ⟨fun j hj => run_fewer I bs parts j hj, by simp [fewerKeys], fewer_concat parts bs nin h⟩

example : boundariesOK [0, 2, 3, 7] 7 = true := by decide

/-- `_divisions`: entry `j` of the reported divisions is the input division at boundary `j`. -/
theorem C13_fewer_divisions (din : List Int) (bs : List Nat) (d : List Int)
    (h : fewerDivisions din bs = some d) :
    d.length = bs.length ∧ ∀ (j i : Nat), bs[j]? = some i → d[j]? = din[i]? :=
  fewerDivisions_spec din bs d h

/-- With *strictly* increasing boundaries (also checked for all (nin, nout) ≤ 400) the reported
    divisions are truthful for the merged partitions. -/
theorem C13_fewer_divisions_truthful (din : List Int) (bs : List Nat) (nin : Nat) (parts : Nat → List Row)
    (hb : boundariesOK bs nin = true) (hs : strictMono bs = true) (hinv : DivInv din nin parts) :
    ∃ d, fewerDivisions din bs = some d ∧ DivInv d (bs.length - 1) (fewerSem bs parts) :=
  fewer_divisions_truthful din bs nin parts hb hs hinv

example : boundariesOK [0, 2, 3] 3 = true ∧ strictMono [0, 2, 3] = true ∧
    fewerDivisions [0, 10, 20, 30] [0, 2, 3] = some [0, 20, 30] := by decide

/-! ### RepartitionToMore -/

/-- `(splitEvenlySpec rows n).flatten = rows` for `n ≥ 1` — the only fact about `split_evenly` used below. -/
theorem C13_split_evenly_flatten (rows : List Row) (n : Nat) (hn : 1 ≤ n) :
    (splitEvenlySpec rows n).flatten = rows := splitEvenly_flatten rows n hn

/-- the same for pieces cut at ANY monotone cut list from 0 to `len` (the real `split_evenly` computes its
    cut points with `np.linspace(...).astype(int)`; they are checked against `boundariesOK`) -/
theorem C13_cuts_cover (rows : List Row) (cuts : List Nat) (h : boundariesOK cuts rows.length = true) :
    (List.range (cuts.length - 1)).flatMap (seg cuts rows) = rows := seg_cover rows cuts h

/-- `nsplits` all ≥ 1 (what `_nsplits` guarantees, `C13_more_nsplits`): every output task evaluates to its
    piece, and the `sum nsplits` outputs concatenate to the inputs, in order. -/
theorem C13_more (I : Interp) (ns : List Nat) (parts : Nat → List Row) (h : ∀ k ∈ ns, 1 ≤ k) :
    (∀ j, j < Repartition.sum ns →
        run I (moreTask ns) (Repartition.inputs parts) 2 (.out j) = .frame (moreSem ns parts j)) ∧
    (List.range (Repartition.sum ns)).flatMap (moreSem ns parts) = (List.range ns.length).flatMap parts :=
  ⟨fun j hj => run_more I ns parts j hj, more_concat parts ns h⟩

/-- Row preservation does not depend on where `split_evenly` cuts: any piece function whose pieces
    concatenate to their input gives the same result. -/
theorem C13_more_anycuts (pc : Nat → Nat → Nat → List Row) (parts : Nat → List Row) (ns : List Nat)
    (hcover : ∀ i k, 1 ≤ k → (List.range k).flatMap (pc i k) = parts i) (h : ∀ k ∈ ns, 1 ≤ k) :
    (List.range (Repartition.sum ns)).flatMap (moreSemP pc ns 0) = (List.range ns.length).flatMap parts := by
  rw [more_concat_P pc parts hcover ns 0 h, List.range_eq_range']

/-- `_nsplits` (integer logic, modelled exactly): `nin` entries, all ≥ 1, summing to `nout`
    whenever `1 ≤ nin ≤ nout` (RepartitionToMore is only chosen for `nout > nin`). -/
theorem C13_more_nsplits (nout nin : Nat) (h1 : 1 ≤ nin) (h2 : nin ≤ nout) :
    ∃ ns, nsplits nout nin = .ok ns ∧ (∀ k ∈ ns, 1 ≤ k) ∧ ns.length = nin ∧ Repartition.sum ns = nout :=
  nsplits_spec nout nin h1 h2

example : nsplits 7 3 = .ok [2, 2, 3] := rfl
example : ∀ k ∈ [2, 1, 3], 1 ≤ k := by decide

/-! ### RepartitionSize (nsplits / boundaries are parameters, checked by T3) -/

theorem C13_size (I : Interp) (ns bs : List Nat) (parts : Nat → List Row) (h1 : ∀ k ∈ ns, 1 ≤ k)
    (hb : boundariesOK bs (if anySplit ns then Repartition.sum ns else ns.length) = true) :
    (∀ j, j + 1 < bs.length →
        run I (sizeTask ns bs) (Repartition.inputs parts) 3 (.out j) = .frame (fewerSem bs (sizeMid ns parts) j)) ∧
    (List.range (bs.length - 1)).flatMap (fewerSem bs (sizeMid ns parts)) = (List.range ns.length).flatMap parts := by
  have ⟨_, hl, hm⟩ := boundariesOK_iff.mp hb
  refine ⟨fun j hj => run_size I ns bs parts j hj (fun x hx ha => ?_), ?_⟩
  · have := mono_le_last bs _ hm hl x hx
    simpa [ha] using this
  · rw [fewer_concat (sizeMid ns parts) bs _ hb]
    unfold sizeMid
    by_cases ha : anySplit ns = true
    · simp only [ha, if_true]
      exact more_concat parts ns h1
    · simp [ha]

example : anySplit [1, 2] = true ∧ boundariesOK [0, 2, 3] (Repartition.sum [1, 2]) = true := by decide

/-! ### RepartitionDivisions -/

/-- The emitted graph computes its plan: with every referenced piece present (`closedOK`), output `j`
    evaluates — without error — to the concatenation of its boundary slices. -/
theorem C13_div_run (I : Interp) (st : DivState) (parts : Nat → List Row) (hc : closedOK st = true)
    (j : Nat) (hj : j < st.outs.length) :
    run I (divTask st) (Repartition.inputs parts) 2 (.out j) = .frame (runPlan (planOf st) parts j) :=
  run_div_out I st parts hc j hj

/-- **Plan validator.**  If the executable check `planOK a b plan` succeeds then, for EVERY input whose
    partitions satisfy the old divisions `a` (any number of rows, duplicates, empty partitions), running
    the plan returns exactly the input rows in their original order, and the outputs satisfy the new
    divisions `b`.  The check is run on every enumerated real plan (`check planok`). -/
theorem C13_div_validator (a b : List Int) (plan : Plan) (n : Nat) (parts : Nat → List Row)
    (hok : planOK a b plan = true) (hinv : DivInv a n parts) :
    (List.range plan.length).flatMap (runPlan plan parts) = (List.range n).flatMap parts ∧
    DivInv b plan.length (runPlan plan parts) :=
  planOK_sound a b plan n parts hok hinv

-- non-vacuity: the plan emitted for a = [0,2,4], b = [0,1,4,4] passes the validator, …
example : planOK [0, 2, 4] [0, 1, 4, 4]
    [[⟨0, 0, 1, false⟩], [⟨0, 1, 2, false⟩, ⟨1, 2, 4, false⟩], [⟨1, 4, 4, true⟩]] = true := by decide
-- … a plan that loses the rows with index 4 does not, …
example : planOK [0, 2, 4] [0, 1, 4, 4]
    [[⟨0, 0, 1, false⟩], [⟨0, 1, 2, false⟩, ⟨1, 2, 4, false⟩], [⟨1, 4, 4, false⟩]] = false := by decide
-- … and `DivInv` is satisfiable by a frame with duplicate index values and an empty partition.
example : DivInv [0, 2, 2, 4] 3 (fun i => if i = 0 then [⟨0, 0, 0⟩, ⟨1, 0, 1⟩, ⟨1, 0, 2⟩] else if i = 2 then [⟨2, 0, 3⟩, ⟨4, 0, 4⟩] else []) := by
  refine divInv_intro rfl (by decide) ?_ ?_ <;> intro i hi <;>
    match i with
    | 0 => decide
    | 1 => decide
    | 2 => decide

/-- The plan the model planner emits for the D13 shape (old divisions `[2,2]`, new `[0,1,2,2]`, force):
    the validator rejects it — and indeed the rows are lost (open finding D13). -/
theorem C13_div_D13_counterexample :
    (match planner [2, 2] [0, 1, 2, 2] true with
      | .ok st => closedOK st && planOK [2, 2] [0, 1, 2, 2] (planOf st)
      | .error _ => true) = false ∧
    (match planner [2, 2] [0, 1, 2, 2] true with
      | .ok st => (List.range 3).flatMap (runPlan (planOf st) (fun _ => [⟨2, 0, 7⟩]))
      | .error _ => [⟨2, 0, 7⟩]) = [] := by decide

/-
  FULL STATEMENT (not proven in this generality):

  theorem C13_div_planner (a b : List Int) (force : Bool)
      (ha : isStrictSorted a = true) (hb : isSorted b = true) (hlen : 2 ≤ a.length)
      (hcov : covered a b force = true) :
      ∃ st, planner a b force = .ok st ∧ closedOK st = true ∧ planOK a b (planOf st) = true

  It holds on every enumerated instance (all a, b over {0..5} of length ≤ 5: the validator accepts
  every plan emitted for strictly increasing `a`; the only rejected plans have a constant `a = [v,…,v]`,
  finding D13).  What is proven for all sizes is the sub-class below; the remaining cases (repeated
  values in `b`, forced extension `b[0] < a[0]` / `a[-1] < b[-1]`, repeated last value of `a`) are
  covered per input by running the proven validator on the real plan.
-/

/-- **Planner theorem, partial**: strictly increasing old and new divisions with equal end points
    (the documented use of `repartition(divisions=…)`), any `force`, any length: the planner succeeds
    and its plan passes the validator — hence (`C13_div_validator`, `C13_div_run`) the emitted graph
    returns the input rows in order, partitioned along `b`. -/
theorem C13_div_planner_partial (a b : List Int) (force : Bool)
    (ha : isStrictSorted a = true) (hb : isStrictSorted b = true)
    (hla : 2 ≤ a.length) (hlb : 2 ≤ b.length)
    (h0 : a.head? = b.head?) (hn : a.getLast? = b.getLast?) :
    ∃ st, planner a b force = .ok st ∧ closedOK st = true ∧ planOK a b (planOf st) = true :=
  planner_strict a b force ha hb hla hlb h0 hn

example : isStrictSorted [0, 2, 4, 9] = true ∧ isStrictSorted [0, 1, 4, 5, 9] = true := by decide

/-- End-to-end corollary for that class: the emitted *graph* evaluates (no error) to outputs that hold
    exactly the input rows in order and satisfy the new divisions, for every input satisfying the old ones. -/
theorem C13_div_strict_end_to_end (I : Interp) (a b : List Int) (force : Bool) (n : Nat) (parts : Nat → List Row)
    (ha : isStrictSorted a = true) (hb : isStrictSorted b = true)
    (hla : 2 ≤ a.length) (hlb : 2 ≤ b.length)
    (h0 : a.head? = b.head?) (hn : a.getLast? = b.getLast?) (hinv : DivInv a n parts) :
    ∃ st outs, planner a b force = .ok st ∧ st.outs.length + 1 = b.length ∧
      (∀ j, j < st.outs.length → run I (divTask st) (Repartition.inputs parts) 2 (.out j) = .frame (outs j)) ∧
      (List.range st.outs.length).flatMap outs = (List.range n).flatMap parts ∧
      DivInv b st.outs.length outs := by
  obtain ⟨st, hp, hc, hok⟩ := planner_strict a b force ha hb hla hlb h0 hn
  have ⟨h1, h2⟩ := planOK_sound a b (planOf st) n parts hok hinv
  have hlen : (planOf st).length = st.outs.length := by simp [planOf]
  rw [hlen] at h1 h2
  exact ⟨st, runPlan (planOf st) parts, hp, by have := h2.len; omega,
    fun j hj => run_div_out I st parts hc j hj, h1, h2⟩


/-! ### requests that cannot be satisfied are rejected -/

/-- Range not covered (different end points without `force`; new range smaller than the old one with
    `force`; fewer than two new divisions): the planner raises `ValueError` — it never emits a graph. -/
theorem C13_reject_uncovered (a b : List Int) (force : Bool) (hla : 2 ≤ a.length)
    (h : covered a b force = false) : planner a b force = .error .value :=
  planner_rejects a b force hla h

example : covered [0, 2, 4] [0, 1, 3] false = false := by decide
example : covered [0, 2, 4] [1, 5] true = false := by decide

/-- … and conversely a covered request is never answered with `ValueError`. -/
theorem C13_no_spurious_reject (a b : List Int) (force : Bool)
    (h : covered a b force = true) : planner a b force ≠ .error .value :=
  planner_no_value_error a b force h

/-- Unknown input divisions: `Repartition._lower` raises `ValueError` for every non-empty `new_divisions`. -/
theorem C13_reject_unknown (nin : Nat) (num sz : Bool) (d : Int) (ds : List Int) :
    lowerDecision none nin none num (some (d :: ds)) sz = .error .value := rfl

/-- `_lower` picks `RepartitionToFewer` / `ToMore` only on the side of `nin` their theorems assume. -/
theorem C13_lower_dispatch (np nin : Nat) (fd : Option (List Int)) (num : Bool) (nd : Option (List Int)) (sz : Bool) :
    (lowerDecision (some np) nin fd num nd sz = .ok .toFewer → np < nin) ∧
    (lowerDecision (some np) nin fd num nd sz = .ok .toMore → nin < np) := by
  unfold lowerDecision
  simp only
  by_cases h1 : np < nin
  · simp [h1]
  · by_cases h2 : np = nin
    · simp [h2]
    · simp only [h1, h2, if_false]
      refine ⟨?_, fun _ => by omega⟩
      split <;> simp

end Dx

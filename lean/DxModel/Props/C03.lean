/-
  Props/C03.lean — "A filter keeps exactly the rows that satisfy the user's predicate".

  All statements are over unbounded predicate trees, all valuations, all row lists.
  Model: DxModel/Pred.lean (transliteration of rewrite_filters, _DNF, the Merge decision tables).
  Table: DxModel/Generated/FilterFlags.lean (regenerated from the live classes on every run).
-/
import DxModel.Pred
import DxModel.Lemmas.Pred
import DxModel.Lemmas.PredDNF
import DxModel.Lemmas.PredJoin
import DxModel.Lemmas.PredCross
import DxModel.Generated.FilterFlags
namespace Dx
open Dx.Pred

/-! ### OR-factoring -/

/-- `rewrite_filters` never changes the truth value of a predicate — any atoms, any tree, any valuation. -/
theorem C03_or_factoring {α : Type} [DecidableEq α] (p : T α) (v : α → Bool) :
    eval2 v (rewriteFilters p) = eval2 v p := by
  unfold rewriteFilters
  have hp := eval_getComponents_or v p
  cases hc : getComponents .or p with
  | nil => rfl
  | cons f rest =>
    cases rest with
    | nil => rfl
    | cons g rest' =>
      simp only
      cases hr : replaceCommonOr f (g :: rest') with
      | none => rfl
      | some r =>
        simp only
        rw [replaceCommonOr_sound v f (g :: rest') r hr, ← hp, hc]

-- non-vacuity: the rewrite fires, factors, and takes the early-return branch
example : rewriteFilters (T.or (.and (.atom 0) (.atom 1)) (.and (.atom 0) (.atom 2)) : P)
    = .and (.atom 0) (.or (.atom 1) (.atom 2)) := by decide
example : rewriteFilters (T.or (.and (.atom 0) (.atom 1)) (.atom 0) : P) = .atom 0 := by decide
-- duplicates collapse (dict keyed by name) and the whole first branch is consumed: early `return outer_component`
example : rewriteFilters (T.or (.and (.atom 0) (.and (.not (.atom 1)) (.atom 0))) (.and (.not (.atom 1)) (.and (.atom 2) (.atom 0))) : P)
    = .and (.atom 0) (.not (.atom 1)) := by decide

/-! ### re-assembling the parent after the OR rewrite -/

/-- `Filter._simplify_up` returns `parent.substitute(self, new_filter)`: every operand that is the filter becomes
    the rewritten filter, every other operand is untouched — wherever the filter sits. -/
theorem C03_or_rewrite_parent {ε : Type} [DecidableEq ε] (operands : List ε) (self new : ε) (i : Nat) :
    (substituteOperand operands self new)[i]? = (operands[i]?).map (fun o => if o = self then new else o) := by
  simp [substituteOperand]

/-- … hence the parent sees operands of unchanged meaning, for any meaning `ev` under which the rewritten filter
    equals the old one (`C03_or_factoring` gives that for the rows of `Filter(frame, rewrite_filters p)`) -/
theorem C03_or_rewrite_parent_meaning {ε V : Type} [DecidableEq ε] (ev : ε → V) (operands : List ε) (self new : ε)
    (h : ev new = ev self) : (substituteOperand operands self new).map ev = operands.map ev := by
  simp only [substituteOperand, List.map_map]
  apply List.map_congr_left
  intro o _
  simp only [Function.comp]
  split
  · next heq => rw [h, heq]
  · rfl

/-- the re-assembly the code used before (`type(parent)(new, *parent.operands[1:])`), kept as a hypothetical -/
def rebuildFirst {ε} (operands : List ε) (new : ε) : List ε := new :: operands.drop 1

/-- why that is wrong: with the filter as second operand (right input of a Merge, right operand of a binop,
    a frame of Concat) the first operand is overwritten and the old filter stays -/
theorem C03_rebuild_first_would_be_unsound :
    ∃ (operands : List Nat) (self new : Nat), self ∈ operands ∧
      rebuildFirst operands new ≠ substituteOperand operands self new :=
  ⟨[7, 1], 1, 2, by decide, by decide⟩

example : substituteOperand [7, 1, 8] 1 2 = [7, 2, 8] := by decide

/-! ### splitting a conjunction, squashing consecutive filters -/

/-- `Filter(m, p & q)` = `Filter(Filter(m, p), q)` on row lists (the `And` branch of `Merge._simplify_up`) -/
theorem C03_and_split {ρ : Type} (p q : ρ → Bool) (rows : List ρ) :
    rows.filter (fun r => p r && q r) = (rows.filter p).filter q := by
  rw [List.filter_filter]
  apply List.filter_congr
  intro r _
  exact Bool.and_comm _ _

/-- Squashing `Filter(Filter(f, p), q)` into `Filter(f, p & q[self := f])`.  A predicate may read the whole
    frame it is evaluated on (`x.a > x.a.sum()`), so it is a function of the frame and the row; the rule is sound
    when the outer predicate does not notice the substitution (`allow_reduction=False` in the code). -/
theorem C03_squash {ρ : Type} (p : ρ → Bool) (q : List ρ → ρ → Bool) (rows : List ρ)
    (hlocal : ∀ r, q (rows.filter p) r = q rows r) :
    (rows.filter p).filter (q (rows.filter p)) = rows.filter (fun r => p r && q rows r) := by
  rw [List.filter_filter]
  apply List.filter_congr
  intro r _
  rw [hlocal r]
  exact Bool.and_comm _ _

/-- without the side condition squashing is wrong: outer predicate "value < number of rows of my frame" -/
theorem C03_squash_counterexample :
    ∃ (p : Nat → Bool) (q : List Nat → Nat → Bool) (rows : List Nat),
      (rows.filter p).filter (q (rows.filter p)) ≠ rows.filter (fun r => p r && q rows r) :=
  ⟨fun r => r != 0, fun fr r => decide (r < fr.length), [0, 1, 2], by decide⟩

example : ([1, 2, 3, 4].filter (fun r => decide (r > 1))).filter ((fun _ r => decide (r < 4)) ([1, 2, 3, 4].filter (fun r => decide (r > 1))))
    = [2, 3] := by decide

/-! ### crossing an operator, by category -/

/-- row-local, value-preserving operator: the filter moves below it, exactly (order kept) -/
theorem C03_cross_rowlocal {ρ σ : Type} (op : List ρ → List σ) (f : ρ → σ) (predOut : σ → Bool) (predIn : ρ → Bool)
    (h1 : RowLocalLaw op f) (h2 : ValuePreserving f predOut predIn) (rows : List ρ) :
    (op rows).filter predOut = op (rows.filter predIn) := by
  rw [h1.map, h1.map, List.filter_map]
  congr 1
  apply List.filter_congr
  intro r _
  exact h2.agree r

theorem C03_cross_rowlocal_map {ρ σ : Type} (f : ρ → σ) (predOut : σ → Bool) (predIn : ρ → Bool)
    (h : ∀ r, predOut (f r) = predIn r) (rows : List ρ) :
    (rows.map f).filter predOut = (rows.filter predIn).map f :=
  C03_cross_rowlocal (List.map f) f predOut predIn ⟨fun _ => rfl⟩ ⟨h⟩ rows

/-- why the input may only be substituted into the predicate under a value-preservation guard (D8, fixed):
    for a value-changing row-local operator the substituted predicate selects other rows -/
theorem C03_cast_substitution_would_be_unsound :
    ∃ (f : Int → Int) (pred : Int → Bool) (rows : List Int), (rows.map f).filter pred ≠ (rows.filter pred).map f :=
  ⟨fun x => x / 2, fun x => decide (x > 0), [1, 2], by decide⟩

/-- a row-local operator that may change values (`astype` with an unsafe cast): the filter still moves below it
    when its predicate keeps reading the operator's output — `AsType(frame[pred(AsType(frame))])`, which is what
    `AsType._simplify_up` builds when `_is_value_preserving()` is false.  No hypothesis on the cast. -/
theorem C03_cross_rowlocal_cast {ρ σ : Type} (op : List ρ → List σ) (f : ρ → σ) (pred : σ → Bool)
    (h : RowLocalLaw op f) (rows : List ρ) :
    (op rows).filter pred = op (rows.filter (fun r => pred (f r))) :=
  C03_cross_rowlocal op f pred (fun r => pred (f r)) h ⟨fun _ => rfl⟩ rows

/-- reordering operator (shuffle, sort): the same rows, up to the order the operator leaves unspecified -/
theorem C03_cross_reorder {ρ : Type} (op : List ρ → List ρ) (h : ReorderLaw op) (p : ρ → Bool) (rows : List ρ) :
    ((op rows).filter p).Perm (op (rows.filter p)) :=
  ((h.perm rows).filter p).trans (h.perm (rows.filter p)).symm

/-- a filter keeps any pairwise order established below it (sorted stays sorted) -/
theorem C03_cross_sorted {ρ : Type} (le : ρ → ρ → Prop) (p : ρ → Bool) (rows : List ρ)
    (h : rows.Pairwise le) : (rows.filter p).Pairwise le :=
  h.filter p

/-- partition-only operator (repartition): per-partition filtering commutes, as concatenations -/
theorem C03_cross_partition_only {ρ : Type} (op : List (List ρ) → List (List ρ)) (h : PartitionOnlyLaw op)
    (p : ρ → Bool) (parts : List (List ρ)) :
    ((op parts).map (List.filter p)).flatten = (op (parts.map (List.filter p))).flatten := by
  rw [← List.filter_flatten, h.concat, h.concat, List.filter_flatten]

/-- row-selecting operator (another filter) -/
theorem C03_cross_rowselect {ρ : Type} (op : List ρ → List ρ) (s : ρ → Bool) (h : RowSelectLaw op s)
    (p : ρ → Bool) (rows : List ρ) : (op rows).filter p = op (rows.filter p) := by
  rw [h.sel, h.sel, List.filter_filter, List.filter_filter]
  apply List.filter_congr
  intro r _
  exact Bool.and_comm _ _

/-- a reordering of a row-local value-preserving image (`set_index`, whose own check excludes predicates on the index) -/
theorem C03_cross_reorder_after_rowlocal {ρ σ : Type} (g : List σ → List σ) (f : ρ → σ)
    (predOut : σ → Bool) (predIn : ρ → Bool) (hg : ReorderLaw g) (hf : ∀ r, predOut (f r) = predIn r)
    (rows : List ρ) : ((g (rows.map f)).filter predOut).Perm (g ((rows.filter predIn).map f)) := by
  rw [← C03_cross_rowlocal_map f predOut predIn hf rows]
  exact C03_cross_reorder g hg predOut (rows.map f)

/-- what "a filter commutes with every operator of this category" means -/
def FilterCommutes : Category → Prop
  | .rowLocalValuePreserving =>
      ∀ (ρ σ : Type) (op : List ρ → List σ) (f : ρ → σ) (predOut : σ → Bool) (predIn : ρ → Bool),
        RowLocalLaw op f → ValuePreserving f predOut predIn → ∀ rows, (op rows).filter predOut = op (rows.filter predIn)
  | .rowLocalGuarded =>
      -- under the class's guard (values the predicate reads are preserved) the input is substituted; otherwise not
      ∀ (ρ σ : Type) (op : List ρ → List σ) (f : ρ → σ) (predOut : σ → Bool), RowLocalLaw op f →
        (∀ rows, (op rows).filter predOut = op (rows.filter (fun r => predOut (f r)))) ∧
        (∀ predIn : ρ → Bool, ValuePreserving f predOut predIn → ∀ rows, (op rows).filter predOut = op (rows.filter predIn))
  | .reorder =>
      ∀ (ρ : Type) (op : List ρ → List ρ), ReorderLaw op → ∀ p rows, ((op rows).filter p).Perm (op (rows.filter p))
  | .partitionOnly =>
      ∀ (ρ : Type) (op : List (List ρ) → List (List ρ)), PartitionOnlyLaw op → ∀ p parts,
        ((op parts).map (List.filter p)).flatten = (op (parts.map (List.filter p))).flatten
  | .rowSelect =>
      ∀ (ρ : Type) (op : List ρ → List ρ) (s : ρ → Bool), RowSelectLaw op s → ∀ p rows, (op rows).filter p = op (rows.filter p)
  | .needsOwnCheck => False
  | .unclassified => False

theorem C03_cross (c : Category) (h : c.filterCommuting = true) : FilterCommutes c := by
  cases c with
  | rowLocalValuePreserving => intro ρ σ op f po pi h1 h2 rows; exact C03_cross_rowlocal op f po pi h1 h2 rows
  | rowLocalGuarded =>
    intro ρ σ op f po h1
    exact ⟨fun rows => C03_cross_rowlocal_cast op f po h1 rows,
           fun pi h2 rows => C03_cross_rowlocal op f po pi h1 h2 rows⟩
  | reorder => intro ρ op h p rows; exact C03_cross_reorder op h p rows
  | partitionOnly => intro ρ op h p parts; exact C03_cross_partition_only op h p parts
  | rowSelect => intro ρ op s h p rows; exact C03_cross_rowselect op s h p rows
  | needsOwnCheck => cases h
  | unclassified => cases h

/-- T1 table obligation, re-decided by the kernel against the live class table on every run:
    every class whose `_filter_passthrough` is True (or that overrides `_filter_passthrough_available`)
    is in a category for which crossing is proven above, or decides through its own override
    (`Merge`: C03_join_*; `ReadParquet*`: C03_reader_*; `SetIndex`: C03_cross_reorder_after_rowlocal). -/
theorem C03_passthrough_table : ∀ e ∈ Generated.filterFlags, e.ok = true := by
  have h : Generated.filterFlags.all FlagEntry.ok = true := by decide +kernel
  exact fun e he => List.all_eq_true.mp h e he

theorem C03_passthrough_sound (e : FlagEntry) (he : e ∈ Generated.filterFlags) (hf : e.flag = true) :
    FilterCommutes e.cat ∨ (e.ownCheck = true ∧ e.cat = .needsOwnCheck) := by
  have h := C03_passthrough_table e he
  simp only [FlagEntry.ok, hf, Bool.true_or, if_true, Bool.or_eq_true, Bool.and_eq_true, beq_iff_eq] at h
  rcases h with h | h
  · exact Or.inl (C03_cross e.cat h)
  · exact Or.inr h

-- non-vacuity: instances of each law
example : RowLocalLaw (List.map (fun x : Nat => x + 1)) (fun x => x + 1) := ⟨fun _ => rfl⟩
example : ValuePreserving (fun x : Nat × Nat => (x.1, x.2 + 1)) (fun r => decide (r.1 > 1)) (fun r => decide (r.1 > 1)) := ⟨fun _ => rfl⟩
example : ReorderLaw (List.reverse : List Nat → List Nat) := ⟨fun rows => List.reverse_perm rows⟩
example : PartitionOnlyLaw (fun parts : List (List Nat) => [parts.flatten]) := ⟨fun parts => by simp⟩
example : RowSelectLaw (List.filter (fun x : Nat => decide (x > 2))) (fun x => decide (x > 2)) := ⟨fun _ => rfl⟩
example : (Generated.filterFlags.filter (fun e => e.flag)).length > 20 := by decide

/-! ### the value-preservation guard of `AsType` -/

/-- an exact cast keeps every integer value of the source dtype: no wrap-around, no rounding -/
theorem C03_cast_exact_sound (o n : NDType) (lo hi z : Int) (h : castExact o n = true)
    (hr : o.intRange = some (lo, hi)) (h1 : lo ≤ z) (h2 : z ≤ hi) : exactIn n z = true := by
  -- no look at the dtype table: `castExact` compares the source range with the very interval `exactIn` tests
  unfold castExact at h
  unfold exactIn
  rw [hr] at h
  generalize n.intRange = ri at h ⊢
  generalize n.float = rf at h ⊢
  rcases ri with _ | ⟨lo', hi'⟩
  · rcases rf with _ | ⟨w, b⟩
    · cases h
    · simp only [Bool.and_eq_true, decide_eq_true_eq] at h ⊢
      exact ⟨Int.le_trans h.1 h1, Int.le_trans h2 h.2⟩
  · simp only [Bool.and_eq_true, decide_eq_true_eq] at h ⊢
    exact ⟨Int.le_trans h.1 h1, Int.le_trans h2 h.2⟩

/-- a cast to the same dtype is exact — the only place the dtype table is gone through (every dtype has an integer
    range or a float width, so `castExact n n` compares the range, or the width, with itself) -/
theorem castExact_refl (n : NDType) : castExact n n = true := by
  cases n <;> rfl

/-- the guard the code uses admits exactly the exact casts and 64-bit integers → float64 -/
theorem castGuard_iff (o n : NDType) :
    castGuard o n = true ↔ castExact o n = true ∨ ((o = .i64 ∨ o = .u64) ∧ n = .f64) := by
  simp only [castGuard, numpySafe, Bool.or_eq_true, Bool.and_eq_true, beq_iff_eq]
  constructor
  · rintro (rfl | h)
    · exact Or.inl (castExact_refl o)
    · exact h
  · exact Or.inr

/-- FULL STATEMENT (false on the current tree, D36 open): `castGuard o n = true → castExact o n = true`. -/
theorem C03_cast_guard_partial (o n : NDType) (h : castGuard o n = true)
    (hex : ¬ ((o = .i64 ∨ o = .u64) ∧ n = .f64)) : castExact o n = true :=
  ((castGuard_iff o n).mp h).resolve_right hex

/-- the excluded cells: numpy calls int64 → float64 safe, but 2^53 + 1 is an int64 that float64 cannot hold -/
theorem C03_cast_guard_counterexample :
    castGuard .i64 .f64 = true ∧ castExact .i64 .f64 = false
    ∧ exactIn .i64 9007199254740993 = true ∧ exactIn .f64 9007199254740993 = false := by decide

/-- narrowing casts inside one kind are refused by the guard (what `casting="same_kind"` would let through) -/
theorem C03_cast_guard_refuses_narrowing :
    castGuard .f64 .f32 = false ∧ castGuard .i64 .i32 = false ∧ castGuard .i32 .f32 = false
    ∧ castGuard .u8 .i8 = false ∧ castGuard .f32 .i64 = false := by decide

example : castGuard .i32 .f64 = true ∧ castGuard .u16 .f32 = true ∧ castGuard .f32 .f64 = true ∧ castGuard .bool .i8 = true := by decide

/-! ### reader filters: DNF -/

/-- `_DNF.normalize` keeps the meaning of a filter, for any reading `t` of the tuples
    (two-valued pandas reading, or the reader's "is non-null true") -/
theorem C03_dnf {α : Type} (f : Filt α) (t : α → Bool) : evalDNF t (dnfNormalize f) = evalFilt t f :=
  eval_dnfNormalize t f

/-- normalising a normalised value changes nothing (exactly, as lists) -/
theorem C03_dnf_idempotent {α : Type} (d : DNF α) : dnfNormalize (Filt.ofDNF d) = d :=
  dnfNormalize_ofDNF d

/-- `_DNF.combine`: the conjunction of the pushed predicate and the filters already on the reader -/
theorem C03_dnf_combine {α : Type} [DecidableEq α] (t : α → Bool) (a b : Option (DNF α))
    (ha : ∀ d, a = some d → d ≠ []) (hb : ∀ d, b = some d → d ≠ []) :
    evalODNF t (dnfCombine a b) = (evalODNF t a && evalODNF t b) := by
  cases a with
  | none =>
    cases b with
    | none => simp [dnfCombine, dnfNormalizeTop, evalODNF]
    | some b =>
      have hb' := hb b rfl
      cases b with
      | nil => exact absurd rfl hb'
      | cons c cs =>
        simp only [dnfCombine, Option.map, dnfNormalizeTop, ofDNF_truthy, List.isEmpty_cons, Bool.not_false,
          if_true, evalODNF, dnfNormalize_ofDNF, Bool.true_and]
  | some a =>
    have ha' := ha a rfl
    cases a with
    | nil => exact absurd rfl ha'
    | cons c cs =>
      cases b with
      | none =>
        simp only [dnfCombine, dnfNormalizeTop, ofDNF_truthy, List.isEmpty_cons, Bool.not_false,
          if_true, evalODNF, dnfNormalize_ofDNF, Bool.and_true]
      | some b =>
        simp only [dnfCombine, dnfNormalizeTop, Filt.truthy, pairSet_ne_nil, Bool.not_false, if_true, evalODNF]
        rw [eval_dnfNormalize]
        simp only [evalFilt, evalAll_pairSet]

/-- `_DNF.extract_pq_filters`: whenever it yields filters, they mean the predicate (under any reading of the
    tuples), the predicate is negation-free, and the result is a non-empty DNF -/
theorem C03_extract (p : T Atom) (d : DNF Atom) (h : extractPq p = some d) :
    d ≠ [] ∧ p.negFree = true ∧ ∀ t : Atom → Bool, evalDNF t d = eval2 t p := by
  induction p generalizing d with
  | atom a =>
    obtain ⟨_, rfl⟩ := extractPq_atom_inv h
    exact ⟨List.cons_ne_nil _ _, rfl, fun t => by simp only [evalDNF, List.any_cons, List.all_cons, List.all_nil,
      List.any_nil, Bool.and_true, Bool.or_false, eval2]⟩
  | not a _ => cases h
  | and l r ihl ihr =>
    obtain ⟨dl, dr, hl, hr, rfl⟩ := extractPq_node_inv .andS (fun _ => rfl) h
    obtain ⟨nl, fl, el⟩ := ihl dl hl
    obtain ⟨nr, fr, er⟩ := ihr dr hr
    refine ⟨normalize_and_pairSet_ne_nil dl dr nl nr, by simp only [T.negFree, fl, fr, Bool.and_self], fun t => ?_⟩
    rw [eval_dnfNormalize]
    simp only [evalFilt, evalAll_pairSet, el, er, eval2]
  | or l r ihl ihr =>
    obtain ⟨dl, dr, hl, hr, rfl⟩ := extractPq_node_inv .orS (fun _ => rfl) h
    obtain ⟨nl, fl, el⟩ := ihl dl hl
    obtain ⟨nr, fr, er⟩ := ihr dr hr
    refine ⟨normalize_or_pairSet_ne_nil dl dr nl, by simp only [T.negFree, fl, fr, Bool.and_self], fun t => ?_⟩
    rw [eval_dnfNormalize]
    simp only [evalFilt, evalAny_pairSet, el, er, eval2]

/-- the reader's three-valued row test on the DNF equals the Kleene "kept" reading of the predicate tree -/
theorem C03_dnf_kleene (p : T Atom) (d : DNF Atom) (h : extractPq p = some d) (v : Cells) :
    keepDNF3 v d = keep3 v p := by
  obtain ⟨_, hn, he⟩ := C03_extract p d h
  rw [keep3_negFree v p hn]
  exact he _

/-- negation-free predicates over null-compatible atoms: the reader keeps exactly the rows pandas keeps -/
theorem C03_reader_nulls (p : T Atom) (v : Cells) (hneg : p.negFree = true)
    (hnc : ∀ a ∈ p.atoms, a.NullCompatible = true) : keep3 v p = eval2c v p := by
  rw [keep3_negFree v p hneg]
  unfold eval2c
  apply eval2_congr_atoms
  intro a ha
  exact atom_nullCompatible v a (hnc a ha)

/-- everything the code pushes is null-compatible (`!=` is not extracted any more) -/
theorem C03_extract_null_compatible (p : T Atom) (d : DNF Atom) (h : extractPq p = some d) :
    ∀ a ∈ p.atoms, a.NullCompatible = true := by
  induction p generalizing d with
  | atom a =>
    intro b hb
    obtain ⟨⟨col, op, c, rfl, hop⟩, _⟩ := extractPq_atom_inv h
    cases List.mem_singleton.mp hb
    simp only [Atom.NullCompatible, bne_iff_ne, ne_eq, hop, not_false_eq_true]
  | not a _ => cases h
  | and l r ihl ihr =>
    obtain ⟨dl, dr, hl, hr, _⟩ := extractPq_node_inv .andS (fun _ => rfl) h
    exact fun a ha => (List.mem_append.mp ha).elim (ihl dl hl a) (ihr dr hr a)
  | or l r ihl ihr =>
    obtain ⟨dl, dr, hl, hr, _⟩ := extractPq_node_inv .orS (fun _ => rfl) h
    exact fun a ha => (List.mem_append.mp ha).elim (ihl dl hl a) (ihr dr hr a)

/-- end to end for a pushed predicate, no side condition: whenever `extract_pq_filters` yields filters, the reader's
    three-valued row test on them keeps exactly the rows pandas keeps for the predicate — with nulls -/
theorem C03_reader_pushdown (p : T Atom) (d : DNF Atom) (v : Cells) (h : extractPq p = some d) :
    keepDNF3 v d = eval2c v p := by
  rw [C03_dnf_kleene p d h v]
  exact C03_reader_nulls p v (C03_extract p d h).2.1 (C03_extract_null_compatible p d h)

/-- why `!=` must not be pushed (D9, fixed): as a reader filter it drops the row whose cell is null, pandas keeps it -/
theorem C03_ne_pushdown_would_be_unsound :
    ∃ (v : Cells), keepDNF3 v [[Atom.cmp 0 .ne 2]] ≠ eval2c v (.atom (.cmp 0 .ne 2)) :=
  ⟨fun _ => none, by decide⟩

/-- … and the code refuses it, alone or inside a conjunction / disjunction -/
theorem C03_ne_not_extracted (col : Nat) (c : Int) (q : T Atom) :
    extractPq (.atom (.cmp col .ne c)) = none
    ∧ extractPq (.and (.atom (.cmp col .ne c)) q) = none
    ∧ extractPq (.or q (.atom (.cmp col .ne c))) = none := by
  refine ⟨rfl, rfl, ?_⟩
  simp only [extractPq]
  cases extractPq q <;> rfl

example : extractPq (.or (.and (.atom (.cmp 0 .lt 3)) (.atom (.cmp 1 .ge 2))) (.atom (.cmp 0 .eq 7)))
    = some [[.cmp 0 .lt 3, .cmp 1 .ge 2], [.cmp 0 .eq 7]] := by decide
example : extractPq (.and (.or (.atom (.cmp 0 .lt 3)) (.atom (.cmp 1 .ge 2))) (.or (.atom (.cmp 0 .eq 7)) (.atom (.cmp 2 .gt 0))))
    = some [[.cmp 0 .lt 3, .cmp 0 .eq 7], [.cmp 0 .lt 3, .cmp 2 .gt 0], [.cmp 1 .ge 2, .cmp 0 .eq 7], [.cmp 1 .ge 2, .cmp 2 .gt 0]] := by decide
-- equal operands collapse (frozenset): `(x | y) & (y | x)` stays `x | y`
example : extractPq (.and (.or (.atom (.cmp 0 .lt 3)) (.atom (.cmp 1 .ge 2))) (.or (.atom (.cmp 1 .ge 2)) (.atom (.cmp 0 .lt 3))))
    = some [[.cmp 0 .lt 3], [.cmp 1 .ge 2]] := by decide
example : keep3 (fun c => if c = 0 then none else some 5) (.or (.atom (.cmp 0 .lt 3)) (.atom (.cmp 1 .ge 2))) = true := by decide

-- non-vacuity of C03_reader_nulls: a negation-free formula over null-compatible atoms, a row with a null
def exReader : T Atom := .or (.atom (.cmp 0 .lt 3)) (.and (.atom (.isna 0 false)) (.atom (.isin 1 false [5, 6])))
example : exReader.negFree = true ∧ (∀ a ∈ exReader.atoms, a.NullCompatible = true)
    ∧ keep3 (fun c => if c = 0 then none else some 5) exReader = true := by decide
-- non-vacuity of C03_dnf_combine: both sides present and non-empty
example : dnfCombine (some [[Atom.cmp 0 .lt 3], [Atom.cmp 1 .ge 2]]) (some [[Atom.cmp 2 .eq 1]])
    = some [[.cmp 0 .lt 3, .cmp 2 .eq 1], [.cmp 1 .ge 2, .cmp 2 .eq 1]] := by decide
-- n-ary normalize: _And{ _Or{x, y}, z, _Or{_And{x, z}} }
example : dnfNormalize (Filt.andS [.orS [.tup 1, .tup 2], .tup 3, .orS [.andS [.tup 1, .tup 3]]] : Filt Nat)
    = [[1, 3, 1, 3], [2, 3, 1, 3]] := by decide

/-! ### joins -/

/-- The replacement "filter the output" → "filter the inputs named by `sides`" is right for every match
    relation, every pair of inputs and every predicate that reads only the named side
    (for both sides: a key column on which matching rows agree). -/
def JoinFilterLegal (how : How) (sides : Bool × Bool) : Prop :=
  match sides with
  | (false, false) => True
  | (true, false) => ∀ (α β : Type) (m : α → β → Bool) (L : List α) (R : List β) (p : Option α → Bool),
      (join how m L R).filter (fun jr => p jr.1) = join how m (L.filter (fun a => p (some a))) R
  | (false, true) => ∀ (α β : Type) (m : α → β → Bool) (L : List α) (R : List β) (q : Option β → Bool),
      (join how m L R).filter (fun jr => q jr.2) = join how m L (R.filter (fun b => q (some b)))
  | (true, true) => ∀ (α β : Type) (m : α → β → Bool) (L : List α) (R : List β) (p : Option α → Bool) (sR : β → Bool),
      (∀ a b, m a b = true → sR b = p (some a)) →
      (join how m L R).filter (fun jr => p jr.1) = join how m (L.filter (fun a => p (some a))) (R.filter sR)

/-- exactly the join kinds the legality table names -/
theorem C03_join_side (how : How) (sides : Bool × Bool) (h : joinPushLegal how sides = true) :
    JoinFilterLegal how sides := by
  obtain ⟨l, r⟩ := sides
  cases l <;> cases r
  · trivial
  · simp only [joinPushLegal, Bool.or_eq_true, beq_iff_eq] at h
    exact fun α β m L R q => join_right_push how h m L R q
  · simp only [joinPushLegal, Bool.or_eq_true, beq_iff_eq, or_assoc] at h
    exact fun α β m L R p => join_left_push how h m L R p
  · simp only [joinPushLegal, Bool.or_eq_true, beq_iff_eq, or_assoc] at h
    exact fun α β m L R p sR hag => join_both_push how h m L R p sR hag

/-- … and for every other join kind the replacement is wrong: a side's rows are re-introduced, null-padded -/
theorem C03_join_side_converse (how : How) (sides : Bool × Bool) (h : joinPushLegal how sides = false) :
    ¬ JoinFilterLegal how sides := by
  obtain ⟨l, r⟩ := sides
  intro hl
  cases l <;> cases r
  · cases how <;> exact absurd h (by decide)
  · -- predicate on the right pushed into the right input: wrong for left, outer, leftsemi
    cases how <;> first
      | exact absurd h (by decide)
      | exact absurd (hl Nat Nat (fun a b => a == b) [1] [1] (fun o => o.isNone)) (by decide)
  · -- predicate on the left pushed into the left input: wrong for right, outer
    cases how <;> first
      | exact absurd h (by decide)
      | exact absurd (hl Nat Nat (fun a b => a == b) [1] [1] (fun _ => false)) (by decide)
  · cases how <;> first
      | exact absurd h (by decide)
      | exact absurd (hl Nat Nat (fun _ _ => false) [] [5] (fun _ => false) (fun _ => true) (fun _ _ h => by cases h))
          (by decide)

/-- the concrete instance asked for: a left-side predicate under a right join -/
theorem C03_join_right_counterexample :
    (join .right (fun a b : Nat => a == b) [1] [1]).filter (fun jr => (fun _ => false) jr.1)
      ≠ join .right (fun a b : Nat => a == b) ([1].filter (fun _ => false)) [1] := by decide

/-- The decision tables of `Merge._filter_passthrough_available` + `Merge._simplify_up` (both through
    `_filter_sides`): whenever the rule fires it filters only inputs that own the predicate's columns in the output
    (suffix renames accounted for) and only for join kinds for which `C03_join_side` proves the move. -/
theorem C03_join_table (how : How) (pc : PredCols) (isAnd dep lcoll rcoll : Bool)
    (havail : mergeFilterAvail true how pc lcoll rcoll isAnd dep = true) :
    joinPushLegal how (mergePushSides pc lcoll rcoll) = true
    ∧ ((mergePushSides pc lcoll rcoll).1 = true → (semanticSides pc lcoll rcoll).1 = true)
    ∧ ((mergePushSides pc lcoll rcoll).2 = true → (semanticSides pc lcoll rcoll).2 = true) := by
  refine ⟨?_, mergeFilterSides_semantic pc lcoll rcoll⟩
  cases pc
  case unknown => cases havail
  all_goals exact joinPushLegal_of_sides how _ _ havail

/-- composed with the semantics: a firing of the rule is a legal move -/
theorem C03_join_table_sound (how : How) (pc : PredCols) (isAnd dep lcoll rcoll : Bool)
    (havail : mergeFilterAvail true how pc lcoll rcoll isAnd dep = true) :
    JoinFilterLegal how (mergePushSides pc lcoll rcoll) :=
  C03_join_side how _ (C03_join_table how pc isAnd dep lcoll rcoll havail).1

/-- a cell the code once got wrong (`suffixes=("_x","")`, predicate on the unsuffixed right column): the filter goes
    to the right input, and only for `right`/`inner` joins -/
theorem C03_join_table_renamed_left (how : How) (isAnd dep : Bool) :
    mergePushSides .both true false = (false, true)
    ∧ (mergeFilterAvail true how .both true false isAnd dep = true ↔ (how = .right ∨ how = .inner)) := by
  refine ⟨rfl, ?_⟩
  show (how == .right || how == .inner) = true ↔ _
  simp only [Bool.or_eq_true, beq_iff_eq]

/-- suffixing: a predicate whose columns are renamed on both sides, or are not input columns at all, is never pushed -/
theorem C03_join_suffix (how : How) (isAnd dep : Bool) :
    mergePushSides .both true true = (false, false)
    ∧ (∀ l r, mergeFilterAvail true how .neither l r isAnd dep = false)
    ∧ (∀ l r, mergeFilterAvail true how .unknown l r isAnd dep = false)
    ∧ mergeFilterAvail true how .both true true isAnd dep = false :=
  -- no side is named, so the join kind is never looked at
  ⟨rfl, fun _ _ => rfl, fun _ _ => rfl, rfl⟩

-- non-vacuity: real joins with matches, misses and duplicates
example : join .left (fun a b : Nat => a % 3 == b % 3) [1, 2, 3] [4, 7, 5] =
    [(some 1, some 4), (some 1, some 7), (some 2, some 5), (some 3, none)] := by decide
example : (join .left (fun a b : Nat => a % 3 == b % 3) [1, 2, 3] [4, 7, 5]).filter (fun jr => (fun o => o != some 1) jr.1)
    = join .left (fun a b : Nat => a % 3 == b % 3) ([1, 2, 3].filter (fun a => (fun o => o != some 1) (some a))) [4, 7, 5] := by decide
example : join .outer (fun a b : Nat => a == b) [1, 2] [2, 3] = [(some 1, none), (some 2, some 2), (none, some 3)] := by decide
example : join .leftsemi (fun a b : Nat => a == b) [1, 2, 2] [2, 2, 3] = [(some 2, none), (some 2, none)] := by decide
example : mergeFilterAvail true .left .left false false false false = true ∧ mergePushSides .left false false = (true, false) := ⟨rfl, rfl⟩

end Dx

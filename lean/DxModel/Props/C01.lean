/-
  Props/C01.lean — "Optimization never changes what a query computes".

  The drivers of dask_expr/_core.py (`rewrite`, `simplify_once`, `simplify`, `lower_once`,
  `lower_completely`) and the pipeline `optimize_until` / `optimize` of dask_expr/_expr.py
  (model: DxModel/Drivers.lean) return an expression that denotes the same as their input

    * for ALL expression trees, ALL rule systems, ALL amounts of fuel,
    * for ALL dependents maps handed to the `_simplify_up` rules (`RulesSound` asks a rule to be sound
      for an arbitrary map: stale, incomplete, thinned by dead weak references, polluted by the
      "bandaid" appends) and ALL contents of the `simplified` cache that are sound (`CacheSound`),
    * up to ANY equivalence `≈` on values that the operators respect (`Congruence`: row order and index
      labels may be left unspecified),
    * whatever the status of the run (`ok`, `nonconverge`, `fuel`): every expression a driver can hold
      at any moment denotes the same as the input.

  What is *assumed* (hypothesis, never an axiom): `RulesSound` — every single rule output denotes the
  same as the expression the driver replaces by it.  For the rule families that are modelled this is
  proven in C03 (filters), C04 (projections), C11 (head/tail/partitions), C06 (len); firings of all
  other rules are listed by the harness (`unmodelled_rule_firings`) and covered by the differential
  search only.  Whether `simplify` converges at all is C19, not C01: `nonconverge` is an outcome here.

  `C01_deps_sensitive*`: for rules whose soundness needs a fact about the REAL consumers of the child
  (side condition `P child parent deps`), the drivers are sound provided every `_simplify_up` firing
  of the run saw a map satisfying `P` — the T3 tie checks exactly that on the traced firings.

  `C01_fragment_*` (last section): for the fragment of real classes of DxModel/Fragment.lean — FromPandas,
  Projection, Abs/Neg/Pos/Invert, Binop with a scalar, Binop of two expressions (incl. And/Or), Assign,
  RenameFrame, Filter, Merge on columns, row-wise Concat — with the rule system `fragRules` that is DEFINED by
  the rule functions of Dx.Cols / Dx.Pred, the hypothesis `RulesSound` is a THEOREM (derived from the C04 / C03
  theorems about those functions), so every driver statement above holds there without hypothesis.
-/
import DxModel.Lemmas.Drivers
import DxModel.Lemmas.FragSound
namespace Dx

variable {V U : Type}

/-- `a ≈ b`: the two expressions compute equivalent values -/
def Equiv (C : Congruence V) (a b : Expr) : Prop := C.r (denote C.toSem a) (denote C.toSem b)

/-- the denotation is compositional: class, non-expression operands, meanings of the operands -/
theorem C01_denote_compositional (C : Congruence V) (c l : Nat) (as : List Expr) :
    denote C.toSem (.node c l as) = C.sem c l (as.map (denote C.toSem)) := by
  simp only [denote, denoteList_eq_map]
  rfl

/-- `Expr.rewrite(kind="tune")` -/
theorem C01_rewrite_sound (C : Congruence V) (R : Rules) (hR : RulesSound C.toSem R)
    (fuel : Nat) (e : Expr) : Equiv C (rewrite R fuel e).expr e :=
  rewriteWith_sound C.toSem _ _ hR.tuneDown_ok hR.tuneUp_ok fuel e

/-- `Expr.simplify_once(dependents, simplified)`: for every dependents map and every sound cache the
    result denotes the same as `self`, and the cache stays sound. -/
theorem C01_simplifyOnce_sound (C : Congruence V) (R : Rules) (hR : RulesSound C.toSem R)
    (fuel : Nat) (e : Expr) (s : SState) (hc : CacheSound C.toSem s.cache) :
    Equiv C (simplifyOnce R fuel e s).1 e ∧ CacheSound C.toSem (simplifyOnce R fuel e s).2.cache :=
  simplifyOnce_sound C.toSem R _ hR fuel e s (TraceGood.trivial _) hc

/-- `Expr.simplify()`, whatever its outcome (converged, "Optimizer does not converge", out of fuel) -/
theorem C01_simplify_sound (C : Congruence V) (R : Rules) (hR : RulesSound C.toSem R)
    (fuel : Nat) (e : Expr) : Equiv C (simplify R fuel e).expr e :=
  simplifyT_sound C.toSem R _ hR fuel e [] (TraceGood.trivial _)

/-- `Expr.lower_once()` -/
theorem C01_lowerOnce_sound (C : Congruence V) (R : Rules) (hR : RulesSound C.toSem R)
    (fuel : Nat) (e : Expr) : Equiv C (lowerOnce R fuel e).expr e :=
  lowerOnce_sound C.toSem R hR.lower_ok fuel e

/-- `Expr.lower_completely()` -/
theorem C01_lowerCompletely_sound (C : Congruence V) (R : Rules) (hR : RulesSound C.toSem R)
    (fuel : Nat) (e : Expr) : Equiv C (lowerCompletely R fuel e).expr e :=
  lowerLoop_sound C.toSem R hR.lower_ok fuel fuel e

/-- `optimize_until(expr, stage)` for every stage: logical, simplified-logical, tuned-logical,
    physical, simplified-physical, fused. -/
theorem C01_optimizeUntil_sound (C : Congruence V) (R : Rules) (hR : RulesSound C.toSem R)
    (fuel : Nat) (stage : Stage) (e : Expr) : Equiv C (optimizeUntil R fuel stage e).expr e :=
  optimizeUntilT_sound C.toSem R _ hR fuel stage e (TraceGood.trivial _)

/-- `optimize(expr, fuse)` -/
theorem C01_optimize_sound (C : Congruence V) (R : Rules) (hR : RulesSound C.toSem R)
    (fuel : Nat) (fuse : Bool) (e : Expr) : Equiv C (optimize R fuel fuse e).expr e :=
  C01_optimizeUntil_sound C R hR fuel _ e

/-- the optimized and the unoptimized plan are interchangeable in both directions and inside any
    larger query (`≈` is symmetric and a congruence) -/
theorem C01_optimize_in_context (C : Congruence V) (R : Rules) (hR : RulesSound C.toSem R)
    (fuel : Nat) (stage : Stage) (e : Expr) (c l : Nat) (pre post : List Expr) :
    Equiv C (.node c l (pre ++ e :: post)) (.node c l (pre ++ (optimizeUntil R fuel stage e).expr :: post)) :=
  Ref.rebuild C.toSem c l (forall2_splice C.toSem (C.symm (C01_optimizeUntil_sound C R hR fuel stage e)) post pre)

/-- The same statements for an arbitrary *preorder* "may replace" (the form used for definedness). -/
theorem C01_optimizeUntil_refines (S : Sem V) (R : Rules) (hR : RulesSound S R)
    (fuel : Nat) (stage : Stage) (e : Expr) : Ref S (optimizeUntil R fuel stage e).expr e :=
  optimizeUntilT_sound S R _ hR fuel stage e (TraceGood.trivial _)

/-- **An optimized query never fails where the unoptimized one succeeds**: with partial operators
    (`denoteP : Expr → Option U`), if the rules are sound for partial semantics (a rule output is
    defined, with an equivalent value, whenever the expression it replaces is) and the original query
    denotes `some v`, the plan of every stage denotes some `v' ≈ v`. -/
theorem C01_no_new_failure (P : PSem U) (R : Rules) (hR : RulesSound P.toSem R)
    (fuel : Nat) (stage : Stage) (e : Expr) (v : U) (h : denoteP P e = some v) :
    ∃ v', denoteP P (optimizeUntil R fuel stage e).expr = some v' ∧ P.eqv v' v :=
  C01_optimizeUntil_refines P.toSem R hR fuel stage e v h

/-- no new failure for each single driver -/
theorem C01_no_new_failure_drivers (P : PSem U) (R : Rules) (hR : RulesSound P.toSem R)
    (fuel : Nat) (e : Expr) (v : U) (h : denoteP P e = some v) :
    (∃ v', denoteP P (simplify R fuel e).expr = some v' ∧ P.eqv v' v) ∧
    (∃ v', denoteP P (rewrite R fuel e).expr = some v' ∧ P.eqv v' v) ∧
    (∃ v', denoteP P (lowerOnce R fuel e).expr = some v' ∧ P.eqv v' v) ∧
    (∃ v', denoteP P (lowerCompletely R fuel e).expr = some v' ∧ P.eqv v' v) :=
  ⟨simplifyT_sound P.toSem R _ hR fuel e [] (TraceGood.trivial _) v h,
   rewriteWith_sound P.toSem _ _ hR.tuneDown_ok hR.tuneUp_ok fuel e v h,
   lowerOnce_sound P.toSem R hR.lower_ok fuel e v h,
   lowerLoop_sound P.toSem R hR.lower_ok fuel fuel e v h⟩

/-- **Rules that need to know the real consumers.**  If `_simplify_up` is sound only for dependents
    maps satisfying `P child parent deps`, `simplify_once` is sound for every run in which every
    firing saw such a map (the trace records exactly the arguments the rule was called with). -/
theorem C01_deps_sensitive_simplifyOnce (C : Congruence V) (R : Rules) (P : Expr → Expr → Deps → Prop)
    (hR : RulesSoundUnder C.toSem R P) (fuel : Nat) (e : Expr) (s : SState)
    (hc : CacheSound C.toSem s.cache) (ht : TraceGood P (simplifyOnce R fuel e s).2.trace) :
    Equiv C (simplifyOnce R fuel e s).1 e ∧ CacheSound C.toSem (simplifyOnce R fuel e s).2.cache :=
  simplifyOnce_sound C.toSem R P hR fuel e s ht hc

theorem C01_deps_sensitive_simplify (C : Congruence V) (R : Rules) (P : Expr → Expr → Deps → Prop)
    (hR : RulesSoundUnder C.toSem R P) (fuel : Nat) (e : Expr)
    (ht : TraceGood P (simplifyT R fuel e []).2) : Equiv C (simplify R fuel e).expr e :=
  simplifyT_sound C.toSem R P hR fuel e [] ht

/-- the whole pipeline (both `simplify` passes contribute to the trace) -/
theorem C01_deps_sensitive (C : Congruence V) (R : Rules) (P : Expr → Expr → Deps → Prop)
    (hR : RulesSoundUnder C.toSem R P) (fuel : Nat) (stage : Stage) (e : Expr)
    (ht : TraceGood P (optimizeUntilT R fuel stage e).2) :
    Equiv C (optimizeUntil R fuel stage e).expr e :=
  optimizeUntilT_sound C.toSem R P hR fuel stage e ht

/-- `collect_dependents(expr)` only records real (operand, consumer) pairs; what can make the map the
    rules see *untruthful about the current tree* is staleness (consumers that were rewritten away) and
    the bandaid appends — which is why `RulesSound` quantifies over every map. -/
theorem C01_collectDependents_truthful (e : Expr) : DepsTruthful (collectDependents e) :=
  collectLoop_truthful _ _ _ _ (fun _ _ h => by cases h)

/-- a firing is only ever recorded for a rule call that really happened with these arguments -/
theorem C01_trace_monotone (R : Rules) (fuel : Nat) (e : Expr) (s : SState) (f : Firing)
    (hf : f ∈ s.trace) : f ∈ (simplifyOnce R fuel e s).2.trace :=
  simplifyOnce_trace_mono R fuel e s f hf

/-! ## Non-vacuity: a concrete three-class rule system

  class 0 = source frame (three columns), class 1 = elementwise "add `lit` to every cell",
  class 2 = projection "keep column number `lit`".  Rules: projection pushed through the elementwise
  operator (`_simplify_up` of the elementwise child, as `Elemwise._simplify_up[Projection]`),
  `Projection[0]` of a one-column projection squashed (`_simplify_down`), `+0` lowered away. -/
namespace C01Ex

abbrev Frame := List (List Nat)

def toySem : Nat → Nat → List Frame → Frame
  | 0, l, [] => [[l, l + 1, l + 2], [10, 20, 30], [7, 7, 7]]
  | 1, k, [f] => f.map (fun col => col.map (· + k))
  | 2, l, [f] => match f[l]? with
    | some col => [col]
    | none => []
  | _, _, _ => []

def toyC : Congruence Frame := Congruence.ofEq toySem

def toyRules : Rules where
  down := fun e => match e with
    | .node 2 0 [.node 2 l [x]] => some (.node 2 l [x])
    | _ => none
  up := fun c p _ => match c, p with
    | .node 1 k [x], .node 2 l [c'] => if c' == c then some (.node 1 k [.node 2 l [x]]) else none
    | _, _ => none
  tuneDown := fun _ => none
  tuneUp := fun _ _ => none
  lower := fun e => match e with
    | .node 1 0 [x] => some x
    | _ => none
  fuse := id

theorem toy_unary (c l : Nat) (x : Expr) :
    denote toyC.toSem (.node c l [x]) = toySem c l [denote toyC.toSem x] := rfl

/-- which nodes the three rules fire on, and what they return -/
theorem toy_down {e o : Expr} (h : toyRules.down e = some o) :
    ∃ l x, e = .node 2 0 [.node 2 l [x]] ∧ o = .node 2 l [x] := by
  simp only [toyRules] at h
  split at h
  · next l x => exact ⟨l, x, rfl, (Option.some.inj h).symm⟩
  · cases h

theorem toy_up {c p o : Expr} {d : Deps} (h : toyRules.up c p d = some o) :
    ∃ k x l, c = .node 1 k [x] ∧ p = .node 2 l [c] ∧ o = .node 1 k [.node 2 l [x]] := by
  simp only [toyRules] at h
  split at h
  · next k x l c' =>
    split at h
    · next hc => exact ⟨k, x, l, rfl, by rw [eq_of_beq hc], (Option.some.inj h).symm⟩
    · cases h
  · cases h

theorem toy_lower {e o : Expr} (h : toyRules.lower e = some o) : e = .node 1 0 [o] := by
  simp only [toyRules] at h
  split at h
  · next x => rw [Option.some.inj h]
  · cases h

theorem toyRules_sound : RulesSound toyC.toSem toyRules where
  down_ok := by
    intro e o h
    obtain ⟨l, x, rfl, rfl⟩ := toy_down h
    show denote toyC.toSem _ = denote toyC.toSem _
    rw [toy_unary, toy_unary, toy_unary]
    generalize denote toyC.toSem x = f
    simp only [toySem]
    cases f[l]? <;> simp
  up_ok := by
    intro c p d o _ h
    obtain ⟨k, x, l, rfl, rfl, rfl⟩ := toy_up h
    show denote toyC.toSem _ = denote toyC.toSem _
    rw [toy_unary, toy_unary, toy_unary, toy_unary]
    generalize denote toyC.toSem x = f
    simp only [toySem, List.getElem?_map]
    cases f[l]? <;> simp
  tuneDown_ok := by intro e o h; cases h
  tuneUp_ok := by intro c p o h; cases h
  lower_ok := by
    intro e o h
    rw [toy_lower h]
    show denote toyC.toSem _ = denote toyC.toSem _
    rw [toy_unary]
    generalize denote toyC.toSem o = f
    simp [toySem]
  fuse_ok := fun e => rfl

/-- `src[1] + 5` written as `((src + 0) + 5)[1]` -/
def q : Expr := .node 2 1 [.node 1 5 [.node 1 0 [.node 0 3 []]]]

/-- the driver output is computed by the kernel: projection pushed to the source, `+0` lowered away -/
example : (optimizeUntil toyRules 8 .fused q).expr = .node 1 5 [.node 2 1 [.node 0 3 []]] := by decide +kernel
example : (optimizeUntil toyRules 8 .fused q).st = .ok := by decide +kernel
example : (simplify toyRules 8 q).expr = .node 1 5 [.node 1 0 [.node 2 1 [.node 0 3 []]]] := by decide +kernel
/-- … and by the theorem it computes the same frame, here `[[15, 25, 35]]` -/
example : denote toyC.toSem (optimizeUntil toyRules 8 .fused q).expr = denote toyC.toSem q :=
  C01_optimizeUntil_sound toyC toyRules toyRules_sound 8 .fused q
example : denote toyC.toSem q = [[15, 25, 35]] := by decide +kernel
/-- the hypotheses of `C01_simplifyOnce_sound`: a non-empty sound cache and a stale dependents map -/
example : CacheSound toyC.toSem [(.node 2 1 [.node 1 0 [.node 0 3 []]], .node 2 1 [.node 0 3 []])] := by
  intro k v h
  simp only [List.mem_singleton, Prod.mk.injEq] at h
  obtain ⟨h1, h2⟩ := h
  subst h1; subst h2
  show denote toyC.toSem _ = denote toyC.toSem _
  decide
example : (simplifyOnce toyRules 8 q
    ⟨[(.node 0 9 [], q)], [(.node 2 1 [.node 1 0 [.node 0 3 []]], .node 2 1 [.node 0 3 []])], [], false⟩).1
    = .node 1 5 [.node 2 1 [.node 0 3 []]] := by decide +kernel

/-! ### partial semantics: a projection of a missing column fails -/

def toyP : PSem Frame where
  psem := fun c l vs => match c, l, vs with
    | 0, l, [] => some [[l, l + 1, l + 2], [10, 20, 30], [7, 7, 7]]
    | 1, k, [f] => some (f.map (fun col => col.map (· + k)))
    | 2, l, [f] => match f[l]? with
      | some col => some [col]
      | none => none
    | _, _, _ => none
  eqv := Eq
  refl := fun _ => rfl
  symm := Eq.symm
  trans := Eq.trans
  congr := by
    intro c l vs ws v h
    have : vs = ws := by
      induction h with
      | nil => rfl
      | cons h _ ih => rw [h, ih]
    subst this
    intro hv
    exact ⟨v, hv, rfl⟩

theorem toyP_unary (c l : Nat) (x : Expr) :
    denoteP toyP (.node c l [x]) = match denoteP toyP x with
      | some f => toyP.psem c l [f]
      | none => none := by
  rw [denoteP_bind]
  simp only [List.map_cons, List.map_nil]
  cases denoteP toyP x <;> rfl

/-- each rule output denotes exactly what the replaced expression does, defined or not -/
theorem toyRules_soundP : RulesSound toyP.toSem toyRules where
  down_ok := by
    intro e o h
    obtain ⟨l, x, rfl, rfl⟩ := toy_down h
    apply Ref.of_eq
    show denoteP toyP _ = denoteP toyP _
    simp only [toyP_unary]
    cases denoteP toyP x with
    | none => rfl
    | some f =>
      simp only [toyP]
      cases f[l]? <;> rfl
  up_ok := by
    intro c p d o _ h
    obtain ⟨k, x, l, rfl, rfl, rfl⟩ := toy_up h
    apply Ref.of_eq
    show denoteP toyP _ = denoteP toyP _
    simp only [toyP_unary]
    cases denoteP toyP x with
    | none => rfl
    | some f =>
      simp only [toyP, List.getElem?_map]
      cases f[l]? <;> rfl
  tuneDown_ok := by intro e o h; cases h
  tuneUp_ok := by intro c p o h; cases h
  lower_ok := by
    intro e o h
    rw [toy_lower h]
    apply Ref.of_eq
    show denoteP toyP _ = denoteP toyP _
    simp only [toyP_unary]
    cases denoteP toyP o with
    | none => rfl
    | some f => simp [toyP]
  fuse_ok := fun e => toyP.toSem.refl _

/-- the query is defined, hence so is its optimized plan (with the same value) -/
example : denoteP toyP q = some [[15, 25, 35]] := by decide +kernel
example : ∃ v', denoteP toyP (optimizeUntil toyRules 8 .fused q).expr = some v' ∧ v' = [[15, 25, 35]] :=
  C01_no_new_failure toyP toyRules toyRules_soundP 8 .fused q _ (by decide +kernel)
/-- a query that fails (column 7 does not exist) is outside the hypothesis -/
example : denoteP toyP (.node 2 7 [.node 0 3 []]) = none := by decide +kernel

/-! ### a rule that is sound only for truthful dependents

  "replace the parent by the first recorded consumer of the child" is sound exactly when that
  recorded consumer computes the same as the parent — a statement about the dependents map. -/

def reuseRules : Rules where
  down := fun _ => none
  up := fun c _ d => (d.of c).head?
  tuneDown := fun _ => none
  tuneUp := fun _ _ => none
  lower := fun _ => none
  fuse := id

def reuseOK (c p : Expr) (d : Deps) : Prop := ∀ q, q ∈ d.of c → Ref toyC.toSem q p

theorem reuseRules_sound : RulesSoundUnder toyC.toSem reuseRules reuseOK where
  down_ok := by intro e o h; cases h
  up_ok := by
    intro c p d o hP h
    simp only [reuseRules] at h
    exact hP o (List.mem_of_mem_head? h)
  tuneDown_ok := by intro e o h; cases h
  tuneUp_ok := by intro c p o h; cases h
  lower_ok := by intro e o h; cases h
  fuse_ok := fun e => rfl

/-- it is NOT sound for arbitrary maps: a stale map makes it return something else -/
example : ¬ RulesSound toyC.toSem reuseRules := by
  intro h
  have := h.up_ok (.node 0 3 []) (.node 2 1 [.node 0 3 []]) [(.node 0 3 [], .node 0 3 [])]
    (.node 0 3 []) True.intro (by decide +kernel)
  revert this
  show ¬ (denote toyC.toSem _ = denote toyC.toSem _)
  decide

/-- one column `x = src[1]`, consumed by `x[0]` and by `x + 0`: both equal `x` -/
def x1 : Expr := .node 2 1 [.node 0 3 []]
def shared : Expr := .node 3 0 [.node 2 0 [x1], .node 1 0 [x1]]

/-- the run fires the rule once (`x[0]` is replaced by the other consumer `x + 0`) … -/
example : (simplifyT reuseRules 8 shared []).1.expr = .node 3 0 [.node 1 0 [x1], .node 1 0 [x1]] := by decide +kernel
example : (simplifyT reuseRules 8 shared []).2.length = 1 := by decide +kernel
/-- … and every recorded firing saw a truthful map, so `C01_deps_sensitive_simplify` applies -/
example : Equiv toyC (simplify reuseRules 8 shared).expr shared := by
  apply C01_deps_sensitive_simplify toyC reuseRules reuseOK reuseRules_sound
  intro f hf
  have h : (simplifyT reuseRules 8 shared []).2.all
      (fun f => (f.deps.of f.child).all (fun q => decide (denote toyC.toSem q = denote toyC.toSem f.parent))) = true := by
    decide +kernel
  intro q hq
  have := List.all_eq_true.mp (List.all_eq_true.mp h f hf) q hq
  exact (of_decide_eq_true this : denote toyC.toSem q = denote toyC.toSem f.parent)

/-! ### a rule of the real code that is NOT value-preserving (known finding D47)

  `SortValues._simplify_up[Head]` / `[Tail]` and `SetIndex._simplify_up[Head]` / `[Tail]` replace
  `Head(SortValues(x), n)` — "the first n rows of the FIRST partition of the sorted frame" — by
  `NFirst(x, n)` — "the n smallest rows of the whole frame".  Values here are partition lists. -/

abbrev Parts := List (List Nat)

def insertNat (x : Nat) : List Nat → List Nat
  | [] => [x]
  | y :: t => if x ≤ y then x :: y :: t else y :: insertNat x t

def isort : List Nat → List Nat
  | [] => []
  | x :: t => insertNat x (isort t)

/-- range partitioning of a sorted list into partitions of two rows -/
def chunk2 : List Nat → Parts
  | a :: b :: t => [a, b] :: chunk2 t
  | [] => []
  | [a] => [[a]]

def partSem : Nat → Nat → List Parts → Parts
  | 0, _, [] => [[4, 1], [3, 2]]                        -- source: two partitions
  | 1, _, [p] => chunk2 (isort p.flatten)               -- sort_values
  | 2, n, [p] => [(p.headD []).take n]                  -- head(n): first partition only
  | 3, n, [p] => [(isort p.flatten).take n]             -- NFirst(n)
  | _, _, _ => []

def headSortRules : Rules where
  down := fun _ => none
  up := fun c p _ => match c, p with
    | .node 1 _ [x], .node 2 n [_] => some (.node 3 n [x])
    | _, _ => none
  tuneDown := fun _ => none
  tuneUp := fun _ _ => none
  lower := fun _ => none
  fuse := id

/-- `df.sort_values().head(3)` on two partitions of two rows -/
def sortedHead : Expr := .node 2 3 [.node 1 0 [.node 0 0 []]]

/-- the driver applies the rule faithfully, and the plans compute different results: the hypothesis
    `RulesSound` of the C01 theorems is necessary, not decorative -/
example : (simplify headSortRules 6 sortedHead).expr = .node 3 3 [.node 0 0 []] := by decide +kernel
example : denote (Congruence.ofEq partSem).toSem sortedHead = [[1, 2]] := by decide +kernel
example : denote (Congruence.ofEq partSem).toSem (simplify headSortRules 6 sortedHead).expr = [[1, 2, 3]] := by
  decide +kernel

end C01Ex

/-- **Counterexample (known finding D47).**  Replacing "head n of the first partition of the sorted
    frame" by "the n smallest rows" is not value-preserving: the rule system consisting of that one
    rewrite is not `RulesSound`, for plain equality of partition lists (row count 2 versus 3). -/
theorem C01_head_of_sorted_counterexample :
    ¬ RulesSound (Congruence.ofEq C01Ex.partSem).toSem C01Ex.headSortRules := by
  intro h
  have := h.up_ok (.node 1 0 [.node 0 0 []]) C01Ex.sortedHead [] (.node 3 3 [.node 0 0 []]) True.intro rfl
  revert this
  show ¬ (denote (Congruence.ofEq C01Ex.partSem).toSem _ = denote (Congruence.ofEq C01Ex.partSem).toSem _)
  decide +kernel

/-! ## The fragment of real classes: `RulesSound` discharged

  Model: DxModel/Fragment.lean.  `fragP I` is the partial denotation of the fragment over abstract columns `γ`
  and ANY interpretation `I` of the column-level operations (what pandas does to the rows) that satisfies
  `MaskLaws` (`&` / `|` act row by row, a mask is determined by its truth values); an ill-formed expression —
  a missing or duplicated label, a Binop of frames with different labels (open finding D39), a Merge whose key
  collides with a non-key column of the other side (open finding D34) or whose result labels collide — denotes
  nothing, and the statements say nothing about it.  `fragRules` calls `Cols.ioAbsorb / plain / binop / assign /
  rename / filterRule / merge / concat / projDown` (with `detProj` over the dependents recorded in the map) and
  `Pred.rewriteFilters`, and re-assembles the expression as the real `_simplify_up` / `_simplify_down` do.

  Soundness is for an ARBITRARY dependents map (`RulesSound`, not `RulesSoundUnder`): the union taken by
  `determine_column_projection` always contains the firing parent's own columns, so a stale, incomplete or
  polluted map only makes a rule keep more columns. -/

section Fragment
open Dx.Frag Dx.Cols
variable {γ ι : Type}

/-- **Every rule firing of the fragment replaces an expression by one that is defined whenever the replaced one
    is, with the same value** — for every dependents map.  Derived from `C04_plain_wf/_values` (Unaryop and
    Filter), `C04_io_wf/_values`, `C04_assign_wf/_values`, `C04_rename_wf/_values`, `C04_merge_pruned_wf`,
    `C04_merge_labels_partial`, `C04_merge_values_left/right_partial`, `C04_concat_wf/_labels/_declared/_values`,
    `C04_projdown_squash` and `C03_or_factoring`; the Binop rules from the definition of `binopSide`
    (Lemmas/FragRules, FragAssign, FragConcat, FragMerge, FragPred). -/
theorem C01_fragment_rules_sound (I : Interp γ ι) (hI : MaskLaws I) : RulesSound (fragP I).toSem fragRules where
  down_ok := fun _ _ h => (ref_iff I _ _).mpr (fragDown_sound I h)
  up_ok := fun _ _ _ _ _ h => (ref_iff I _ _).mpr (fragUp_sound I hI h)
  tuneDown_ok := by intro e o h; cases h
  tuneUp_ok := by intro c p o h; cases h
  lower_ok := by intro e o h; cases h
  fuse_ok := fun e => Ref.refl _ e

/-- `Expr.simplify_once(dependents, simplified)` on the fragment: ANY dependents map, any sound cache -/
theorem C01_fragment_simplifyOnce_sound (I : Interp γ ι) (hI : MaskLaws I) (fuel : Nat) (e : Expr) (s : SState)
    (hc : CacheSound (fragP I).toSem s.cache) (v : FVal γ) (h : denoteP (fragP I) e = some v) :
    denoteP (fragP I) (simplifyOnce fragRules fuel e s).1 = some v :=
  (ref_iff I _ _).mp (simplifyOnce_sound (fragP I).toSem fragRules _ (C01_fragment_rules_sound I hI) fuel e s
    (TraceGood.trivial _) hc).1 v h

/-- `Expr.simplify()` on the fragment, whatever its outcome -/
theorem C01_fragment_simplify_sound (I : Interp γ ι) (hI : MaskLaws I) (fuel : Nat) (e : Expr) (v : FVal γ)
    (h : denoteP (fragP I) e = some v) : denoteP (fragP I) (simplify fragRules fuel e).expr = some v :=
  (ref_iff I _ _).mp (simplifyT_sound _ _ _ (C01_fragment_rules_sound I hI) fuel e [] (TraceGood.trivial _)) v h

/-- **No hypothesis on the rules**: for every expression of the fragment, every fuel, with or without the final
    fusion stage, `optimize` returns an expression that denotes the same frame. -/
theorem C01_fragment_optimize_sound (I : Interp γ ι) (hI : MaskLaws I) (fuel : Nat) (fuse : Bool) (e : Expr) (v : FVal γ)
    (h : denoteP (fragP I) e = some v) : denoteP (fragP I) (optimize fragRules fuel fuse e).expr = some v :=
  (ref_iff I _ _).mp (C01_optimizeUntil_refines _ _ (C01_fragment_rules_sound I hI) fuel _ e) v h

/-- … and the plan of every stage of `optimize_until` is defined, with the same value, when the query is -/
theorem C01_fragment_no_new_failure (I : Interp γ ι) (hI : MaskLaws I) (fuel : Nat) (stage : Stage) (e : Expr) (v : FVal γ)
    (h : denoteP (fragP I) e = some v) :
    ∃ v', denoteP (fragP I) (optimizeUntil fragRules fuel stage e).expr = some v' ∧ v' = v :=
  C01_no_new_failure (fragP I) fragRules (C01_fragment_rules_sound I hI) fuel stage e v h

/-- … also inside any larger query -/
theorem C01_fragment_optimize_in_context (I : Interp γ ι) (hI : MaskLaws I) (fuel : Nat) (stage : Stage) (e : Expr)
    (c l : Nat) (pre post : List Expr) (v : FVal γ) (h : denoteP (fragP I) (.node c l (pre ++ e :: post)) = some v) :
    denoteP (fragP I) (.node c l (pre ++ (optimizeUntil fragRules fuel stage e).expr :: post)) = some v :=
  (ref_iff I _ _).mp (Ref.rebuild (fragP I).toSem c l (forall2_splice _
    (C01_optimizeUntil_refines _ _ (C01_fragment_rules_sound I hI) fuel stage e) post pre)) v h

/-- the side conditions are decidable on the expression: a query denotes something iff its labels are defined
    (`schemaOf` = the real `columns` / `ndim`, tied by the family `fragment`) -/
def fragWF (e : Expr) : Bool := (schemaOf e).isSome

theorem C01_fragment_defined_iff (I : Interp γ ι) (e : Expr) : (denoteP (fragP I) e).isSome = fragWF e :=
  den_isSome I e

/-- … so for every well-formed query of the fragment the optimized plan computes what the query computes -/
theorem C01_fragment_optimize_wf (I : Interp γ ι) (hI : MaskLaws I) (fuel : Nat) (fuse : Bool) (e : Expr)
    (hwf : fragWF e = true) :
    ∃ v, denoteP (fragP I) e = some v ∧ denoteP (fragP I) (optimize fragRules fuel fuse e).expr = some v := by
  have hd : (denoteP (fragP I) e).isSome = true := by rw [C01_fragment_defined_iff]; exact hwf
  cases hv : denoteP (fragP I) e with
  | none => rw [hv] at hd; cases hd
  | some v => exact ⟨v, rfl, C01_fragment_optimize_sound I hI fuel fuse e v hv⟩

/-- the optimizer keeps the declared labels and dimension of a well-formed query of the fragment -/
theorem C01_fragment_schema_preserved (fuel : Nat) (fuse : Bool) (e : Expr) (s : Schema) (h : schemaOf e = some s) :
    schemaOf (optimize fragRules fuel fuse e).expr = some s := by
  have hwf : fragWF e = true := by unfold fragWF; rw [h]; rfl
  obtain ⟨v, hv, hv'⟩ := C01_fragment_optimize_wf (listI (fun _ _ => none)) (listI_laws _) fuel fuse e hwf
  have h1 := den_schema hv
  have h2 := den_schema hv'
  rw [h] at h1
  rw [h2, ← Option.some.inj h1]

/-! ### non-vacuity: the model's `optimize` on concrete queries of the fragment -/
namespace C01Frag

def L : Expr := mk (.src ⟨0, ["a", "b", "c"], none⟩) []
def R : Expr := mk (.src ⟨1, ["b", "k", "d"], none⟩) []
/-- `FromPandas(columns=cs)` -/
def Lc (cs : List Name) : Expr := mk (.src ⟨0, ["a", "b", "c"], some cs⟩) []
def Rc (cs : List Name) : Expr := mk (.src ⟨1, ["b", "k", "d"], some cs⟩) []
def addk (k : Nat) (x : Expr) : Expr := mk (.bink 0 k) [x]
def gtk (k : Nat) (x : Expr) : Expr := mk (.bink 1 k) [x]
def mOn : MergeP := ⟨["b"], ["b"], "_x", "_y"⟩

/-- source data: two tables of four rows -/
def tabs : Nat → Name → Option (List Int)
  | 0, "a" => some [1, 2, 3, 4]
  | 0, "b" => some [3, 1, 2, 5]
  | 0, "c" => some [0, 1, 0, 1]
  | 1, "b" => some [1, 2, 3, 9]
  | 1, "k" => some [7, 8, 9, 6]
  | 1, "d" => some [10, 20, 30, 40]
  | _, _ => none

/-- labels and columns of what a query computes under the list interpretation -/
def cells (e : Expr) : Option (List Name × List (Option (List Int))) :=
  (denoteP (fragP (listI tabs)) e).map (fun v => (v.fr.cols, v.fr.cols.map v.fr.val))

/-- `x = L.rename(columns={'c': 'C'}).merge(R, on='b')`; `x.assign(z = x.a + 1)[['z', 'd']]`: the merge is shared by the
    Assign and by its value expression -/
def x (l r : Expr) : Expr := mk (.merge 0 mOn) [mk (.rename [("c", "C")]) [l], r]
def q1 : Expr := proj (.many ["z", "d"]) (mk (.assign ["z"]) [x L R, addk 1 (proj (.one "a") (x L R))])
/-- the projection went through Assign, Merge and RenameFrame down into both sources -/
def q1' : Expr := proj (.many ["z", "d"]) (mk (.assign ["z"])
  [proj (.many ["d"]) (x (Lc ["a", "b"]) (Rc ["b", "d"])), addk 1 (proj (.one "a") (x (Lc ["a", "b"]) (Rc ["b", "d"])))])

set_option maxRecDepth 100000 in
example : (optimize fragRules 12 true q1).expr = q1' ∧ (optimize fragRules 12 true q1).st = .ok := by decide +kernel
example : q1' ≠ q1 := by decide +kernel
theorem cells_q1 : cells q1 = some (["z", "d"], [some [2, 3, 4], some [30, 10, 20]]) := by decide +kernel
example : cells q1 = some (["z", "d"], [some [2, 3, 4], some [30, 10, 20]]) := cells_q1
/-- by the theorem the rewritten plan computes the same; here it is, computed -/
example : cells q1' = some (["z", "d"], [some [2, 3, 4], some [30, 10, 20]]) := by decide +kernel
example : denoteP (fragP (listI tabs)) (optimize fragRules 12 true q1).expr = denoteP (fragP (listI tabs)) q1 := by
  cases h : denoteP (fragP (listI tabs)) q1 with
  | none => have hc := cells_q1; rw [cells, h] at hc; cases hc
  | some v => exact C01_fragment_optimize_sound _ (listI_laws _) 12 true q1 v h

/-- a shared sub-expression with two consumers: `y = L.assign(z = L.b + 1)`, `y[['a']] + y[['a']].abs()` -/
def y : Expr := mk (.assign ["z"]) [L, addk 1 (proj (.one "b") L)]
def q2 : Expr := mk (.bin 2) [proj (.many ["a"]) y, mk (.elem 0) [proj (.many ["a"]) y]]
def q2' : Expr := mk (.bin 2) [Lc ["a"], mk (.elem 0) [Lc ["a"]]]

set_option maxRecDepth 100000 in
example : (optimize fragRules 12 true q2).expr = q2' ∧ q2' ≠ q2 := by decide +kernel
theorem cells_q2 : fragWF q2 = true ∧ cells q2 = some (["a"], [some [2, 4, 6, 8]]) ∧ cells q2' = cells q2 := by decide +kernel
example : fragWF q2 = true ∧ cells q2 = some (["a"], [some [2, 4, 6, 8]]) ∧ cells q2' = cells q2 := cells_q2
/-- one `simplify_once` with a stale, polluted dependents map and a non-empty cache: still the same frame -/
example (s : SState) (hc : CacheSound (fragP (listI tabs)).toSem s.cache) :
    (denoteP (fragP (listI tabs)) (simplifyOnce fragRules 9 q2 s).1).isSome = true := by
  cases h : denoteP (fragP (listI tabs)) q2 with
  | none => have hc := cells_q2.2.1; rw [cells, h] at hc; cases hc
  | some v => rw [C01_fragment_simplifyOnce_sound _ (listI_laws _) 9 q2 s hc v h]; rfl

/-- a filter with an OR of ANDs: `L[((L.a > 2) & (L.b > 1)) | ((L.a > 2) & (L.c > 0))][['b']]` — `rewrite_filters`
    factors `L.a > 2` out, the projection goes below the filter -/
def p3 : Expr := mk (.bin 1) [mk (.bin 0) [gtk 2 (proj (.one "a") L), gtk 1 (proj (.one "b") L)],
  mk (.bin 0) [gtk 2 (proj (.one "a") L), gtk 0 (proj (.one "c") L)]]
def q3 : Expr := proj (.many ["b"]) (mk .filter [L, p3])
def q3' : Expr := mk .filter [proj (.many ["b"]) L,
  mk (.bin 0) [gtk 2 (proj (.one "a") L), mk (.bin 1) [gtk 1 (proj (.one "b") L), gtk 0 (proj (.one "c") L)]]]

set_option maxRecDepth 100000 in
example : (optimize fragRules 12 true q3).expr = q3' := by decide +kernel
example : cells q3 = some (["b"], [some [2, 5]]) ∧ cells q3' = cells q3 := by decide +kernel

/-- an ill-formed query denotes nothing: outside the hypothesis of the theorems -/
example : fragWF (proj (.many ["zz"]) L) = false := by decide +kernel

end C01Frag

/-- **Side condition of Merge (open finding D34) — counterexample.**  `Lb.merge(Rb, left_on='b', right_on='k2')[['b_x']]`
    with `Lb = {b, v}`, `Rb = {k2, b}`: the left key `b` collides with the non-key column `b` of the right side, which
    `mergeOK` (part of definedness) excludes.  pandas produces the label `b_x`; the rule fires on the model exactly as
    on the code, and the pruned merge no longer produces `b_x`. -/
theorem C01_fragment_merge_collision_counterexample :
    let m : MergeP := ⟨["b"], ["k2"], "_x", "_y"⟩
    let Lb : Expr := mk (.src ⟨0, ["b", "v"], none⟩) []
    let Rb : Expr := mk (.src ⟨1, ["k2", "b"], none⟩) []
    let q : Expr := proj (.many ["b_x"]) (mk (.merge 0 m) [Lb, Rb])
    fragWF q = false ∧ mergeOK m ["b", "v"] ["k2", "b"] = false ∧
    "b_x" ∈ mergeLabels m ["b", "v"] ["k2", "b"] ∧
    fragUp (mk (.merge 0 m) [Lb, Rb]) q (collectDependents q) =
      some (proj (.many ["b_x"]) (mk (.merge 0 m) [proj (.many ["b"]) Lb, proj (.many ["k2"]) Rb])) ∧
    "b_x" ∉ mergeLabels m ["b"] ["k2"] := by decide +kernel

/-- **Side condition of Binop (open finding D39) — counterexample.**  For `(L[['a','b']] + L[['b','c']])[['a']]` the rule
    function that `Binop._simplify_up` is puts the projection `['a']` on BOTH operands; the right operand has no
    column `a`: the projection is ill-formed.  A Binop of frames with different labels denotes nothing in `fragP`. -/
theorem C01_fragment_binop_labels_counterexample :
    binop ["a", "b", "c"] (some ["a", "b"]) (some ["b", "c"]) (.list ["a"]) [] =
      some { childs := [some (.many ["a"]), some (.many ["a"])], keep := true } ∧
    schOp (.proj (.many ["a"])) [⟨["b", "c"], false⟩] = none ∧
    schOp (.bin 2) [⟨["a", "b"], false⟩, ⟨["b", "c"], false⟩] = none := by decide +kernel

end Fragment

end Dx

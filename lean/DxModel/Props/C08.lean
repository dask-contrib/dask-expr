/-
  Props/C08.lean — expression names are deterministic and collision-free.
  Model: DxModel/Names.lean; lemmas: Lemmas/Names.lean, Lemmas/NameTable.lean;
  table: DxModel/Generated/NameRules.lean (regenerated from the live classes on every run).
-/
import DxModel.Lemmas.NameTable
import DxModel.Lemmas.Cache
import DxModel.Generated.NameRules
namespace Dx
open Names

/-- Collision freedom, all trees (structural induction): under
    * A1  `token` (md5 of the normalized operand list) is injective,
    * A2' a name read back as a literal determines the name, class names read as literals determine the class,
    * `NameRuleComplete` for the classes occurring (each tokenizes all its operands; any two are separated by a
      different constant prefix, the class name inside the token, or operand counts that can never coincide),
    * admissibility of both trees (operand counts possible for the class; no literal operand equals the
      string a nested expression's name would contribute — the code cannot tell these apart, see
      `C08_literal_equal_to_name_collides`),
    equal names imply equal trees: same class, same operands, recursively. -/
theorem C08_injective {L τ : Type} (S : Scheme L τ) (good : Nat → Prop)
    (htok : ∀ a b, S.token a = S.token b → a = b)
    (hcode : ∀ a b, S.nameCode a = S.nameCode b → a = b)
    (hcls : ∀ a b, S.clsCode a = S.clsCode b → a = b)
    (hrule : NameRuleComplete S good)
    (e₁ e₂ : E L) (h₁ : AdmE S good e₁) (h₂ : AdmE S good e₂) (h : nameOf S e₁ = nameOf S e₂) : e₁ = e₂ :=
  injE S good htok hcode hcls hrule e₁ e₂ h₁ h₂ h

/-- Determinism: the name handed out by `Expr.__new__` is the name of the requested tree in *every*
    state of the process-wide table (whatever was built, kept or collected before): the name is a
    function of the tree and of nothing else.  (No injectivity is needed for this direction.) -/
theorem C08_name_is_function_of_tree {η α : Type} [DecidableEq η] (name : α → η) (ops : List (Cache.TOp η α)) (x : α) :
    name (Cache.tnew name (Cache.trun name [] 0 ops).2 (Cache.requested ops).length x).1.val = name x := by
  have hi := Cache.tinv_trun ops [] 0 (Cache.tinv_nil name)
  unfold Cache.tnew
  cases hf : Cache.tfind (Cache.trun name [] 0 ops).2 (name x) with
  | some o => exact (hi _ (Cache.tfind_mem hf)).symm
  | none => rfl

/-- With collision-free names the table is observationally the constructor (C15_singleton, instantiated
    with `nameOf` on admissible trees). -/
theorem C08_singleton {L τ : Type} [DecidableEq τ] (S : Scheme L τ) (good : Nat → Prop)
    (htok : ∀ a b, S.token a = S.token b → a = b)
    (hcode : ∀ a b, S.nameCode a = S.nameCode b → a = b)
    (hcls : ∀ a b, S.clsCode a = S.clsCode b → a = b)
    (hrule : NameRuleComplete S good)
    (ops : List (Cache.TOp (Name τ) {e : E L // AdmE S good e})) :
    (Cache.trun (fun e => nameOf S e.1) [] 0 ops).1.map (·.val) = Cache.requested ops :=
  Cache.trun_vals (fun a b h => Subtype.ext (injE S good htok hcode hcls hrule a.1 b.1 a.2 b.2 h)) ops [] 0
    (Cache.tinv_nil _)

/-! ### each hypothesis is needed: collisions of the real naming scheme, for *every* token function -/

/-- `normalize_expression` tokenizes a nested expression as the string `_name`: a literal operand equal to
    that string gives the same name (`df.b == "sum-<token>"` vs `df.b == df.a.sum()`). -/
theorem C08_literal_equal_to_name_collides {L τ : Type} (S : Scheme L τ) (c : Nat) (e : E L) :
    nameOf S (.node c [.lit (S.nameCode (nameOf S e))]) = nameOf S (.node c [.sub e]) ∧
      (E.node c [Operand.lit (S.nameCode (nameOf S e))] : E L) ≠ .node c [.sub e] := by
  refine ⟨by simp [nameOf, canonOps, canon], ?_⟩
  intro h; injection h with _ h; injection h with h _; cases h

/-- two classes with the same constant prefix (e.g. `operation`) and the same operand list get one name -/
theorem C08_shared_prefix_collides {L τ : Type} (S : Scheme L τ) (c₁ c₂ : Nat) (hne : c₁ ≠ c₂) (p n : Nat)
    (h₁ : S.rules c₁ = Rule.default p n) (h₂ : S.rules c₂ = Rule.default p n) (ops : List (Operand L)) :
    nameOf S (.node c₁ ops) = nameOf S (.node c₂ ops) ∧ (E.node c₁ ops : E L) ≠ .node c₂ ops := by
  refine ⟨by simp [nameOf, prefixOf, tokenInput, h₁, h₂, Rule.default], ?_⟩
  intro h; injection h with h _; exact hne h

/-- an operand the token leaves out (ReadParquet's `_dataset_info_cache`) does not influence the name -/
theorem C08_dropped_operand_collides {L τ : Type} (S : Scheme L τ) (c p : Nat)
    (h : S.rules c = { Rule.default p 1 with dropped := [0] }) (a b : L) :
    nameOf S (.node c [.lit a]) = nameOf S (.node c [.lit b]) := by
  simp [nameOf, prefixOf, tokenInput, h, Rule.default, keepIdx, canonOps, canon]

/-! ### table obligations over Generated/NameRules.lean -/

/-- prefix groups whose members are not separated by the rule shape, with the reason they are kept apart
    (or not) by something the table cannot see -/
def exemptPrefixes : List String :=
  [ -- (the former group "operation" — D52 — is gone: /repo 5ae5dc5 uses the class name when `operation` is a method
    --  of that very name; should such a group reappear it is NOT exempt and this table obligation fails)
    -- AddPrefix/AddPrefixSeries, AddSuffix/AddSuffixSeries: chosen by the frame operand's dimension
    "add_prefix", "add_suffix",
    -- Projection(frame, <column labels>) / Filter(frame, <predicate expression>) / AlignGetitem(frame, <expression>):
    -- literal vs expression operand (A2), and alignment of the operands' divisions
    "getitem",
    -- Loc / LocList / LocSlice / LocElement: chosen by the Python type of the indexer operand
    "loc" ]

/-- classes whose token does not cover every operand, with the reason -/
def ownExceptions : List String :=
  [ -- `_dataset_info_cache` (last operand) is a memo of a function of the other operands and the file system;
    -- its digest `checksum` is tokenized instead
    "dask_expr.io.parquet.ReadParquet", "dask_expr.io.parquet.ReadParquetFSSpec", "dask_expr.io.parquet.ReadParquetPyarrowFS",
    -- the name is the key of the wrapped `Delayed` (unique by dask's own tokenization)
    "dask_expr._expr._DelayedExpr" ]

/-- Every class that overrides `_name`, and every class that inherits one, tokenizes all its operands or is
    a documented exception; classes with different constant prefixes are in different groups, groups are keyed
    by distinct prefix numbers, and inside a group any two classes are separated by their rule shape or the
    group is documented above.  (Classes whose prefix is computed from operand values — MapPartitions, FromMap,
    FromGraph, TreeReduce, CustomReduction, Fused, FusedIO, Chunk/Aggregate … — are separated from others by
    their token only; assumption A3 in the evidence.) -/
theorem C08_name_table :
    tableOK exemptPrefixes Generated.dynamicRows Generated.nameGroups = true ∧
    (Generated.nameRows.all (fun r => ownComplete r.rule || ownExceptions.contains r.cls)) = true := by
  refine ⟨by decide +kernel, by decide +kernel⟩

/-- … hence collision freedom for every tree over the classes of the live table that have a constant,
    non-exempt prefix and a complete token. -/
theorem C08_injective_on_table {L τ : Type} (S : Scheme L τ) (hS : S.rules = ruleOf Generated.nameRows)
    (htok : ∀ a b, S.token a = S.token b → a = b)
    (hcode : ∀ a b, S.nameCode a = S.nameCode b → a = b)
    (hcls : ∀ a b, S.clsCode a = S.clsCode b → a = b)
    (e₁ e₂ : E L)
    (h₁ : AdmE S (goodClass exemptPrefixes Generated.nameRows) e₁)
    (h₂ : AdmE S (goodClass exemptPrefixes Generated.nameRows) e₂)
    (h : nameOf S e₁ = nameOf S e₂) : e₁ = e₂ :=
  injE S _ htok hcode hcls (table_complete C08_name_table.1 S hS) e₁ e₂ h₁ h₂ h

/-- non-vacuity of `C08_injective_on_table`: most live classes are covered (constant non-exempt prefix, complete
    token), and the free scheme over the live table satisfies `hS` by definition -/
example : 250 < (Generated.nameRows.filter (goodRow exemptPrefixes)).length :=
  -- `goodRow` compares `pfx` with the exempt prefixes, and the kernel compares string literals by encoding them into
  -- their UTF-8 bytes; so only as many rows are looked at as the bound needs: the first 290 of the 356 hold 251
  Nat.lt_of_lt_of_le
    (by decide +kernel : 250 < ((Generated.nameRows.take 290).filter (goodRow exemptPrefixes)).length)
    ((List.take_sublist 290 _).filter _).length_le
example : (freeScheme (ruleOf Generated.nameRows)).rules = ruleOf Generated.nameRows := rfl

/-! ### non-vacuity: the free scheme satisfies A1/A2' and a three-class table is complete -/

def demoRules : Nat → Rule
  | 0 => Rule.default 10 2           -- "add"(left, right)
  | 1 => Rule.default 11 2           -- "sub"(left, right): other prefix
  | 2 => Rule.default 10 3           -- same prefix as 0, other operand count
  | _ => Rule.default 99 0

def demoGood (c : Nat) : Prop := c ≤ 2

theorem demo_complete : NameRuleComplete (freeScheme demoRules) demoGood := by
  have h₁ : ∀ c, c ≤ 2 → ownComplete (demoRules c) = true := by decide
  have h₂ : ∀ c₁, c₁ ≤ 2 → ∀ c₂, c₂ ≤ 2 → c₁ ≠ c₂ → separated (demoRules c₁) (demoRules c₂) = true := by
    decide
  exact ⟨h₁, fun c₁ c₂ g₁ g₂ => h₂ c₁ g₁ c₂ g₂⟩

/-- an admissible nested tree with a list operand: `sub(add(lit 1, lit 2), [lit 3, add(lit 4, lit 5)])` -/
example : AdmE (freeScheme demoRules) demoGood
    (.node 1 [.sub (.node 0 [.lit (.base 1), .lit (.base 2)]),
              .seq [.lit (.base 3), .sub (.node 0 [.lit (.base 4), .lit (.base 5)])]]) := by
  simp [AdmE, AdmO, AdmOps, demoGood, arityOK, demoRules, Rule.default, freeScheme]

example : ∀ a b, (freeScheme demoRules).token a = (freeScheme demoRules).token b → a = b := fun _ _ h => h
example : ∀ a b, (freeScheme demoRules).nameCode a = (freeScheme demoRules).nameCode b → a = b := by
  intro a b h
  cases a; cases b
  simp only [freeScheme, FreeLit.name.injEq] at h
  simp [h.1, h.2]
example : ∀ a b, (freeScheme demoRules).clsCode a = (freeScheme demoRules).clsCode b → a = b := by
  intro a b h; simpa [freeScheme] using h

end Dx

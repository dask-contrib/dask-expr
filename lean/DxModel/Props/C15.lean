/-
  Props/C15.lean — planner caches are transparent.  Helper lemmas live in Lemmas/Cache.lean.
  Model: DxModel/Cache.lean (LRU of dask_expr/_util.py, the get-or-compute patterns, `Expr._instances`).
  Table: DxModel/Generated/CacheSites.lean (regenerated from /repo on every run).
-/
import DxModel.Lemmas.Cache
import DxModel.Generated.CacheSites
namespace Dx
open Cache

section LRU
variable {κ ν : Type} [DecidableEq κ]

/-- An `LRU(cap)` that started empty never holds more than `cap` entries, for every history of
    reads, writes, membership tests (all keys, all values, all lengths).
    (For `cap = 0` every write raises, the state stays empty; the code only uses `LRU(10)`.) -/
theorem C15_lru_size (cap : Nat) (ops : List (Op κ ν)) :
    (finalState cap ([] : LRU κ ν) ops).length ≤ cap :=
  runOps_preserves (P := fun c => c.length ≤ cap) (fun _ op => length_step op) ops [] (Nat.zero_le _)

/-- … and from an arbitrary state it never grows beyond `max (current size) cap`
    (a write into a full cache first evicts the oldest entry — also when it overwrites). -/
theorem C15_lru_write_bound {cap : Nat} {c c' : LRU κ ν} {k : κ} {v : ν} (h : set cap c k v = some c') :
    c'.length ≤ max c.length cap :=
  length_set_le h

/-- the model state is a dict: keys stay pairwise distinct -/
theorem C15_lru_keys_unique (cap : Nat) (ops : List (Op κ ν)) :
    (keys (finalState cap ([] : LRU κ ν) ops)).Nodup :=
  runOps_preserves (P := fun c => (keys c).Nodup) (fun _ op => nodup_step op) ops [] List.nodup_nil

/-- Refinement: if every `cache[k] = v` in the history stores the value of one function of the key
    (`f k = some v`), then every successful `cache[k]` returns `f k` — a hit never returns the value
    of another key nor a stale value, whatever was evicted or re-inserted in between. -/
theorem C15_lru_refines (f : κ → Option ν) (cap : Nat) (ops : List (Op κ ν)) (hs : SetsAre f ops)
    (k : κ) (v : ν) (h : (Op.get k, Obs.hit v) ∈ ops.zip (runOps cap ([] : LRU κ ν) ops).1) : f k = some v :=
  hits_runOps cap ops [] (inv_nil f) hs k v h

/-- The memoisation pattern of `_get_divisions` (dask_expr/_shuffle.py) and `_get_mem_usages`
    (_repartition.py), and the pattern of `FromPandas._divisions_and_locations` /
    `FromPandasDivisions._divisions_and_locations` (io/io.py), return `f k` from *every* cache state
    reachable by any interleaving of such calls (and of assert-on-miss reads) over any keys:
    observationally they are the pure function `f` (including its failures). -/
theorem C15_get_or_compute (f : κ → Option ν) {cap : Nat} (hcap : 0 < cap) {c : LRU κ ν} (hr : Reach cap f c) (k : κ) :
    (getOrComputeA cap f c k).1 = f k ∧ (getOrComputeB cap f c k).1 = f k :=
  ⟨(goA_spec hcap k (reach_inv hcap hr)).1, (goB_spec hcap k (reach_inv hcap hr)).1⟩

/-- A failing computation writes nothing: the cache is exactly what it was. -/
theorem C15_failure_leaves_nothing (f : κ → Option ν) (cap : Nat) (c : LRU κ ν) (k : κ)
    (hmiss : has c k = false) (hfail : f k = none) :
    getOrComputeA cap f c k = (none, c) ∧ getOrComputeB cap f c k = (none, c) := by
  simp [getOrComputeA, getOrComputeB, hmiss, hfail]

/-- The assert-on-miss read (`_SetIndexPost._divisions`) is *not* transparent: on a reachable state
    that lost the key (eviction, or a fresh process) it fails although `f k` is defined. -/
theorem C15_assert_on_miss_not_transparent :
    ∃ (f : Nat → Option Nat) (c : LRU Nat Nat) (k : Nat), Reach 1 f c ∧ f k = some 7 ∧ (assertHit c k).1 = none :=
  ⟨fun _ => some 7, [], 0, Reach.empty, rfl, rfl⟩

end LRU

/-- `Expr._instances` (`Expr.__new__`): for every history of constructions interleaved with garbage
    collections that drop *any* subset of entries at *any* time, every construction hands back an
    object with exactly the requested (class, operands) — provided names are injective (C08). -/
theorem C15_singleton {η α : Type} [DecidableEq η] (name : α → η) (hinj : ∀ a b, name a = name b → a = b)
    (ops : List (TOp η α)) :
    (trun name [] 0 ops).1.map (·.val) = requested ops :=
  trun_vals hinj ops [] 0 (tinv_nil name)

/-- without injective names the table does hand out the wrong expression -/
theorem C15_singleton_needs_injective :
    ∃ (name : Nat → Nat) (ops : List (TOp Nat Nat)), (trun name [] 0 ops).1.map (·.val) ≠ requested ops :=
  ⟨fun _ => 0, [.new 1, .new 2], by decide +kernel⟩

/-! ### table obligations over Generated/CacheSites.lean -/

/-- every read of the cache is protected by recompute-on-miss, or cannot be reached at all -/
def readsGuarded (s : Site) : Bool := !s.reads || s.guarded || s.unreachable

/-- Every read of a process-global cache anywhere in dask_expr recomputes on a miss, or sits in a branch no
    constructor call can reach.  (Until /repo 53e3171 this was false for `_SetIndexPost._divisions`, D10: the lowered
    `set_index` plan now carries its divisions as the `user_divisions` operand; the scan checks that *every* call
    `_SetIndexPost(…)` passes a value that is syntactically never `None`.) -/
theorem C15_no_assert_on_miss : ∀ s ∈ Generated.cacheSites, readsGuarded s = true := by decide +kernel

/-- the former D10 site: its `assert key in divisions_lru` read is still in the source, but dead -/
def assertSite : String := "_shuffle.py:_SetIndexPost._divisions"

theorem C15_assert_site_is_dead :
    ∀ s ∈ Generated.cacheSites, s.asserts = true → s.func = assertSite ∧ s.unreachable = true := by decide +kernel

/-- Inputs of a memoised computation that its key does not mention, with the reason each is harmless. -/
def justifiedUncovered : List (String × String) :=
  [ -- `frame` is used for an error message only; `other._name` (in the key) determines `other`'s whole subtree
    ("_shuffle.py:_get_divisions", "frame"),
    -- the LRU belongs to one `_BackendData` wrapper, created per `from_pandas` call; every expression derived
    -- from it (`substitute_parameters` for projections / partition selection) keeps `chunksize`
    ("io/io.py:FromPandas._divisions_and_locations", "self.chunksize"),
    -- `dataset_info` (the key) is produced by this engine with these filters and records both
    ("io/parquet.py:ReadParquetFSSpec._plan", "self.engine"),
    ("io/parquet.py:ReadParquetFSSpec._plan", "self.filters") ]

def keyComplete (s : Site) : Bool := s.uncovered.all (fun u => justifiedUncovered.contains (s.func, u))

/- Full statement — FALSE on the current tree: `ReadParquetFSSpec._plan` stores `parts = [self._meta]`
   (which depends on the projected columns) under a key that does not mention the columns; a later read of
   the same dataset with other columns gets the first one's columns when every row group is filtered out.

theorem C15_keys_complete : ∀ s ∈ Generated.cacheSites, keyComplete s = true := by decide
-/

/-- Every get-or-compute site's key mentions every input of the memoised computation, up to the justified
    list above — except `ReadParquetFSSpec._plan`, whose value depends on `self._meta`. -/
theorem C15_keys_complete_partial :
    ∀ s ∈ Generated.cacheSites, s.func ≠ "io/parquet.py:ReadParquetFSSpec._plan" → keyComplete s = true := by
  -- `keyComplete` is tested before the name: the kernel compares two string literals by encoding both into their
  -- UTF-8 bytes, and on a site with nothing uncovered `keyComplete` compares no strings at all.
  have h : ∀ s ∈ Generated.cacheSites,
      keyComplete s = true ∨ s.func = "io/parquet.py:ReadParquetFSSpec._plan" := by decide +kernel
  exact fun s hs hne => (h s hs).resolve_right hne

theorem C15_keys_incomplete_site :
    ∃ s ∈ Generated.cacheSites, s.func = "io/parquet.py:ReadParquetFSSpec._plan" ∧ s.cache = "_cached_plan" ∧
      s.uncovered.contains "self._meta" = true ∧ keyComplete s = false := by
  -- likewise: the conjunct that fails without a string comparison comes first
  have h : ∃ s ∈ Generated.cacheSites, s.uncovered.contains "self._meta" = true ∧
      s.func = "io/parquet.py:ReadParquetFSSpec._plan" ∧ s.cache = "_cached_plan" ∧ keyComplete s = false := by
    decide +kernel
  obtain ⟨s, hs, hu, hf, hc, hk⟩ := h
  exact ⟨s, hs, hf, hc, hu, hk⟩

/-- The token of a parquet file (dataset checksum in `ReadParquetPyarrowFS._name`, key of `_STATS_CACHE`) mentions
    everything that can tell two states of a file apart without reading it: path, size *and* modification time
    (an in-place rewrite to the same byte size changes nothing else). -/
theorem C15_fileinfo_token_complete :
    ["path", "size", "mtime_ns"].all (fun f => Generated.fileinfoTokenFields.contains f) = true := by decide +kernel

/-! ### non-vacuity -/

/-- a capacity-2 history over 3 keys with an overwrite of the oldest key, a hit that reorders, and evictions -/
example : runOps 2 ([] : LRU Nat Nat) [.set 0 10, .set 1 11, .get 0, .set 2 12, .get 1, .get 0, .set 0 10, .len]
    = ([.ok, .ok, .hit 10, .ok, .miss, .hit 10, .ok, .nat 1], [(0, 10)]) := by decide +kernel

/-- `SetsAre` is satisfiable by that history with `f k = k + 10` -/
example : SetsAre (fun k => some (k + 10)) ([.set 0 10, .set 1 11, .get 0, .set 2 12] : List (Op Nat Nat)) := by
  intro k v h
  simp at h
  rcases h with ⟨rfl, rfl⟩ | ⟨rfl, rfl⟩ | ⟨rfl, rfl⟩ <;> rfl

def reachDemoF : Nat → Option Nat := fun k => if k = 3 then none else some (k * 2)

/-- reachable non-empty state; a partial `f` (key 3 fails) -/
example : Reach 2 (fun k => if k = 3 then none else some (k * 2)) ([(1, 2), (5, 10)] : LRU Nat Nat) := by
  have e : (getOrComputeB 2 reachDemoF (getOrComputeA 2 reachDemoF (getOrComputeA 2 reachDemoF [] 1).2 3).2 5).2
      = [(1, 2), (5, 10)] := by decide +kernel
  exact e ▸ Reach.stepB (f := reachDemoF) _ 5 (Reach.stepA _ 3 (Reach.stepA _ 1 Reach.empty))

/-- a construction history with a collection in between: the second `new 5` finds the entry gone and re-inserts -/
example : (trun (fun x : Nat => x) [] 0 [.new 5, .new 5, .gc (fun _ => false), .new 5, .new 6]).1
    = [⟨0, 5⟩, ⟨0, 5⟩, ⟨2, 5⟩, ⟨3, 6⟩] := by decide +kernel

end Dx

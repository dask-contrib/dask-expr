/-
  Props/C05.lean — results do not depend on task scheduling.
  Generic theorems over key-indexed graphs (any key type, any task interpretation):
  the value of a key is a function of the graph alone; every dependency-respecting sequential order
  and every legal multi-worker start/finish schedule publishes exactly that value.
  What the model cannot exhibit (partial): that the pandas-calling task functions are pure
  (`evalTsk` is a function by construction) — sampled by the harness (argument hashing).
-/
import DxModel.Sched
import DxModel.GraphCheck
import DxModel.Plan
namespace Dx

/-- Values are a function of the graph: once the fuel exceeds a key's rank, more fuel changes nothing
    (so "computing the same collection repeatedly gives the same answer"). -/
theorem C05_value_function_of_graph {κ} (I : Interp) (g : Graph κ) (inp : κ → Option V) (rank : κ → Nat)
    (hr : Ranked g rank) (k : κ) (m : Nat) (hm : rank k < m) :
    run I g inp m k = val I g inp rank k :=
  run_stable I g inp rank hr (rank k + 1) k (by omega) m (by omega)

/-- **Confluence**: any two dependency-respecting orders of the tasks store the same value for
    every key (graphs of any size). -/
theorem C05_confluence {κ} [DecidableEq κ] (I : Interp) (g : Graph κ) (inp : κ → Option V)
    (rank : κ → Nat) (hr : Ranked g rank) (o₁ o₂ : List κ)
    (h₁ : Topo g [] o₁) (h₂ : Topo g [] o₂)
    (d₁ : ∀ k ∈ o₁, (g k).isSome) (d₂ : ∀ k ∈ o₂, (g k).isSome)
    (k : κ) (hk₁ : k ∈ o₁) (hk₂ : k ∈ o₂) :
    (execOrder I g inp o₁ []).lookup k = (execOrder I g inp o₂ []).lookup k :=
  confluence I g inp rank hr o₁ o₂ h₁ h₂ d₁ d₂ k hk₁ hk₂

/-- every dependency-respecting order computes the canonical value -/
theorem C05_order_val {κ} [DecidableEq κ] (I : Interp) (g : Graph κ) (inp : κ → Option V)
    (rank : κ → Nat) (hr : Ranked g rank) (order : List κ) (ht : Topo g [] order)
    (hdef : ∀ k ∈ order, (g k).isSome) (k : κ) (hk : k ∈ order) :
    (execOrder I g inp order []).lookup k = some (val I g inp rank k) :=
  execOrder_val I g inp rank hr order ht hdef k hk

/-- **Any number of workers**: a schedule of start/finish events in which a task starts only after
    its dependencies were published (workers read their arguments when they start, results are
    published later, arbitrarily interleaved) publishes the canonical value for every finished key. -/
theorem C05_workers {κ} [DecidableEq κ] (I : Interp) (g : Graph κ) (inp : κ → Option V)
    (rank : κ → Nat) (hr : Ranked g rank) (es : List (Ev κ)) (hl : LegalPar g [] [] es) :
    ∃ done started, ParOK I g inp rank done started (es.foldl (parStep I g inp) ⟨[], []⟩) ∧
      (∀ k, Ev.finish k ∈ es → k ∈ done) := by
  obtain ⟨d, s, h1, _, h3⟩ := par_ok I g inp rank hr es [] [] _ ParOK.nil hl
  exact ⟨d, s, h1, h3⟩

/-- published values under any legal multi-worker schedule are the canonical ones -/
theorem C05_workers_val {κ} [DecidableEq κ] (I : Interp) (g : Graph κ) (inp : κ → Option V)
    (rank : κ → Nat) (hr : Ranked g rank) (es : List (Ev κ)) (hl : LegalPar g [] [] es)
    (k : κ) (hk : Ev.finish k ∈ es) :
    ((es.foldl (parStep I g inp) ⟨[], []⟩).store).lookup k = some (val I g inp rank k) := by
  obtain ⟨d, s, h1, h3⟩ := C05_workers I g inp rank hr es hl
  exact h1.1.1 k (h3 k hk)

/-- the plan-level graph of a well-formed plan is ranked, so all of the above applies to it
    (the `BEq` instance is written out: the store of `execOrder` is searched with the one from `DecidableEq`, not
    with the product instance of `Nat × κ` that elaboration would pick) -/
theorem C05_plan {κ} [Inhabited κ] [DecidableEq κ] (I : Interp) (P : Plan κ) (hP : PlanOK P)
    (o₁ o₂ : List (Nat × κ)) (h₁ : Topo (merged P) [] o₁) (h₂ : Topo (merged P) [] o₂)
    (d₁ : ∀ k ∈ o₁, (merged P k).isSome) (d₂ : ∀ k ∈ o₂, (merged P k).isSome)
    (k : Nat × κ) (hk₁ : k ∈ o₁) (hk₂ : k ∈ o₂) :
    @List.lookup _ _ instBEqOfDecidableEq k (execOrder I (merged P) (fun _ => none) o₁ []) =
    @List.lookup _ _ instBEqOfDecidableEq k (execOrder I (merged P) (fun _ => none) o₂ []) :=
  confluence I (merged P) (fun _ => none) (globalRank P) (merged_ranked P hP) o₁ o₂ h₁ h₂ d₁ d₂ k hk₁ hk₂

/-- soundness of the graph checker used on real graphs (shared with C09) -/
theorem C05_checker_sound {κ} [DecidableEq κ] (l : List (κ × List κ)) (h : checkOrder l [] = true) :
    (l.map Prod.fst).Nodup ∧
    (∀ (i : Nat) (hi : i < l.length), ∀ r ∈ (l[i]).2,
        ∃ (j : Nat) (hj : j < l.length), j < i ∧ (l[j]).1 = r) := checkOrder_sound l h

/-! non-vacuity: a diamond a -> {b, c} -> d executed in both orders -/
namespace C05Example
def g : Graph Nat
  | 0 => some (.const [⟨0, 0, 7⟩])
  | 1 => some (.alias 0)
  | 2 => some (.alias 0)
  | 3 => some (.concat [1, 2] false)
  | _ => none
example : Topo g [] [0, 1, 2, 3] := Topo.of_check g _ _ (by decide)
example : Topo g [] [0, 2, 1, 3] := Topo.of_check g _ _ (by decide)
example : LegalPar g [] [] [.start 0, .finish 0, .start 1, .start 2, .finish 2, .finish 1, .start 3, .finish 3] :=
  LegalPar.of_check g _ _ _ (by decide)
end C05Example

end Dx

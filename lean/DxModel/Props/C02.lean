/-
  Props/C02.lean — results equal the pandas meaning of the query for every partitioning.

  One theorem family per partitioned algorithm (TreeReduce, CumulativeFinalize, map_overlap,
  Blockwise, the consumers of a shuffle), each of the shape `alg(parts) = spec(concat parts)` for ALL
  partitionings (any number of partitions, any boundaries, empty partitions; induction, no bounds).
-/
import DxModel.Lemmas.TreeReduce
import DxModel.Lemmas.Cumulative
import DxModel.Lemmas.Overlap
import DxModel.Lemmas.Blockwise
import DxModel.Lemmas.GroupJoin
import DxModel.Props.C12
namespace Dx

section Tree
open Tree

/-- Value level, any type of partial results.  If `combine` and `aggregate` satisfy the homomorphism
    law (`aggregate` of combined non-empty batches = `aggregate` of the flattened batches) the level
    loop computes `aggregate` of ALL chunk results, whatever `split_every` (False or any k ≥ 1) and
    whatever the number of chunks. -/
theorem C02_tree_value {α β} (comb : List α → α) (agg : List α → β) (h : HomLaw comb agg)
    (se : Option Nat) (hse : ∀ k, se = some k → 1 ≤ k) (xs : List α) :
    treeEval comb agg se xs = agg xs := by
  cases se with
  | none => rfl
  | some k => exact treeVal_agg comb agg h k (hse k rfl) _ xs

example : treeEval List.sum List.sum (some 2) [1, 2, 3, 4, 5, 6, 7] = 28 := by decide

/-- Free instance (partial results = lists, combine = aggregate = concatenation): the tree hands every
    chunk result to the aggregation exactly once and in order. -/
theorem C02_tree_each_once {γ} (se : Option Nat) (hse : ∀ k, se = some k → 1 ≤ k) (xs : List γ) :
    treeEval List.flatten List.flatten se (xs.map (fun x => [x])) = xs := by
  rw [C02_tree_value List.flatten List.flatten (fun bs _ _ => List.flatten_flatten.symm) se hse, ← List.flatMap_def]
  exact List.flatMap_singleton' xs

example : treeEval List.flatten List.flatten (some 3) ((List.range 11).map (fun x => [x])) = List.range 11 :=
  C02_tree_each_once (some 3) (by intro k h; cases h; decide) (List.range 11)

/-- Graph level.  For every number `n` of chunks and every value of the `split_every` property
    (`False`, or `k ≥ 2`), the task `(name, 0)` of `TreeReduce._layer` evaluates to `aggregate` applied to
    the `n` chunk results in order — provided the triple satisfies the homomorphism law. -/
theorem C02_tree (I : Interp) (p : Params) (hse : ∀ k, p.splitEvery = some k → 2 ≤ k)
    (h : HomLaw (I (combFn p)) (I aggFn)) (vals : Nat → V) (F : Nat) (hF : p.n + 2 ≤ F) :
    run I (layer p) (inputs vals) F .out = I aggFn ((List.range p.n).map vals) := by
  rw [run_tree I p vals F hF]
  exact C02_tree_value _ _ h _ (fun k hk => Nat.le_of_succ_le (hse k hk)) _

/-- …hence, when `aggregate ∘ map chunk` is the reduction of the concatenation (the law of the triple,
    T4-checked per reduction), the layer computes the reduction of the concatenated input. -/
theorem C02_tree_spec (I : Interp) (p : Params) (hse : ∀ k, p.splitEvery = some k → 2 ≤ k)
    (h : HomLaw (I (combFn p)) (I aggFn)) (chunk : List Row → V) (spec : List Row → V)
    (hspec : ∀ ps : List (List Row), ps ≠ [] → I aggFn (ps.map chunk) = spec ps.flatten)
    (parts : Nat → List Row) (hn : 1 ≤ p.n) (F : Nat) (hF : p.n + 2 ≤ F) :
    run I (layer p) (inputs (fun i => chunk (parts i))) F .out =
      spec ((List.range p.n).flatMap parts) := by
  rw [C02_tree I p hse h _ F hF]
  exact (congrArg (I aggFn) List.map_map.symm).trans
    (hspec _ fun e => Nat.ne_of_gt hn (List.range_eq_nil.mp (List.map_eq_nil_iff.mp e)))

namespace C02Ex
/-- example interpretation: a partial result is a one-row frame holding a sum -/
def payOf : V → Nat
  | .frame [r] => r.pay
  | _ => 0
def ISum : Interp := fun _ vs => .frame [⟨0, 0, (vs.map payOf).sum⟩]
def chunkSum (rows : List Row) : V := .frame [⟨0, 0, (rows.map (·.pay)).sum⟩]

/-- the sum of the partial sums of the batches is the sum over all their elements -/
theorem sum_map_flatten {α} (w : α → Nat) (c : List α → V) (hc : ∀ b, payOf (c b) = (b.map w).sum)
    (bs : List (List α)) : ((bs.map c).map payOf).sum = (bs.flatten.map w).sum := by
  rw [List.map_flatten, sum_flatten, List.map_map, List.map_map]
  exact congrArg List.sum (List.map_congr_left fun b _ => hc b)

theorem ISum_hom (f : Nat) : HomLaw (ISum f) (ISum aggFn) :=
  fun bs _ _ => congrArg (fun s => V.frame [⟨0, 0, s⟩]) (sum_map_flatten payOf (ISum f) (fun _ => rfl) bs)

def parts5 (i : Nat) : List Row := if i = 2 then [] else [⟨i, 0, i + 1⟩, ⟨i + 10, 0, 10 * i⟩]
end C02Ex
open C02Ex

example : run ISum (layer ⟨5, some 2, false⟩) (inputs (fun i => chunkSum (parts5 i))) 7 .out =
    ISum aggFn ((List.range 5).map (fun i => chunkSum (parts5 i))) :=
  C02_tree ISum ⟨5, some 2, false⟩ (by intro k h; cases h; decide) (ISum_hom _) _ 7 (by decide)

theorem C02Ex.chunkSum_spec (ps : List (List Row)) :
    ISum aggFn (ps.map chunkSum) = chunkSum ps.flatten :=
  congrArg (fun s => V.frame [⟨0, 0, s⟩]) (sum_map_flatten (·.pay) chunkSum (fun _ => rfl) ps)

/-- the sum of the concatenation, for every layout and every split_every -/
example (se : Option Nat) (hse : ∀ k, se = some k → 2 ≤ k) (n : Nat) (hn : 1 ≤ n) (parts : Nat → List Row) :
    run ISum (layer ⟨n, se, false⟩) (inputs (fun i => chunkSum (parts i))) (n + 2) .out =
      chunkSum ((List.range n).flatMap parts) :=
  C02_tree_spec ISum ⟨n, se, false⟩ hse (ISum_hom _) chunkSum chunkSum (fun ps _ => chunkSum_spec ps) parts hn
    (n + 2) (Nat.le_refl _)

/-- the conclusion on a concrete instance, by evaluation: 5 partitions (one empty), `split_every=2` ⇒
    three combine levels; the total 1+0+2+10+4+30+5+40 = 92 -/
example : run ISum (layer ⟨5, some 2, false⟩) (inputs (fun i => chunkSum (parts5 i))) 7 .out =
    .frame [⟨0, 0, 92⟩] := by decide
example : run ISum (layer ⟨5, none, false⟩) (inputs (fun i => chunkSum (parts5 i))) 7 .out =
    .frame [⟨0, 0, 92⟩] := rfl
example : (dict ⟨5, some 2, false⟩).length = 6 := by decide

/-- Termination of the level loop for `split_every ≥ 2`: the iteration bound of the model is never the
    reason the loop stops — a larger bound gives the same graph, the same value, and the final key
    list has at most `split_every` entries (the `while` condition is false). -/
theorem C02_tree_terminates (p : Params) (k : Nat) (hk : 2 ≤ k) :
    (∀ j keys, keys.length ≤ p.n → graphLoop p k (p.n + 1) j keys = graphLoop p k p.n j keys) ∧
    (∀ {α} (comb : List α → α) (xs : List α), xs.length ≤ p.n →
        treeVal comb k (p.n + 1) xs = treeVal comb k p.n xs ∧ (treeVal comb k p.n xs).length ≤ k) :=
  ⟨fun j keys h => graphLoop_stable p k hk p.n j keys (Nat.le_add_right_of_le h),
    fun comb xs h => treeVal_stable comb k hk p.n xs (Nat.le_add_right_of_le h)⟩

example : (treeVal List.sum 2 7 [1, 2, 3, 4, 5, 6, 7]).length ≤ 2 :=
  ((C02_tree_terminates ⟨7, some 2, false⟩ 2 (by decide)).2 List.sum [1, 2, 3, 4, 5, 6, 7] (by decide)).2

/-- Why `split_every = 1` is rejected: a level of `m > 1` keys is followed by a level of `m` keys
    again, so the loop condition `len(keys) > 1` stays true — for every bound the model loop runs
    until the bound, whereas for `k ≥ 2` the number of levels is bounded by `m`. -/
theorem C02_tree_split_every_one_no_progress (f m : Nat) (hm : 1 < m) :
    nchunks 1 m = m ∧ sizes 1 f m = List.replicate (f+1) m ∧
    (∀ k, 2 ≤ k → (sizes k f m).length ≤ m + 1) :=
  ⟨nchunks_one m, sizes_one f m hm, fun k hk => sizes_length_le k hk f m⟩

example : sizes 1 5 3 = [3, 3, 3, 3, 3, 3] ∧ sizes 2 5 3 = [3, 2] := by decide

/-- the `split_every` property accepts exactly `None` (→ 8), `False` and integers ≥ 2 -/
theorem C02_tree_split_every_guard (s : SE) :
    (splitEveryProp s = none ↔ ∃ k, s = .int k ∧ k < 2) ∧
    (∀ k, splitEveryProp s = some (some k) → 2 ≤ k) := by
  cases s with
  | dflt =>
    refine ⟨⟨fun e => ?_, fun h => ?_⟩, fun k e => ?_⟩
    · cases e
    · obtain ⟨_, e, _⟩ := h; cases e
    · cases e; decide
  | off =>
    refine ⟨⟨fun e => ?_, fun h => ?_⟩, fun k e => ?_⟩
    · cases e
    · obtain ⟨_, e, _⟩ := h; cases e
    · cases e
  | int k =>
    by_cases h : k ≥ 2
    · rw [show splitEveryProp (.int k) = some (some k.toNat) from if_pos h]
      refine ⟨⟨fun e => ?_, fun h' => ?_⟩, fun k' e => ?_⟩
      · cases e
      · obtain ⟨_, e, hk'⟩ := h'
        cases e
        exact absurd h (Int.not_le.mpr hk')
      · cases e
        exact (Int.le_toNat (Int.le_trans (by decide) h)).mpr h
    · rw [show splitEveryProp (.int k) = none from if_neg h]
      exact ⟨⟨fun _ => ⟨k, rfl, Int.not_le.mp h⟩, fun _ => rfl⟩, fun _ e => by cases e⟩

example : splitEveryProp (.int 1) = none ∧ splitEveryProp (.int 2) = some (some 2) ∧
    splitEveryProp .dflt = some (some 8) ∧ splitEveryProp .off = some none := by decide

/-- the graph function used by the theorems defines exactly the tasks of the transliterated dict
    (the text compared with the real `_layer()` output) -/
theorem C02_tree_dict (p : Params) (q : Key) (t : Tsk Key) : (q, t) ∈ dict p ↔ layer p q = some t :=
  dict_iff p q t

example : (Key.node 2 0, Tsk.apply 0 [Key.node 1 0, Key.node 1 1]) ∈ dict ⟨5, some 2, false⟩ :=
  (C02_tree_dict _ _ _).mpr rfl

theorem C02_tree_wf (p : Params) (vals : Nat → V) :
    Closed (layer p) (inputs vals) ∧ Ranked (layer p) (treeRank p.n) :=
  ⟨tree_closed p vals, tree_ranked p⟩

end Tree

section Scan
open Cum

/-- Output partition `i` of `CumulativeFinalize` is the running accumulation over input partition `i`
    started from the accumulated value of all rows before it — for every partition count and every
    partitioning, empty partitions included (they contribute `None`, which `_cum_aggregate_apply`
    treats as "nothing so far"). -/
theorem C02_scan_partition (op : Nat → Nat → Nat) (h : CumOp op) (n : Nat) (parts : Nat → List Row)
    (i : Nat) (hi : i < n) (F : Nat) (hF : i + 1 ≤ F) :
    run (interp op) (layer n) (inputs op parts) F (.out i) =
      .frame (scanFrom op (acc op none (before parts i)) (parts i)) :=
  cum_run_out op h n parts i hi F hF

/-- The concatenation of the outputs is the cumulative operation on the concatenation of the inputs. -/
theorem C02_scan (op : Nat → Nat → Nat) (h : CumOp op) (n : Nat) (parts : Nat → List Row) (F : Nat) (hF : n ≤ F) :
    concatV ((List.range n).map (fun i => run (interp op) (layer n) (inputs op parts) F (.out i))) =
      .frame (cum op ((List.range n).flatMap parts)) := by
  rw [concatV_map_frames _ _ _ fun i hi =>
    cum_run_out op h n parts i (List.mem_range.mp hi) F (Nat.le_trans (List.mem_range.mp hi) hF), scan_concat]
  rfl

theorem C02_scan_wf (op : Nat → Nat → Nat) (n : Nat) (parts : Nat → List Row) :
    Closed (layer n) (inputs op parts) ∧ Ranked (layer n) cumRank :=
  have h := cum_stratified' n (inputs op parts) rfl fun _ _ => ⟨rfl, rfl⟩
  ⟨h.closed, h.ranked⟩

namespace C02Ex
theorem addOp : CumOp (· + ·) := ⟨Nat.add_assoc, Nat.add_comm⟩
theorem maxOp : CumOp Nat.max := ⟨Nat.max_assoc, Nat.max_comm⟩
/-- layout `[2 rows | empty | 1 row | empty | 2 rows]` -/
def cparts (i : Nat) : List Row :=
  match i with
  | 0 => [⟨0, 0, 3⟩, ⟨1, 0, 4⟩]
  | 2 => [⟨2, 0, 5⟩]
  | 4 => [⟨3, 0, 1⟩, ⟨4, 0, 2⟩]
  | _ => []
end C02Ex
open C02Ex

example : concatV ((List.range 5).map (fun i => run (interp (· + ·)) (layer 5) (inputs (· + ·) cparts) 5 (.out i))) =
    .frame (cum (· + ·) ((List.range 5).flatMap cparts)) :=
  C02_scan (· + ·) addOp 5 cparts 5 (by decide)

example : cum (· + ·) ((List.range 5).flatMap cparts) =
    [⟨0, 0, 3⟩, ⟨1, 0, 7⟩, ⟨2, 0, 12⟩, ⟨3, 0, 13⟩, ⟨4, 0, 15⟩] := rfl
example : run (interp (· + ·)) (layer 5) (inputs (· + ·) cparts) 5 (.out 4) = .frame [⟨3, 0, 13⟩, ⟨4, 0, 15⟩] := rfl

/- Pre-fix counterexample (D19, fixed by 7fd4a29).  `TakeLast.operation` returned the *empty* frame for an
   empty partition and `_cum_aggregate_apply` combined it like a value: with the layout above,
   `df.cumsum()` returned NaN for every row after the first empty partition (cummax/cummin raised).
   In the model the pre-fix `TakeLast` makes the intermediate key of partition 2 ill-defined: -/
example : run (interp (· + ·)) (layer 5) (inputsPreFix (· + ·) cparts) 5 (.out 2) = .err := by decide
example : run (interp (· + ·)) (layer 5) (inputs (· + ·) cparts) 5 (.out 2) = .frame [⟨2, 0, 12⟩] := rfl

end Scan

section Ov
open Overlap

/-- Under the guard the code checks (every partition with a successor has ≥ `before` rows, every
    partition with a predecessor ≥ `after` rows) output partition `i` of
    `MapPartitions(CreateOverlappingPartitions(frame, before, after), _overlap_chunk, func)` is the
    windowed operation evaluated on partition `i` *in the context of the whole frame*. -/
theorem C02_overlap_partition (p : Params) (g : List Row → Row → List Row → Row) (parts : Nat → List Row)
    (hg : guardOK p parts) (i : Nat) (hi : i < p.n) (F : Nat) (hF : 3 ≤ F) :
    run (interp p (win g p.before p.after)) (layer p) (inputs parts) F (.res i) =
      .frame (winAux g p.before p.after (beforeRows parts i).reverse (parts i) (afterRows parts p.n i)) := by
  obtain ⟨F', rfl⟩ := Nat.exists_eq_add_of_le' hF
  exact ov_run_res p g parts hg F' i hi

/-- …and the concatenation of the outputs is the windowed operation on the concatenated input. -/
theorem C02_overlap (p : Params) (g : List Row → Row → List Row → Row) (parts : Nat → List Row)
    (hg : guardOK p parts) (F : Nat) (hF : 3 ≤ F) :
    concatV ((List.range p.n).map (fun i =>
        run (interp p (win g p.before p.after)) (layer p) (inputs parts) F (.res i))) =
      .frame (win g p.before p.after ((List.range p.n).flatMap parts)) := by
  rw [concatV_map_frames _ _
    (fun i => winAux g p.before p.after (beforeRows parts i).reverse (parts i) (afterRows parts p.n i ++ []))
    fun i hi => (List.append_nil (afterRows parts p.n i)).symm ▸
      C02_overlap_partition p g parts hg i (List.mem_range.mp hi) F hF,
    win_concat g p.before p.after parts p.n []]
  rfl

/-- Refusal, `before` side: a partition with a successor and fewer than `before` rows makes
    `_combined_parts` of the successor raise the explicit NotImplementedError (`none`), and nothing
    else is returned for that partition. -/
theorem C02_overlap_refuses_before (p : Params) (func : List Row → List Row) (parts : Nat → List Row)
    (j : Nat) (hb : p.before ≠ 0) (hj : j + 1 < p.n) (hlen : (parts j).length < p.before)
    (F : Nat) (hF : 3 ≤ F) :
    combinedParts p.before p.after (prevRows p parts (j+1)) (parts (j+1)) (nextRows p parts (j+1)) = none ∧
    run (interp p func) (layer p) (inputs parts) F (.res (j+1)) = .err := by
  obtain ⟨F', rfl⟩ := Nat.exists_eq_add_of_le' hF
  exact ov_refuse_before p func parts F' j hb hj hlen

/-- Refusal, `after` side. -/
theorem C02_overlap_refuses_after (p : Params) (func : List Row → List Row) (parts : Nat → List Row)
    (j : Nat) (ha : p.after ≠ 0) (hj : j + 1 < p.n) (hlen : (parts (j+1)).length < p.after)
    (F : Nat) (hF : 3 ≤ F) :
    combinedParts p.before p.after (prevRows p parts j) (parts j) (nextRows p parts j) = none ∧
    run (interp p func) (layer p) (inputs parts) F (.res j) = .err := by
  obtain ⟨F', rfl⟩ := Nat.exists_eq_add_of_le' hF
  exact ov_refuse_after p func parts F' j ha hj hlen

/-- "Either the exact answer or an explicit refusal": for every partitioning, either the guard holds
    (and `C02_overlap` gives the windowed operation on the concatenation) or some output partition is
    the refusal — never a frame with different content. -/
theorem C02_overlap_dichotomy (p : Params) (g : List Row → Row → List Row → Row) (parts : Nat → List Row)
    (F : Nat) (hF : 3 ≤ F) :
    (concatV ((List.range p.n).map (fun i =>
        run (interp p (win g p.before p.after)) (layer p) (inputs parts) F (.res i))) =
      .frame (win g p.before p.after ((List.range p.n).flatMap parts))) ∨
    (∃ i, i < p.n ∧ run (interp p (win g p.before p.after)) (layer p) (inputs parts) F (.res i) = .err) := by
  by_cases herr : ∃ i, i < p.n ∧ run (interp p (win g p.before p.after)) (layer p) (inputs parts) F (.res i) = .err
  · exact .inr herr
  · -- no partition refuses, so none is too short for the window of its neighbour: the guard holds
    refine .inl (C02_overlap p g parts ⟨fun hb j hj => Nat.le_of_not_lt fun hlen => ?_,
      fun ha j h1 hj => Nat.le_of_not_lt fun hlen => ?_⟩ F hF)
    · exact herr ⟨j + 1, hj, (C02_overlap_refuses_before p _ parts j hb hj hlen F hF).2⟩
    · obtain ⟨j', rfl⟩ := Nat.exists_eq_add_of_le' h1
      exact herr ⟨j', Nat.lt_of_succ_lt hj, (C02_overlap_refuses_after p _ parts j' ha hj hlen F hF).2⟩

theorem C02_overlap_wf (p : Params) (parts : Nat → List Row) :
    Closed (layer p) (inputs parts) ∧ Ranked (layer p) ovRank :=
  have h := ov_stratified p (inputs parts) fun _ _ => rfl
  ⟨h.closed, h.ranked⟩

namespace C02Ex
/-- `shift(1) - shift(-1)`-like window: previous payload + 100 × next payload (0 where missing) -/
def gShift (pre : List Row) (r : Row) (post : List Row) : Row :=
  { r with pay := (match pre with | [] => 0 | q :: _ => q.pay) + 100 * (match post with | [] => 0 | q :: _ => q.pay) }
/-- layout `[2 | 1 | 3]` -/
def oparts (i : Nat) : List Row :=
  match i with
  | 0 => [⟨0, 0, 1⟩, ⟨1, 0, 2⟩]
  | 1 => [⟨2, 0, 3⟩]
  | 2 => [⟨3, 0, 4⟩, ⟨4, 0, 5⟩, ⟨5, 0, 6⟩]
  | _ => []
/-- layout `[2 | 0 | 3]`: the empty middle partition is shorter than the window -/
def opartsE (i : Nat) : List Row := if i = 1 then [] else oparts i
theorem oparts_guard : guardOK ⟨3, 1, 1⟩ oparts := by
  have h : ∀ i, i < 3 → 1 ≤ (oparts i).length := by decide
  exact ⟨fun _ i hi => h i (Nat.lt_of_succ_lt hi), fun _ i _ hi => h i hi⟩
end C02Ex
open C02Ex

example : concatV ((List.range 3).map (fun i =>
    run (interp ⟨3, 1, 1⟩ (win gShift 1 1)) (layer ⟨3, 1, 1⟩) (inputs oparts) 3 (.res i))) =
    .frame (win gShift 1 1 ((List.range 3).flatMap oparts)) :=
  C02_overlap ⟨3, 1, 1⟩ gShift oparts oparts_guard 3 (by decide)

example : win gShift 1 1 ((List.range 3).flatMap oparts) =
    [⟨0, 0, 200⟩, ⟨1, 0, 301⟩, ⟨2, 0, 402⟩, ⟨3, 0, 503⟩, ⟨4, 0, 604⟩, ⟨5, 0, 5⟩] := rfl
example : run (interp ⟨3, 1, 1⟩ (win gShift 1 1)) (layer ⟨3, 1, 1⟩) (inputs oparts) 3 (.res 1) =
    .frame [⟨2, 0, 402⟩] := by decide
/-- an empty middle partition: both neighbours refuse -/
example : run (interp ⟨3, 1, 1⟩ (win gShift 1 1)) (layer ⟨3, 1, 1⟩) (inputs opartsE) 3 (.res 2) = .err :=
  (C02_overlap_refuses_before ⟨3, 1, 1⟩ _ opartsE 1 (by decide) (by decide) (by decide) 3 (by decide)).2
example : run (interp ⟨3, 1, 1⟩ (win gShift 1 1)) (layer ⟨3, 1, 1⟩) (inputs opartsE) 3 (.res 0) = .err :=
  (C02_overlap_refuses_after ⟨3, 1, 1⟩ _ opartsE 0 (by decide) (by decide) (by decide) 3 (by decide)).2

example : (concatV ((List.range 3).map (fun i =>
        run (interp ⟨3, 1, 1⟩ (win gShift 1 1)) (layer ⟨3, 1, 1⟩) (inputs opartsE) 3 (.res i))) =
      .frame (win gShift 1 1 ((List.range 3).flatMap opartsE))) ∨
    (∃ i, i < 3 ∧ run (interp ⟨3, 1, 1⟩ (win gShift 1 1)) (layer ⟨3, 1, 1⟩) (inputs opartsE) 3 (.res i) = .err) :=
  C02_overlap_dichotomy ⟨3, 1, 1⟩ gShift opartsE 3 (by decide)

end Ov

section BW
open Blockwise

/-- `Blockwise._task(i)`: the operation receives partition `i` of every partitioned operand and
    partition 0 of every broadcast operand (single partition and lower ndim), literals in place. -/
theorem C02_blockwise_task (I : Interp) (p : Params) (vals : Nat → Nat → V) (i : Nat) (hi : i < p.n)
    (F : Nat) (hF : 1 ≤ F) :
    run I (layer p) (inputs vals) F (.out i) = I opFn (p.args.filterMap (argVal p vals i)) := by
  obtain ⟨F', rfl⟩ := Nat.exists_eq_add_of_le' hF
  exact bw_run_out I p vals F' i hi

/-- If the operation, as a function `G` of its partitioned operands (broadcast operands and literals
    fixed), distributes over concatenation of co-partitioned pieces — row-local functions, row filters,
    zips of aligned operands — then concatenating the output partitions gives `G` of the concatenated
    operands, for every number of partitions and all partition sizes (empty ones included). -/
theorem C02_blockwise (I : Interp) (p : Params) (vals : Nat → Nat → V) (rows : Nat → Nat → List Row)
    (G : (Nat → List Row) → List Row) (hG : Additive G)
    (hco : ∀ i, CoLen (fun d => rows d i))
    (hvals : ∀ i d np nd, Arg.expr d np nd ∈ p.args → broadcastDep p np nd = false → vals d i = .frame (rows d i))
    (hI : ∀ xs, CoLen xs → I opFn (p.args.filterMap (argVec p (fun d => vals d 0) xs)) = .frame (G xs))
    (F : Nat) (hF : 1 ≤ F) :
    concatV ((List.range p.n).map (fun i => run I (layer p) (inputs vals) F (.out i))) =
      .frame (G (fun d => (List.range p.n).flatMap (rows d))) := by
  rw [concatV_map_frames _ _ _ fun i hi =>
    (C02_blockwise_task I p vals i (List.mem_range.mp hi) F hF).trans
      ((congrArg (I opFn) (bw_argVal_eq_argVec p vals rows i p.args (hvals i))).trans (hI _ (hco i))),
    additive_concat G hG rows hco]

/-- row-local function `f` of one partitioned operand (all non-broadcast arguments are that
    operand) with any broadcast operands and literals:
    `concat (parts.map (map f)) = (concat parts).map f` through the real task structure -/
theorem C02_blockwise_map (I : Interp) (p : Params) (vals : Nat → Nat → V) (parts : Nat → List Row)
    (f : Row → Row)
    (hvals : ∀ i d np nd, Arg.expr d np nd ∈ p.args → broadcastDep p np nd = false → vals d i = .frame (parts i))
    (hI : ∀ xs, I opFn (p.args.filterMap (argVec p (fun d => vals d 0) xs)) = .frame ((xs 0).map f))
    (F : Nat) (hF : 1 ≤ F) :
    concatV ((List.range p.n).map (fun i => run I (layer p) (inputs vals) F (.out i))) =
      .frame (((List.range p.n).flatMap parts).map f) :=
  C02_blockwise I p vals (fun _ => parts) (fun xs => (xs 0).map f) (additive_map f)
    (fun _ _ _ => rfl) hvals (fun xs _ => hI xs) F hF

/-- binary row-wise operation of two co-partitioned operands (dependencies 0 and 1 with equal
    partition sizes — what alignment establishes), e.g. `df.a + df.b` -/
theorem C02_blockwise_zip (I : Interp) (p : Params) (vals : Nat → Nat → V) (l r : Nat → List Row)
    (g : Row → Row → Row) (hlen : ∀ i, (l i).length = (r i).length)
    (hvals : ∀ i d np nd, Arg.expr d np nd ∈ p.args → broadcastDep p np nd = false →
      vals d i = .frame (if d = 0 then l i else r i))
    (hI : ∀ xs, (xs 0).length = (xs 1).length →
      I opFn (p.args.filterMap (argVec p (fun d => vals d 0) xs)) = .frame (List.zipWith g (xs 0) (xs 1)))
    (F : Nat) (hF : 1 ≤ F) :
    concatV ((List.range p.n).map (fun i => run I (layer p) (inputs vals) F (.out i))) =
      .frame (List.zipWith g ((List.range p.n).flatMap l) ((List.range p.n).flatMap r)) := by
  exact C02_blockwise I p vals (fun d i => if d = 0 then l i else r i)
    (fun xs => List.zipWith g (xs 0) (xs 1)) (additive_zipWith g)
    (fun i d d' => by
      show (if d = 0 then l i else r i).length = (if d' = 0 then l i else r i).length
      rw [apply_ite List.length, apply_ite List.length, ← hlen i, ite_self, ite_self])
    hvals (fun xs hx => hI xs (hx 0 1)) F hF

theorem C02_blockwise_wf (p : Params) (vals : Nat → Nat → V) :
    Closed (layer p) (inputs vals) ∧ Ranked (layer p) bwRank :=
  have h := bw_stratified p (inputs vals) fun _ _ _ _ _ _ => rfl
  ⟨h.closed, h.ranked⟩

namespace C02Ex
/-- `series + series.sum()`: operand 0 partitioned (ndim 1), operand 1 a single-partition scalar (ndim 0),
    plus a literal -/
def bwp : Params := ⟨3, 1, false, [.expr 0 3 1, .expr 1 1 0, .lit "fill_value=None"]⟩
def IAdd : Interp := fun _ vs =>
  match vs with
  | [.frame x, s] => .frame (x.map (fun r => { r with pay := r.pay + payOf s }))
  | _ => .err
def bvals (d i : Nat) : V := if d = 0 then .frame (parts5 i) else .frame [⟨0, 0, 92⟩]
end C02Ex
open C02Ex

example : concatV ((List.range 3).map (fun i => run IAdd (layer bwp) (inputs bvals) 1 (.out i))) =
    .frame (((List.range 3).flatMap parts5).map (fun r => { r with pay := r.pay + 92 })) :=
  C02_blockwise_map IAdd bwp bvals parts5 _
    (by
      intro i d np nd hm hb
      simp only [bwp, List.mem_cons, Arg.expr.injEq, List.not_mem_nil, or_false, reduceCtorEq] at hm
      rcases hm with ⟨rfl, rfl, rfl⟩ | ⟨rfl, rfl, rfl⟩
      · rfl
      · exact absurd hb (by decide))
    (fun xs => rfl) 1 (by decide)

/-- `df.a + df.b` on aligned operands with partition sizes 2, 0, 2 -/
example : concatV ((List.range 3).map (fun i =>
      run (fun _ vs => match vs with
          | [.frame x, .frame y] => .frame (List.zipWith (fun r q => { r with pay := r.pay + q.pay }) x y)
          | _ => .err)
        (layer ⟨3, 1, false, [.expr 0 3 1, .expr 1 3 1]⟩)
        (inputs (fun _ i => .frame (parts5 i))) 1 (.out i))) =
    .frame (List.zipWith (fun r q => { r with pay := r.pay + q.pay })
      ((List.range 3).flatMap parts5) ((List.range 3).flatMap parts5)) :=
  C02_blockwise_zip _ ⟨3, 1, false, [.expr 0 3 1, .expr 1 3 1]⟩ _ parts5 parts5 _ (fun _ => rfl)
    (fun i d _ _ _ _ => congrArg V.frame (ite_self _).symm)
    (fun xs _ => rfl) 1 (by decide)

/-- the broadcast operand is read at partition 0 by every output partition -/
example : layer bwp (.out 2) = some (.apply opFn [.dep 0 2, .dep 1 0]) := rfl

end BW

section Consumers
open Shuffle GJ

/-- all rows of a frame given by its partitions -/
abbrev allRows (n : Nat) (rows : Nat → List Row) : List Row := (List.range n).flatMap rows

/-- when the partition number is one function of the key, output partition `o` of the shuffle holds
    the rows of the whole frame whose key is sent to `o` -/
theorem sem_assigned (p : Params) (rows : Nat → List Row) (f : Row → Nat)
    (hassign : ∀ i, ∀ r ∈ rows i, r.tgt = f r) (o : Nat) :
    sem p rows o = (allRows p.nin rows).filter (fun r => f r == o) := by
  rw [sem_eq_filter]
  apply List.filter_congr
  intro r hr
  obtain ⟨i, _, hri⟩ := List.mem_flatMap.mp hr
  rw [hassign i r hri]

/-- ShuffleReduce / groupby-aggregate with `split_out`: after a shuffle that assigns partition
    `tgt(key)` (one function of the key: `hash(key) % nout`), aggregating every output partition
    group-wise and concatenating gives exactly the groups of the whole frame — every group once, with
    exactly its rows in frame order — up to the order of the groups. -/
theorem C02_shuffle_reduce {κ β} [DecidableEq κ] (p : Params) (rows : Nat → List Row) (key : Row → κ)
    (f : κ → List Row → List β) (tgt : κ → Nat) (htgt : ∀ k, tgt k < p.nout)
    (hassign : ∀ i, ∀ r ∈ rows i, r.tgt = tgt (key r)) :
    ((List.range p.nout).flatMap (fun o => groupApply key f (sem p rows o))).Perm
      (groupApply key f (allRows p.nin rows)) := by
  simp only [sem_assigned p rows (fun r => tgt (key r)) hassign]
  exact groupApply_split key f tgt p.nout htgt (allRows p.nin rows)

/-- `groupby(key).apply(func)` after a key shuffle: every group lives in one partition, so applying
    `func` group-wise per partition equals applying it to the groups of the whole frame. -/
theorem C02_groupby_apply {κ} [DecidableEq κ] (p : Params) (rows : Nat → List Row) (key : Row → κ)
    (func : List Row → List Row) (tgt : κ → Nat) (htgt : ∀ k, tgt k < p.nout)
    (hassign : ∀ i, ∀ r ∈ rows i, r.tgt = tgt (key r)) :
    ((List.range p.nout).flatMap (fun o => groupApply key (fun _ g => func g) (sem p rows o))).Perm
      (groupApply key (fun _ g => func g) (allRows p.nin rows)) :=
  C02_shuffle_reduce p rows key _ tgt htgt hassign

/-- the same through the real SimpleShuffle graph (`C12_simple`): the per-partition aggregation of the
    evaluated output partitions -/
theorem C02_shuffle_reduce_run {κ β} [DecidableEq κ] (I : Interp) (p : Params) (rows : Nat → List Row)
    (key : Row → κ) (f : κ → List Row → List β) (tgt : κ → Nat) (htgt : ∀ k, tgt k < p.nout)
    (hassign : ∀ i, ∀ r ∈ rows i, r.tgt = tgt (key r)) (hp : p.parts = List.range p.nout) :
    ((List.range p.nout).flatMap (fun j =>
        match run I (simpleTask p) (inputs rows) 3 (.out .self j) with
        | .frame l => groupApply key f l
        | _ => [])).Perm
      (groupApply key f (allRows p.nin rows)) := by
  refine List.Perm.trans (List.Perm.of_eq ?_) (C02_shuffle_reduce p rows key f tgt htgt hassign)
  apply flatMap_congr'
  intro j hj
  rw [run_simple_all I p rows hp (fun i r hr => hassign i r hr ▸ htgt _) j (List.mem_range.mp hj)]

/-- Hash join: both sides shuffled to the same number of partitions with the partition number one
    function of the (cast) key value.  Joining partition-wise and concatenating is a permutation of
    joining the whole frames.  (`C12_cross_frame` is the reason a left row finds all its partners in the
    partition with its own number.) -/
theorem C02_join_hash {κ} [DecidableEq κ] (p₁ p₂ : Params) (rows₁ rows₂ : Nat → List Row)
    (key₁ key₂ : Row → κ) (h : κ → Nat) (hn : p₁.nout = p₂.nout) (hpos : 0 < p₁.nout)
    (ha₁ : ∀ i, ∀ r ∈ rows₁ i, r.tgt = h (key₁ r) % p₁.nout)
    (ha₂ : ∀ i, ∀ r ∈ rows₂ i, r.tgt = h (key₂ r) % p₂.nout) :
    ((List.range p₁.nout).flatMap (fun o => joinInner key₁ key₂ (sem p₁ rows₁ o) (sem p₂ rows₂ o))).Perm
      (joinInner key₁ key₂ (allRows p₁.nin rows₁) (allRows p₂.nin rows₂)) := by
  simp only [sem_assigned p₁ rows₁ (fun r => h (key₁ r) % p₁.nout) ha₁,
    sem_assigned p₂ rows₂ (fun r => h (key₂ r) % p₁.nout) (hn ▸ ha₂)]
  exact joinInner_split key₁ key₂ (fun k => h k % p₁.nout) p₁.nout (fun k => Nat.mod_lt _ hpos) _ _

/-- co-location across the two frames, as used above, stated with `C12_cross_frame`: matching rows
    are in output partitions with the same number -/
theorem C02_join_partners_colocated {κ : Type} (p₁ p₂ : Params) (rows₁ rows₂ : Nat → List Row)
    (key₁ key₂ : Row → κ) (h : κ → Nat) (hn : p₁.nout = p₂.nout)
    (ha₁ : ∀ i, ∀ r ∈ rows₁ i, r.tgt = h (key₁ r) % p₁.nout)
    (ha₂ : ∀ i, ∀ r ∈ rows₂ i, r.tgt = h (key₂ r) % p₂.nout)
    (o₁ o₂ : Nat) (l r : Row) (hl : l ∈ sem p₁ rows₁ o₁) (hr : r ∈ sem p₂ rows₂ o₂)
    (hmatch : key₁ l = key₂ r) : o₁ = o₂ :=
  C12_cross_frame p₁ p₂ rows₁ rows₂ key₁ key₂ h hn ha₁ ha₂ o₁ o₂ l r hl hr hmatch

/-- left join (unmatched left rows kept once) -/
theorem C02_join_left_hash {κ} [DecidableEq κ] (p₁ p₂ : Params) (rows₁ rows₂ : Nat → List Row)
    (key₁ key₂ : Row → κ) (h : κ → Nat) (hn : p₁.nout = p₂.nout) (hpos : 0 < p₁.nout)
    (ha₁ : ∀ i, ∀ r ∈ rows₁ i, r.tgt = h (key₁ r) % p₁.nout)
    (ha₂ : ∀ i, ∀ r ∈ rows₂ i, r.tgt = h (key₂ r) % p₂.nout) :
    ((List.range p₁.nout).flatMap (fun o => joinLeft key₁ key₂ (sem p₁ rows₁ o) (sem p₂ rows₂ o))).Perm
      (joinLeft key₁ key₂ (allRows p₁.nin rows₁) (allRows p₂.nin rows₂)) := by
  simp only [sem_assigned p₁ rows₁ (fun r => h (key₁ r) % p₁.nout) ha₁,
    sem_assigned p₂ rows₂ (fun r => h (key₂ r) % p₁.nout) (hn ▸ ha₂)]
  exact joinLeft_split key₁ key₂ (fun k => h k % p₁.nout) p₁.nout (fun k => Nat.mod_lt _ hpos) _ _

/-- Broadcast join (inner, large side on the left): the small side is concatenated into one frame and
    joined with every partition of the large side; the concatenation is the join of the whole frames,
    rows in the order of the large side. -/
theorem C02_join_broadcast {κ} [DecidableEq κ] (key₁ key₂ : Row → κ) (n : Nat) (big : Nat → List Row)
    (small : List Row) :
    (List.range n).flatMap (fun i => joinInner key₁ key₂ (big i) small) =
      joinInner key₁ key₂ (allRows n big) small := by
  have := joinInner_broadcast key₁ key₂ ((List.range n).map big) small
  rwa [List.flatMap_map, ← List.flatMap_def] at this

namespace C02Ex
open C12Ex
/-- key = payload, partition number = 3 * key % 7 -/
def jrows₁ (i : Nat) : List Row := [⟨i, (3 * i) % 7, i⟩, ⟨i + 10, (3 * (i + 1)) % 7, i + 1⟩]
def jrows₂ (i : Nat) : List Row := [⟨0, (3 * (i + 1)) % 7, i + 1⟩]

theorem jrows₁_tgt (i : Nat) : ∀ r ∈ jrows₁ i, r.tgt = 3 * r.pay % 7 := by
  intro r hr
  rcases List.mem_cons.mp hr with rfl | hr
  · rfl
  · cases List.mem_singleton.mp hr
    rfl

theorem jrows₂_tgt (i : Nat) : ∀ r ∈ jrows₂ i, r.tgt = 3 * r.pay % 7 := by
  intro r hr
  cases List.mem_singleton.mp hr
  rfl
end C02Ex
open C02Ex

example : ((List.range 7).flatMap (fun o => groupApply (fun r => r.pay) (fun k g => [(k, g.length)])
      (sem C12Ex.pNe jrows₁ o))).Perm
    (groupApply (fun r => r.pay) (fun k g => [(k, g.length)]) (allRows 3 jrows₁)) :=
  C02_shuffle_reduce C12Ex.pNe jrows₁ (fun r => r.pay) _ (fun k => 3 * k % 7) (fun k => Nat.mod_lt _ (by decide))
    jrows₁_tgt

example : groupApply (fun r => r.pay) (fun k g => [(k, g.length)]) (allRows 3 jrows₁) =
    [(0, 1), (1, 2), (2, 2), (3, 1)] := rfl

example : ((List.range 7).flatMap (fun o => joinInner (fun r => r.pay) (fun r => r.pay)
      (sem C12Ex.pNe jrows₁ o) (sem C12Ex.pNeAll jrows₂ o))).Perm
    (joinInner (fun r => r.pay) (fun r => r.pay) (allRows 3 jrows₁) (allRows 3 jrows₂)) :=
  C02_join_hash C12Ex.pNe C12Ex.pNeAll jrows₁ jrows₂ (fun r => r.pay) (fun r => r.pay) (fun k => 3 * k) rfl
    (by decide)
    jrows₁_tgt jrows₂_tgt

example : (joinInner (fun r => r.pay) (fun r => r.pay) (allRows 3 jrows₁) (allRows 3 jrows₂)).length = 5 := by
  decide

example : ((List.range 7).flatMap (fun o => joinLeft (fun r => r.pay) (fun r => r.pay)
      (sem C12Ex.pNe jrows₁ o) (sem C12Ex.pNeAll jrows₂ o))).Perm
    (joinLeft (fun r => r.pay) (fun r => r.pay) (allRows 3 jrows₁) (allRows 3 jrows₂)) :=
  C02_join_left_hash C12Ex.pNe C12Ex.pNeAll jrows₁ jrows₂ (fun r => r.pay) (fun r => r.pay) (fun k => 3 * k) rfl
    (by decide)
    jrows₁_tgt jrows₂_tgt

/-- one left row (key 0) has no partner and is kept once -/
example : (joinLeft (fun r => r.pay) (fun r => r.pay) (allRows 3 jrows₁) (allRows 3 jrows₂)).length = 6 := by
  decide

example : (List.range 3).flatMap (fun i => joinInner (fun r => r.pay) (fun r => r.pay) (jrows₁ i) (allRows 3 jrows₂)) =
    joinInner (fun r => r.pay) (fun r => r.pay) (allRows 3 jrows₁) (allRows 3 jrows₂) :=
  C02_join_broadcast _ _ 3 jrows₁ _

end Consumers
end Dx

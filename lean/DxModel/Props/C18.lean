/-
  Props/C18.lean — parquet reads with pushed-down work equal reading everything.
  Instances for the reader of the filter theorems (C03), plus the parquet-specific planner logic.
-/
import DxModel.Parquet
import DxModel.ParquetStats
import DxModel.Lemmas.ParquetStats
import DxModel.Props.C03
namespace Dx
open Parquet Pred

/-- multi-file fused reads: the buckets are an ordered partition of the selected partitions — every
    file is read exactly once, in order — for every list of partitions and every step ≥ 1. -/
theorem C18_fusion_buckets_partition {α} (step : Nat) (hs : 0 < step) (parts : List α) :
    (fusionBuckets step parts).flatten = parts :=
  chunks_flatten step hs parts.length parts (Nat.le_refl _)

theorem C18_fusion_buckets_nonempty {α} (step : Nat) (hs : 0 < step) (parts : List α) :
    ∀ b ∈ fusionBuckets step parts, b ≠ [] ∧ b.length ≤ step :=
  chunks_nonempty step hs parts.length parts

/-- a fused partition (concat of its member reads) changes granularity only -/
theorem C18_tune_only_granularity {α β} (read : α → List β) (step : Nat) (hs : 0 < step) (parts : List α) :
    ((fusionBuckets step parts).map (fun b => b.flatMap read)).flatten = parts.flatMap read := by
  have h := C18_fusion_buckets_partition step hs parts
  generalize fusionBuckets step parts = bs at h
  subst h
  induction bs with
  | nil => rfl
  | cons b t ih => simp [List.flatMap_append, ih]

/-- pushed-down row filters: whenever `extract_pq_filters` hands filters to the reader, the reader
    (Kleene evaluation on the combined DNF, row kept iff true) keeps exactly the rows pandas keeps,
    including rows with missing values (instance of C03 for the reader).  There is no side condition on the
    predicate: since the `fix:` for D9, `extract_pq_filters` does not translate `!=`. -/
theorem C18_filter_pushdown (p : T Atom) (d : DNF Atom) (v : Cells) (h : extractPq p = some d) :
    keepDNF3 v d = eval2c v p :=
  C03_reader_pushdown p d v h

/-- why `!=` must stay in memory: as a reader filter it would drop the rows whose value is null -/
theorem C18_ne_pushdown_would_be_unsound :
    ∃ (v : Cells), keepDNF3 v [[Atom.cmp 0 .ne 2]] ≠ eval2c v (.atom (.cmp 0 .ne 2)) :=
  C03_ne_pushdown_would_be_unsound

/-- overwrite guard: writing into directory `w` is refused exactly when `w` is a component-wise prefix
    of a path the same query reads (so "/data/a" does not block "/data/ab") -/
theorem C18_overwrite_guard (r w : List String) : guardRefuses r w = true ↔ ∃ rest, r = w ++ rest := by
  unfold guardRefuses
  constructor
  · intro h
    obtain ⟨rest, hr⟩ := List.isPrefixOf_iff_prefix.mp h
    exact ⟨rest, hr.symm⟩
  · intro h
    obtain ⟨rest, hr⟩ := h
    exact List.isPrefixOf_iff_prefix.mpr ⟨rest, hr.symm⟩

/-! ## statistics → divisions, fragment order, lengths  (model: DxModel/ParquetStats.lean)

The full statement asked of both readers is

    whenever a reader reports known divisions `d` and a reading order `σ`, then for EVERY dataset whose per-file
    index values lie within that file's reported [min, max], the partitions read in that order satisfy
    `Truthful d parts` (C06: partition i within [d i, d (i+1)), the last one closed; d sorted)        (FULL)

(FULL) is false for the code as it is, for both readers, in the boundary case max_i = min_{i+1}
(`C18_touching_boundary_counterexample`, open finding D92): both `sorted_columns` (`min >= max`) and, since fix D91,
`_divisions_from_statistics` (`file_min < last_max` rejects) accept touching ranges.  What is proven:
  * the closed-interval reading `TruthfulClosed` + `SortedAcross` for EVERY known answer of either reader, with no
    hypothesis on how the files' ranges relate (overlaps are detected: `C18_arrow_known_ranges_sorted`,
    `C18_arrow_overlap_gives_unknown`, `C18_fsspec_known_only_if_sorted`);
  * (FULL) under the hypothesis that no file's max equals another file's min (`…_truthful_partial`). -/

section Statistics
open PqStats

/-- (b, arrow) known divisions are reported only when every file has min and max; then the answer is the one
    computed from the (min, max) list -/
theorem C18_arrow_known_needs_complete_statistics (agg : List AggFile) (d : List Int) (σ : List Nat)
    (h : divisionsFromStatistics agg = .known d σ) :
    ∃ mm, completeStats agg = some mm ∧ agg ≠ [] ∧ mm.length = agg.length ∧ divisionsOfMinMax mm = .known d σ := by
  have ⟨mm, hc, hne, hk⟩ := divisionsFromStatistics_known agg d σ h
  exact ⟨mm, hc, hne, completeStats_length agg mm hc, hk⟩

/-- (b, arrow) a file without a statistics object makes the statistics collection raise; a file without
    min/max or without row groups never yields known divisions (the code raises, or reports all-`None`) -/
theorem C18_arrow_missing_statistics_never_known (agg : List AggFile) (h : completeStats agg = none)
    (d : List Int) (σ : List Nat) : divisionsFromStatistics agg ≠ .known d σ := by
  intro hk
  have ⟨mm, hc, _⟩ := divisionsFromStatistics_known agg d σ hk
  rw [h] at hc
  cases hc

theorem C18_arrow_no_statistics_object_raises (fs : List RawFile) (f : RawFile) (g : RawRG) (hf : f ∈ fs) (hg : g ∈ f.rgs)
    (hn : g.stats = none) (calcDiv : Bool) :
    aggregatedStatistics fs = .raised ∧
      (calcDiv = true → divisionFromStats calcDiv fs.length (aggregatedStatistics fs) = .raised) := by
  have hrg : ∀ (l : List RawRG), g ∈ l → extractRGs l = .raised := by
    intro l h
    induction l with
    | nil => cases h
    | cons x t ih =>
      unfold extractRGs
      rcases List.mem_cons.mp h with rfl | h
      · rw [hn]
      · rw [ih h]; cases x.stats <;> rfl
  have hfile : extractFile f = .raised := by unfold extractFile; rw [hrg f.rgs hg]
  have hall : ∀ (l : List RawFile), f ∈ l → extractAll l = .raised := by
    intro l h
    induction l with
    | nil => cases h
    | cons x t ih =>
      unfold extractAll
      rcases List.mem_cons.mp h with rfl | h
      · rw [hfile]
      · rw [ih h]; cases extractFile x <;> rfl
  have hagg : aggregatedStatistics fs = .raised := by unfold aggregatedStatistics; rw [hall fs hf]
  exact ⟨hagg, fun hc => by rw [hc, hagg]; rfl⟩

/-- (b, arrow, after fix D91) known divisions ⇒ in the reported reading order `σ` no file's range starts before the
    previous one ends (max_i ≤ min_{i+1}), and the divisions are the mins in that order followed by the last max -/
theorem C18_arrow_known_ranges_sorted (agg : List AggFile) (d : List Int) (σ : List Nat)
    (h : divisionsFromStatistics agg = .known d σ) :
    ∃ mm S, completeStats agg = some mm ∧ pick mm σ = some S ∧ Adj (fun a b => a.2 ≤ b.1) S ∧ d = divsOf S := by
  obtain ⟨mm, hc, _, _, hadj, hd, hσ⟩ := divisionsFromStatistics_known_sorted agg d σ h
  exact ⟨mm, _, hc, hσ ▸ pick_argsort mm, hadj, hd⟩

/-- … hence (well-formed statistics) the ranges of ALL pairs of files are non-overlapping: they may only touch -/
theorem C18_arrow_known_ranges_disjoint (agg : List AggFile) (mm : List (Int × Int)) (d : List Int) (σ : List Nat)
    (hc : completeStats agg = some mm) (h : divisionsFromStatistics agg = .known d σ) (hwf : ∀ s ∈ mm, s.1 ≤ s.2) :
    mm.Pairwise (fun a b => a.2 ≤ b.1 ∨ b.2 ≤ a.1) := by
  obtain ⟨mm', hc', _, _, hadj, _, _⟩ := divisionsFromStatistics_known_sorted agg d σ h
  cases hc.symm.trans hc'
  exact pairwise_disjoint_of_sorted_adj mm hwf hadj

/-- (b, arrow) overlapping ranges — two files of which neither ends before the other starts — give unknown
    divisions (all `None`, no sort index: the fragments stay in listing order), never wrong ones -/
theorem C18_arrow_overlap_gives_unknown (agg : List AggFile) (mm : List (Int × Int)) (hc : completeStats agg = some mm)
    (hne : agg ≠ []) (hwf : ∀ s ∈ mm, s.1 ≤ s.2) (hov : ¬ mm.Pairwise (fun a b => a.2 ≤ b.1 ∨ b.2 ≤ a.1)) :
    divisionsFromStatistics agg = .unknown agg.length none := by
  have hlen := completeStats_length agg mm hc
  have hmm : mm ≠ [] := fun he => hne (List.length_eq_zero_iff.mp (by rw [← hlen, he]; rfl))
  rw [divisionsFromStatistics_complete agg mm hc hne, divisionsOfMinMax_eq mm hmm, if_neg, hlen]
  exact fun hok => hov (pairwise_disjoint_of_sorted_adj mm hwf ((okFrom_none_iff _).mp hok))

/-- (c) the sort index is a permutation of the file positions: reordering the fragments loses and duplicates
    nothing; in particular the concatenated rows are the same multiset -/
theorem C18_fragment_order_permutation {α} (agg : List AggFile) (d : List Int) (σ : List Nat)
    (h : divisionsFromStatistics agg = .known d σ) (unsorted : List α) (hl : unsorted.length = agg.length) :
    σ.Perm (List.range agg.length) ∧ ∃ frs, fragments (.known d σ) unsorted = some frs ∧ frs.Perm unsorted := by
  obtain ⟨mm, _, hlen, _, _, _, hσe⟩ := divisionsFromStatistics_known_sorted agg d σ h
  have hσ : σ.Perm (List.range agg.length) := by rw [hσe, ← hlen]; exact argsort_idx_perm mm
  refine ⟨hσ, ?_⟩
  have hlt : ∀ i ∈ σ, i < unsorted.length := fun i hi => hl ▸ List.mem_range.mp (hσ.mem_iff.mp hi)
  obtain ⟨frs, hfrs⟩ := pick_total unsorted σ hlt
  exact ⟨frs, hfrs, pick_perm unsorted σ frs (hl ▸ hσ) hfrs⟩

theorem C18_fragment_order_same_rows {β} (agg : List AggFile) (d : List Int) (σ : List Nat)
    (h : divisionsFromStatistics agg = .known d σ) (files : List (List β)) (hl : files.length = agg.length) :
    ∃ parts, fragments (.known d σ) files = some parts ∧ parts.flatten.Perm files.flatten := by
  have ⟨_, parts, hp, hperm⟩ := C18_fragment_order_permutation agg d σ h files hl
  exact ⟨parts, hp, hperm.flatten⟩

/-- What a known answer of the arrow reader gives for a dataset `files` within the statistics `mm`: the fragments
    `parts` in the reported order; they lie within the sorted statistics; these are non-empty, well formed and
    non-overlapping in that order; and the divisions are read off them.  Both truthfulness theorems start here. -/
theorem arrow_known_fragments (agg : List AggFile) (mm : List (Int × Int)) (files : List (List Int))
    (d : List Int) (σ : List Nat)
    (hc : completeStats agg = some mm) (h : divisionsFromStatistics agg = .known d σ)
    (hw : Within mm files) (hwf : ∀ s ∈ mm, s.1 ≤ s.2) :
    ∃ parts, fragments (.known d σ) files = some parts ∧ Within ((argsortPairs mm).map (·.1)) parts ∧
      (argsortPairs mm).map (·.1) ≠ [] ∧ (∀ s ∈ (argsortPairs mm).map (·.1), s.1 ≤ s.2) ∧
      Adj (fun a b => a.2 ≤ b.1) ((argsortPairs mm).map (·.1)) ∧ d = divsOf ((argsortPairs mm).map (·.1)) := by
  obtain ⟨mm', hc', hlen, hmm, hadj, hd, hσ⟩ := divisionsFromStatistics_known_sorted agg d σ h
  cases hc.symm.trans hc'
  obtain ⟨_, parts, hp, _⟩ := C18_fragment_order_permutation agg d σ h files (hw.1 ▸ hlen)
  exact ⟨parts, hp, within_pick mm files hw _ _ parts (pick_argsort mm) (hσ ▸ hp), argsort_fst_ne_nil hmm,
    fun s hs => hwf s ((argsort_fst_perm mm).mem_iff.mp hs), hadj, hd⟩

/-- (a, arrow) whenever the arrow reader reports known divisions, then — whatever the order in which the files are
    listed and with no assumption on how their ranges relate — for EVERY dataset within the (well-formed) statistics
    the fragments in the reported order satisfy the closed-interval reading, the divisions are sorted and the rows
    are sorted across partitions -/
theorem C18_arrow_divisions_closed (agg : List AggFile) (mm : List (Int × Int)) (files : List (List Int))
    (d : List Int) (σ : List Nat)
    (hc : completeStats agg = some mm) (h : divisionsFromStatistics agg = .known d σ)
    (hw : Within mm files) (hwf : ∀ s ∈ mm, s.1 ≤ s.2) :
    ∃ parts, fragments (.known d σ) files = some parts ∧ TruthfulClosed d parts ∧ SortedAcross parts := by
  obtain ⟨parts, hp, hws, hne, hwf', hadj, rfl⟩ := arrow_known_fragments agg mm files d σ hc h hw hwf
  have ht := truthfulClosed_of_touching _ parts hne hws (divsOf_sorted _ hwf' hadj) hadj
  exact ⟨parts, hp, ht, ht.sortedAcross⟩

/-- (a, arrow) FULL under the hypothesis that no file's max equals another file's min (no touching boundaries):
    the reported divisions are truthful in the sense of C06 -/
theorem C18_arrow_divisions_truthful_partial (agg : List AggFile) (mm : List (Int × Int)) (files : List (List Int))
    (d : List Int) (σ : List Nat)
    (hc : completeStats agg = some mm) (h : divisionsFromStatistics agg = .known d σ)
    (hw : Within mm files) (hwf : ∀ s ∈ mm, s.1 ≤ s.2)
    (hnt : mm.Pairwise (fun a b => a.2 ≠ b.1 ∧ b.2 ≠ a.1)) :
    ∃ parts, fragments (.known d σ) files = some parts ∧ Truthful d parts ∧ SortedAcross parts := by
  obtain ⟨parts, hp, hws, hne, hwf', hadj, rfl⟩ := arrow_known_fragments agg mm files d σ hc h hw hwf
  have hnt' : ((argsortPairs mm).map (·.1)).Pairwise (fun a b => a.2 ≠ b.1 ∧ b.2 ≠ a.1) :=
    ((argsort_fst_perm mm).pairwise_iff (fun h => ⟨h.2, h.1⟩)).mpr hnt
  -- non-overlapping and never touching is strictly separated
  have hstrict : Adj (fun a b => a.2 < b.1) ((argsortPairs mm).map (·.1)) :=
    adj_of_pairwise (((pairwise_of_adj_wf _ hwf' hadj).and hnt').imp
      (fun hab => Int.lt_iff_le_and_ne.mpr ⟨hab.1, hab.2.1⟩))
  have ht := truthful_of_strict _ parts hne hws (divsOf_sorted _ hwf' hadj) hstrict
  exact ⟨parts, hp, ht, ht.closed.sortedAcross⟩

/-- (a, fsspec) whenever `_calculate_divisions` reports known divisions, the files are read in the listed order,
    every part has statistics, and for EVERY dataset within them the divisions are truthful in the closed-interval
    reading and sorted, and the rows are sorted across partitions -/
theorem C18_fsspec_divisions_closed (stats : List FStat) (g c s : Bool) (n : Nat) (d : List Int) (σ : List Nat)
    (h : calculateDivisions stats g c s n = .known d σ) :
    σ = List.range n ∧ ∃ S, mmOf stats = some S ∧
      ∀ files, Within S files → TruthfulClosed d files ∧ SortedAcross files := by
  have ⟨hσ, hsc, _⟩ := calculateDivisions_known stats g c s n d σ h
  obtain ⟨S, hS, hne, rfl, hadj, hsorted⟩ := sortedColumns_known stats d hsc
  refine ⟨hσ, S, hS, fun files hw => ?_⟩
  have ht := truthfulClosed_of_touching S files hne hw hsorted hadj
  exact ⟨ht, ht.sortedAcross⟩

/-- (a, fsspec) FULL under the hypothesis that consecutive parts are strictly separated -/
theorem C18_fsspec_divisions_truthful_partial (stats : List FStat) (g c s : Bool) (n : Nat) (d : List Int) (σ : List Nat)
    (h : calculateDivisions stats g c s n = .known d σ) (S : List (Int × Int)) (hS : mmOf stats = some S)
    (hsep : Adj (fun a b => a.2 < b.1) S) (files : List (List Int)) (hw : Within S files) : Truthful d files := by
  have ⟨_, hsc, _⟩ := calculateDivisions_known stats g c s n d σ h
  obtain ⟨S', hS', hne, rfl, _, hsorted⟩ := sortedColumns_known stats d hsc
  cases hS.symm.trans hS'
  exact truthful_of_strict S files hne hw hsorted hsep

/-- (b, fsspec) known divisions are reported only if every part has min and max and no part starts before the
    previous one ends — so unsorted, overlapping or missing statistics (a part without min/max, an all-null part)
    always give unknown divisions (or an exception), never wrong ones; and only when statistics were gathered,
    `calculate_divisions` is not `False` and the index is a single column -/
theorem C18_fsspec_known_only_if_sorted (stats : List FStat) (g c s : Bool) (n : Nat) (d : List Int) (σ : List Nat)
    (h : calculateDivisions stats g c s n = .known d σ) :
    g = true ∧ c = true ∧ s = true ∧
      ∃ S, mmOf stats = some S ∧ S.length = stats.length ∧ Adj (fun a b => a.2 ≤ b.1) S ∧ d = divsOf S ∧ d.Pairwise (· ≤ ·) := by
  have ⟨_, hsc, hg, hc, hs⟩ := calculateDivisions_known stats g c s n d σ h
  have ⟨S, hS, _, hd, hadj, hsorted⟩ := sortedColumns_known stats d hsc
  exact ⟨hg, hc, hs, S, hS, mmOf_length stats S hS, hadj, hd, hsorted⟩

/-- the boundary case max_i = min_{i+1}: BOTH readers report divisions `[0, 10, 15]` for the statistics
    (0,10), (10,15); the dataset [[0, 10], [10, 15]] lies within the statistics, and its first partition holds the
    index value 10 = d 1, outside [d 0, d 1): (FULL) is false.  (Observable: `loc[10]` looks only into partition 1.) -/
theorem C18_touching_boundary_counterexample :
    let agg : List AggFile := [⟨2, some (some (0, 10))⟩, ⟨2, some (some (10, 15))⟩]
    let stats : List FStat := [⟨2, .mm (some (0, 10))⟩, ⟨2, .mm (some (10, 15))⟩]
    let files : List (List Int) := [[0, 10], [10, 15]]
    divisionsFromStatistics agg = .known [0, 10, 15] [0, 1] ∧
    calculateDivisions stats true true true 2 = .known [0, 10, 15] [0, 1] ∧
    Within [(0, 10), (10, 15)] files ∧ fragments (.known [0, 10, 15] [0, 1]) files = some files ∧
    ¬ Truthful [0, 10, 15] files ∧ TruthfulClosed [0, 10, 15] files := by
  intro agg stats files
  have hw : Within [(0, 10), (10, 15)] files := within_cons.mpr ⟨by decide, within_cons.mpr ⟨by decide, within_nil⟩⟩
  refine ⟨?_, by decide, hw, by decide, ?_, ?_⟩
  · rw [divisionsFromStatistics_complete agg [(0, 10), (10, 15)] rfl (List.cons_ne_nil _ _)]
    simp only [divisionsOfMinMax, argsortPairs_pair]
    decide
  · -- the value 10 of the first partition is not below division 1
    exact fun ht => absurd (ht.bounds 0 0 10 [0, 10] rfl rfl rfl 10 (by decide)) (by decide)
  · exact truthfulClosed_of_touching [(0, 10), (10, 15)] files (List.cons_ne_nil _ _) hw (by decide) ⟨by decide, trivial⟩

/-- the witness of the fixed finding D91 (overlapping files (0,10), (5,15), also with a contained range): both
    readers report unknown divisions and the arrow reader keeps the listing order -/
theorem C18_overlap_unknown_both_readers :
    divisionsFromStatistics [⟨3, some (some (0, 10))⟩, ⟨3, some (some (5, 15))⟩] = .unknown 2 none ∧
    divisionsFromStatistics [⟨3, some (some (0, 10))⟩, ⟨2, some (some (2, 3))⟩] = .unknown 2 none ∧
    calculateDivisions [⟨3, .mm (some (0, 10))⟩, ⟨3, .mm (some (5, 15))⟩] true true true 2 = .unknown 2 none ∧
    fragments (α := Nat) (.unknown 2 none) [0, 1] = some [0, 1] := by
  refine ⟨?_, ?_, by decide, by decide⟩
  · rw [divisionsFromStatistics_complete _ [(0, 10), (5, 15)] rfl (List.cons_ne_nil _ _)]
    simp only [divisionsOfMinMax, argsortPairs_pair]
    decide
  · rw [divisionsFromStatistics_complete _ [(0, 10), (2, 3)] rfl (List.cons_ne_nil _ _)]
    simp only [divisionsOfMinMax, argsortPairs_pair]
    decide

/-- fsspec `_align_statistics`: parts and statistics stay paired; exactly the parts without rows are dropped (they
    contribute no row, so the concatenated result is unchanged) -/
theorem C18_fsspec_align_statistics {α} (parts : List α) (stats : List FStat) (hl : parts.length = stats.length)
    (hne : stats ≠ []) :
    (alignStatistics parts stats).1.zip (alignStatistics parts stats).2 =
      (parts.zip stats).filter (fun p => decide (p.2.numRows > 0)) := by
  have h1 : (parts.length != stats.length) = false := by simp [hl]
  have h2 : stats.isEmpty = false := by cases stats <;> simp_all
  simp only [alignStatistics, h1, h2, Bool.not_false, Bool.and_false, Bool.false_eq_true, ↓reduceIte]
  generalize (parts.zip stats).filter (fun p => decide (p.2.numRows > 0)) = z
  induction z with
  | nil => rfl
  | cons a t ih => simp [ih]

/-- arrow reader without `calculate_divisions`: unknown divisions, fragments in listing order -/
theorem C18_arrow_no_calculate_divisions {α} (n : Nat) (agg : Res (List AggFile)) (unsorted : List α) :
    divisionFromStats false n agg = .unknown n none ∧ fragments (divisionFromStats false n agg) unsorted = some unsorted := by
  simp [divisionFromStats, fragments, sortIndex]

/-! ## row-count metadata -/

/-- arrow `_get_lengths` (no filters): exactly the `num_rows` of the fragments the tasks read — `fragments[i]` for
    `i` in `_partitions`, in selection order, repetitions included; `fragments` being the statistics-sorted list
    when there is a sort index.  A selection beyond the fragments raises. -/
theorem C18_arrow_lengths (agg : List AggFile) (out : DivOut) (sel : Option (List Nat)) :
    arrowGetLengths false agg (sortIndex out) sel =
      (match fragments out agg with
       | none => .raised
       | some frs =>
         match sel with
         | none => .ok (some (frs.map (·.numRows)))
         | some P =>
           match pick frs P with
           | some chosen => .ok (some (chosen.map (·.numRows)))
           | none => .raised) := by
  unfold arrowGetLengths fragments
  cases sortIndex out with
  | none =>
    cases sel with
    | none => simp
    | some P => simp only [Bool.false_eq_true, ↓reduceIte, pick_map]; cases pick agg P <;> simp
  | some σ =>
    simp only [Bool.false_eq_true, ↓reduceIte, pick_map]
    cases pick agg σ with
    | none => simp
    | some frs =>
      cases sel with
      | none => simp
      | some P => simp only [Option.map_some, pick_map]; cases pick frs P <;> simp

/-- fsspec `_get_lengths` (no filters, plan statistics `rows`): `rows[i]` for `i` in `_partitions`, in selection
    order, repetitions included, for ANY selection list -/
theorem C18_fsspec_lengths (rows : List Nat) (sel : Option (List Nat)) :
    fsspecGetLengths false rows sel =
      (match sel with
       | none => .ok (some rows)
       | some P =>
         match pick rows P with
         | some r => .ok (some r)
         | none => .raised) := by
  unfold fsspecGetLengths
  cases sel with
  | none => simp only [Bool.false_eq_true, ↓reduceIte, lengthStatistics_none]
  | some P =>
    have hlook : ∀ i ∈ P, ((sortedSet P).zip (lengthStatistics rows (some P))).lookup i = rows[i]? := by
      intro i hi
      have hlt : i < P.foldl max 0 + 1 := Nat.lt_succ_of_le ((foldl_max_ge P 0).2 i hi)
      have hz := lookup_zip_range' rows 0 (P.foldl max 0 + 1) i
      rw [Nat.zero_add, if_pos hlt] at hz
      simp only [sortedSet, lengthStatistics, List.range_eq_range']
      rw [zip_filter_zipIdx (fun i => P.contains i), lookup_filter_key (fun i => P.contains i),
        if_pos (List.contains_iff_mem.mpr hi), hz]
    simp only [Bool.false_eq_true, ↓reduceIte]
    rw [lookupAll_eq_pick _ rows P hlook]
    cases pick rows P <;> rfl

/-- with filters neither reader answers from metadata -/
theorem C18_lengths_not_pushed_with_filters (agg : List AggFile) (rows : List Nat) (si sel : Option (List Nat)) :
    arrowGetLengths true agg si sel = .ok none ∧ fsspecGetLengths true rows sel = .ok none := by
  simp [arrowGetLengths, fsspecGetLengths]

/-- fused buckets: the row count of a fused partition is the sum of the reported lengths of its member files, and
    the bucket sums add up to `Len` — for any selection (with repetitions) and any fusion step ≥ 1 -/
theorem C18_fused_lengths {α} (len : α → Nat) (step : Nat) (hs : 0 < step) (parts : List α) :
    (fusionBuckets step (parts.map len)).map List.sum = (fusionBuckets step parts).map (fun b => (b.map len).sum) ∧
    ((fusionBuckets step parts).map (fun b => (b.map len).sum)).sum = (parts.map len).sum := by
  have h1 : (fusionBuckets step (parts.map len)).map List.sum = (fusionBuckets step parts).map (fun b => (b.map len).sum) := by
    unfold fusionBuckets
    rw [List.length_map, PqStats.chunks_map, List.map_map]
    rfl
  refine ⟨h1, ?_⟩
  rw [← h1, ← sum_flatten, C18_fusion_buckets_partition step hs]

end Statistics

/-! non-vacuity of the statistics theorems -/
section StatisticsExamples
open PqStats

/-- files listed in reverse order, no touching boundary: every hypothesis of `C18_arrow_divisions_truthful_partial`
    (and of `C18_arrow_divisions_closed`) holds, the sort index is the non-trivial permutation [1, 0] -/
example :
    let agg : List AggFile := [⟨3, some (some (10, 15))⟩, ⟨2, some (some (0, 4))⟩]
    let mm : List (Int × Int) := [(10, 15), (0, 4)]
    completeStats agg = some mm ∧ divisionsFromStatistics agg = .known [0, 10, 15] [1, 0] ∧
    Within mm [[10, 12, 15], [0, 4]] ∧ (∀ s ∈ mm, s.1 ≤ s.2) ∧ mm.Pairwise (fun a b => a.2 ≠ b.1 ∧ b.2 ≠ a.1) ∧
    fragments (.known [0, 10, 15] [1, 0]) [[10, 12, 15], [0, 4]] = some [[0, 4], [10, 12, 15]] := by
  intro agg mm
  refine ⟨by decide, ?_, within_cons.mpr ⟨by decide, within_cons.mpr ⟨by decide, within_nil⟩⟩,
    by decide, by decide, by decide⟩
  rw [divisionsFromStatistics_complete agg [(10, 15), (0, 4)] rfl (List.cons_ne_nil _ _)]
  simp only [divisionsOfMinMax, argsortPairs_pair]
  decide

/-- touching ranges are accepted by the code (known divisions, see the counterexample) but fail the no-touching
    hypothesis; genuinely overlapping ranges satisfy the hypothesis of `C18_arrow_overlap_gives_unknown` -/
example : ¬ ([(0, 10), (10, 15)] : List (Int × Int)).Pairwise (fun a b => a.2 ≠ b.1 ∧ b.2 ≠ a.1) ∧
    ¬ ([(0, 10), (5, 15)] : List (Int × Int)).Pairwise (fun a b => a.2 ≤ b.1 ∨ b.2 ≤ a.1) := by decide

/-- row groups are aggregated to the file: min of mins, max of maxes, sum of rows -/
example : aggregatedStatistics [⟨7, [⟨some (some (5, 9)), 3⟩, ⟨some (some (0, 6)), 4⟩]⟩, ⟨5, [⟨some (some (10, 12)), 5⟩]⟩] =
    .ok [⟨7, some (some (0, 9))⟩, ⟨5, some (some (10, 12))⟩] := by decide
/-- a row group without min/max next to one with numbers: `min([5, None])` raises -/
example : aggregatedStatistics [⟨7, [⟨some (some (5, 9)), 3⟩, ⟨some none, 4⟩]⟩] = .raised := by decide
example : aggregatedStatistics [⟨3, [⟨none, 3⟩]⟩] = .raised := by decide
/-- missing statistics never give divisions (hypothesis of `C18_arrow_missing_statistics_never_known`) -/
example : completeStats [⟨3, some none⟩, ⟨2, some (some (0, 4))⟩] = none ∧
    divisionsFromStatistics [⟨3, some none⟩, ⟨2, some (some (0, 4))⟩] = .raised ∧
    divisionsFromStatistics [⟨3, some none⟩, ⟨2, some none⟩] = .unknown 2 (some [0, 1]) ∧
    divisionsFromStatistics [⟨2, some (some (0, 4))⟩, ⟨7, none⟩] = .raised := by decide

/-- fsspec: sorted statistics give divisions; reversed, overlapping, all-null or statistics-less parts do not -/
example : calculateDivisions [⟨3, .mm (some (0, 4))⟩, ⟨4, .mm (some (5, 9))⟩] true true true 2 = .known [0, 5, 9] [0, 1] := by decide
example : calculateDivisions [⟨4, .mm (some (5, 9))⟩, ⟨3, .mm (some (0, 4))⟩] true true true 2 = .unknown 2 none := by decide
example : calculateDivisions [⟨3, .mm (some (0, 4))⟩, ⟨2, .mm none⟩] true true true 2 = .unknown 2 none := by decide
example : calculateDivisions [⟨3, .mm (some (0, 4))⟩, ⟨2, .nameOnly⟩] true true true 2 = .unknown 2 none := by decide
example : calculateDivisions [⟨3, .mm none⟩, ⟨2, .mm (some (5, 9))⟩] true true true 2 = .raised := by decide
example : calculateDivisions [⟨3, .mm (some (0, 4))⟩, ⟨4, .mm (some (5, 9))⟩] true false true 2 = .unknown 2 none := by decide
/-- parts without rows are dropped together with their statistics before divisions are computed -/
example : (plan [0, 1, 2] [⟨3, .mm (some (0, 4))⟩, ⟨0, .mm none⟩, ⟨2, .mm (some (5, 9))⟩] true true true).parts = [0, 2] ∧
    (plan [0, 1, 2] [⟨3, .mm (some (0, 4))⟩, ⟨0, .mm none⟩, ⟨2, .mm (some (5, 9))⟩] true true true).divisions = .known [0, 5, 9] [0, 1] := by
  decide

/-- lengths follow the sort index and then the selection, with repetitions -/
example : arrowGetLengths false [⟨3, some (some (10, 15))⟩, ⟨2, some (some (0, 4))⟩] (some [1, 0]) (some [1, 1, 0]) =
    .ok (some [3, 3, 2]) := by decide
example : fsspecGetLengths false [3, 1, 2] (some [2, 2, 0]) = .ok (some [2, 2, 3]) := by decide
example : fsspecGetLengths false [3, 1, 2] (some [3]) = .raised := by decide
example : (fusionBuckets 2 ([3, 1, 2, 4, 5].map id)).map List.sum = [4, 6, 5] := by decide

end StatisticsExamples

example : guardRefuses ["data", "ab"] ["data", "a"] = false := by decide
example : guardRefuses ["data", "a", "part.0.parquet"] ["data", "a"] = true := by decide
example : fusionBuckets 2 [0, 1, 2, 3, 4] = [[0, 1], [2, 3], [4]] := by decide
example : fusedDivisions [0, 10, 20, 30, 40, 49] [[0, 1], [2, 3], [4]] = [0, 20, 40, 49] := by decide

end Dx

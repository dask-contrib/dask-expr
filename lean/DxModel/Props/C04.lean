/-
  Props/C04.lean — "Column pruning never changes a result".

  Model: DxModel/Cols.lean (determine_column_projection, plain_column_projection, every projection rule of the
  code as it is in /repo, and the column semantics of the operator classes as structures of laws).
  Every theorem holds for ANY dependents list `deps` (stale, partial, duplicated dependents cannot matter)
  and for all schemas.  For a rule `r`:

    C04_<r>_wf      the pruned input is a duplicate-free sub-schema that still holds the operator's own key columns
                    and everything requested
    C04_<r>_labels  the rewritten expression has the parent's labels in the parent's order
    C04_<r>_values  every requested column has the value it had

  Rules that are wrong on the current tree keep the full statement in a comment, a `_partial` theorem with the
  excluding hypothesis and a `_counterexample` theorem (decide) with the concrete witness; the harness reports the
  corresponding failing inputs of the real code (harness/props/c04.py).
-/
import DxModel.Cols
import DxModel.Lemmas.Cols
import DxModel.Lemmas.ColsRules
import DxModel.Lemmas.ColsSem
import DxModel.Lemmas.ColsMerge
import DxModel.Lemmas.ColsAssign
import DxModel.Lemmas.ColsInst
import DxModel.Generated.ProjFlags
namespace Dx
open Dx.Cols

variable {γ : Type}

/-! ### 0. determine_column_projection -/

/-- the union contains the parent's own columns, every listed dependent's columns and the additional columns,
    whatever else `deps` holds; `columns.has c` is the python test `c in columns` used by the rules -/
theorem C04_detproj_covers (p : Parent) (deps : List Dep) (extra : List Name) (c : Name)
    (h : c ∈ p.cols ∨ (∃ d, d ∈ deps ∧ c ∈ d.cols) ∨ c ∈ extra) :
    (detProj p deps extra).has c = true ∧ c ∈ (detProj p deps extra).toList := by
  have hu : c ∈ unionCols p deps extra := mem_unionCols.mpr h
  exact ⟨detProj_has hu, by rw [detProj_toList]; exact hu⟩

/-- and nothing else -/
theorem C04_detproj_exact (p : Parent) (deps : List Dep) (extra : List Name) (c : Name) :
    c ∈ (detProj p deps extra).toList ↔ c ∈ p.cols ∨ (∃ d, d ∈ deps ∧ c ∈ d.cols) ∨ c ∈ extra := by
  rw [detProj_toList]; exact mem_unionCols

/-- the scalar collapse only ever happens for a scalar selection of that very column -/
theorem C04_detproj_collapse (p : Parent) (hp : p.overFrame) (deps : List Dep) (extra : List Name) (s : Name)
    (h : detProj p deps extra = .one s) : p = .scalar s ∧ ∀ d, d ∈ deps → d.ndim1 = true :=
  ⟨detProj_one_scalar hp h, (detProj_one h).2.2⟩

example : detProj (.scalar "a") [⟨["a"], true⟩] [] = .one "a" := by decide +kernel
example : detProj (.scalar "a") [⟨["a", "b"], false⟩] [] = .many ["a", "b"] := by decide +kernel
example : detProj (.list ["b", "a"]) [⟨["c"], false⟩, ⟨[], true⟩] ["k"] = .many ["a", "b", "c", "k"] := by decide +kernel

/-- a parent that is not a Projection (nor, for Merge, an Index) never triggers a column rewrite — e.g. the groupby
    above a dropna(subset=…) keeps all the columns it will ask for later (D17) -/
theorem C04_other_parent (rule : Parent → Option Rw) : onProjection rule .other = none := rfl

/-! ### 1. single-input operators whose rows are decided by key columns (generic part)

`KeyedOp` covers the Elemwise/Blockwise pass-through classes, Filter, dropna, drop_duplicates, sort_values,
shuffle, set_index, nlargest/nsmallest, groupby aggregations, cumulative aggregations, repartition. -/

/-- labels: a rewrite that re-applies the parent has the parent's labels -/
theorem C04_keep1_labels (op : Frame γ → Frame γ) (P : List Name) (rw : Rw) (child : List Name) (F : Frame γ)
    (h : rw.isKeep1 child) : (evalRw op P rw F).cols = P := by
  rw [evalRw_keep1 op P rw F child h]; rfl

/-- values: with an adequate child every requested column is unchanged -/
theorem C04_keep1_values (K : KeyedOp γ) (F : Frame γ) (keys' P child : List Name) (rw : Rw)
    (h : rw.isKeep1 child) (had : Adequate F.cols keys' P child)
    (hk : ∀ k, k ∈ K.keys → k ∈ keys' ∧ k ∈ F.cols) (c : Name) (hc : c ∈ P) :
    (evalRw K.op P rw F).val c = (evalOrig K.op P F).val c := by
  rw [evalRw_keep1 K.op P rw F child h]
  exact keyed_values K F keys' P child had hk c hc

/-- well-formedness: the operator still finds its keys, nothing is invented or duplicated, and the re-applied
    parent finds every label it asks for -/
theorem C04_keep1_wf (K : KeyedOp γ) (hm : OutMono K) (F : Frame γ) (keys' P child : List Name)
    (had : Adequate F.cols keys' P child) (hk : ∀ k, k ∈ K.keys → k ∈ keys' ∧ k ∈ F.cols)
    (hP : ∀ c, c ∈ P → c ∈ K.outCols F.cols) :
    (∀ k, k ∈ K.keys → k ∈ child) ∧ (∀ c, c ∈ child → c ∈ F.cols) ∧ (F.cols.Nodup → child.Nodup) ∧
    (∀ c, c ∈ P → c ∈ (K.op (F.select child)).cols) :=
  ⟨fun k hkk => had.keys k (hk k hkk).1 (hk k hkk).2, had.sub, had.nodup, fun c hc => by
    rw [K.op_cols, select_cols]
    exact hm F.cols child c had.sub (had.mem_or hc) (hP c hc)⟩

/-! ### 2. plain_column_projection (pass-through classes, Filter, Clip, Unaryop, cumulative, explode, repartition) -/

/-- the shape of what `plain` builds: one child selection; the parent is dropped exactly when the child selection
    *is* the parent's; a scalar child only for the scalar selection of that column -/
theorem C04_plain_wf (frame : List Name) (p : Parent) (hp : p.overFrame) (deps : List Dep) (extra : List Name) (rw : Rw)
    (h : plain frame p deps extra = some rw) :
    ∃ s, rw.childs = [some s] ∧ rw.gone = false ∧ Adequate frame extra p.cols s.toList ∧
      (rw.keep = false → s = p.operand) ∧ (∀ c, s = .one c → p = .scalar c ∧ rw.keep = false) := by
  obtain ⟨hrw, _⟩ := plain_spec h
  refine ⟨plainSel frame (detProj p deps extra), by rw [hrw], by rw [hrw], plainSel_adequate frame p deps extra,
    plain_nokeep h, ?_⟩
  intro c hc
  have hpc := plain_collapse hp hc
  refine ⟨hpc, ?_⟩
  rw [hrw]
  show (!decide (_ = _)) = false
  rw [decide_eq_true (by rw [hc, hpc]; rfl)]
  rfl

/-- classes with a column-keyed dict parameter (D112): the input is never collapsed to a series, and the kept
    sub-schema still has everything requested -/
theorem C04_plain_dict_wf (frame : List Name) (p : Parent) (deps : List Dep) (rw : Rw)
    (h : plainDict frame p deps = some rw) :
    ∃ s, rw.childs = [some s] ∧ Adequate frame [] p.cols s.toList ∧ ∀ c, s ≠ .one c := by
  have had := plainSel_adequate frame p deps []
  unfold plainDict at h
  split at h
  · rename_i c hsel
    obtain ⟨_, rfl⟩ := ite_none_eq_some h
    rw [hsel] at had
    exact ⟨.many [c], rfl, had, nofun⟩
  · rename_i hne
    exact ⟨_, by rw [(plain_spec h).1], had, hne⟩

/-- … in particular a scalar selection never turns the input of such a class into a series -/
theorem C04_plain_dict_no_collapse (frame : List Name) (p : Parent) (deps : List Dep) (rw : Rw) (c : Name)
    (hsel : plainSel frame (detProj p deps []) = .one c) (h : plainDict frame p deps = some rw) :
    rw.childs = [some (.many [c])] ∧ rw.keep = true := by
  unfold plainDict at h
  rw [hsel] at h
  obtain ⟨_, rfl⟩ := ite_none_eq_some h
  exact ⟨rfl, rfl⟩

example : plainDict ["a", "b", "c"] (.scalar "c") [] = some { childs := [some (.many ["c"])], keep := true } ∧
    plain ["a", "b", "c"] (.scalar "c") [] = some { childs := [some (.one "c")], keep := false } ∧
    plainDict ["a", "b", "c"] (.list ["c", "a"]) [] = plain ["a", "b", "c"] (.list ["c", "a"]) [] := by decide +kernel

theorem C04_plain_labels (K : KeyedOp γ) (hid : ∀ l, K.outCols l = l) (F : Frame γ) (p : Parent) (deps : List Dep)
    (extra : List Name) (rw : Rw) (h : plain F.cols p deps extra = some rw) :
    (evalRw K.op p.cols rw F).cols = p.cols := by
  rcases plain_cases h with ⟨he, hrw⟩ | ⟨_, hrw⟩
  · rw [hrw, evalRw_nokeep, K.op_cols, hid, select_cols, he, Parent.operand_toList]
  · rw [hrw, evalRw_keep]; rfl

theorem C04_plain_values (K : KeyedOp γ) (F : Frame γ) (p : Parent) (deps : List Dep)
    (extra : List Name) (rw : Rw) (h : plain F.cols p deps extra = some rw)
    (hk : ∀ k, k ∈ K.keys → k ∈ extra ∧ k ∈ F.cols) (c : Name) (hc : c ∈ p.cols) :
    (evalRw K.op p.cols rw F).val c = (evalOrig K.op p.cols F).val c := by
  rw [(plain_spec h).1, evalRw_val K.op _ _ F hc, ← select_val_mem hc]
  exact keyed_values K F extra p.cols _ (plainSel_adequate F.cols p deps extra) hk c hc

/-- Filter: when the filter-push-down guard fires nothing happens, otherwise the rule is `plain` -/
theorem C04_filter_wf (blocked : Bool) (frame : List Name) (p : Parent) (hp : p.overFrame) (deps : List Dep) (rw : Rw)
    (h : filterRule blocked frame p deps = some rw) :
    blocked = false ∧ ∃ s, rw.childs = [some s] ∧ rw.gone = false ∧ Adequate frame [] p.cols s.toList ∧
      (rw.keep = false → s = p.operand) ∧ (∀ c, s = .one c → p = .scalar c ∧ rw.keep = false) := by
  cases blocked with
  | true => cases h
  | false => exact ⟨rfl, C04_plain_wf frame p hp deps [] rw (filterRule_false frame p deps ▸ h)⟩

theorem C04_filter_labels (K : KeyedOp γ) (hid : ∀ l, K.outCols l = l) (F : Frame γ) (p : Parent) (deps : List Dep)
    (rw : Rw) (h : filterRule false F.cols p deps = some rw) : (evalRw K.op p.cols rw F).cols = p.cols :=
  C04_plain_labels K hid F p deps [] rw (filterRule_false F.cols p deps ▸ h)

theorem C04_filter_values (K : KeyedOp γ) (hk : K.keys = []) (F : Frame γ) (p : Parent) (deps : List Dep)
    (rw : Rw) (h : filterRule false F.cols p deps = some rw) (c : Name) (hc : c ∈ p.cols) :
    (evalRw K.op p.cols rw F).val c = (evalOrig K.op p.cols F).val c :=
  C04_plain_values K F p deps [] rw (filterRule_false F.cols p deps ▸ h) (fun k hkk => by rw [hk] at hkk; cases hkk) c hc

/-- ExplodeFrame passes its `column` as an additional column: it is kept -/
theorem C04_explode_wf (frame : List Name) (column : Name) (hc : column ∈ frame) (p : Parent) (hp : p.overFrame)
    (deps : List Dep) (rw : Rw) (h : plain frame p deps [column] = some rw) :
    ∃ s, rw.childs = [some s] ∧ column ∈ s.toList := by
  obtain ⟨s, hs, _, had, _, _⟩ := C04_plain_wf frame p hp deps [column] rw h
  exact ⟨s, hs, had.keys column (by simp) hc⟩

/-- FULL STATEMENT (false on the current tree): `C04_plain_wf` for every Projection parent.
    Over a 1-d input (`df.sum()[['a']]`: the labels of a reduction result) the parent has `ndim == 1` although its
    operand is a list, determine_column_projection collapses to the scalar `'a'`, and the rule builds
    `Sum(frame['a'])[['a']]` — a list selection of a scalar (N5: IndexError). -/
theorem C04_reduction_counterexample :
    plain ["a", "b", "c"] (.listS ["a"]) [] [] = some { childs := [some (.one "a")], keep := true } := by decide +kernel

-- non-vacuity: pruning below a pass-through operator; parent dropped when the order matches; scalar collapse
example : plain ["a", "b", "c"] (.list ["c", "a"]) [] [] = some { childs := [some (.many ["a", "c"])], keep := true } := by decide +kernel
example : plain ["a", "b", "c"] (.list ["a", "c"]) [] [] = some { childs := [some (.many ["a", "c"])], keep := false } := by decide +kernel
example : plain ["a", "b", "c"] (.scalar "b") [⟨["b"], true⟩] [] = some { childs := [some (.one "b")], keep := false } := by decide +kernel
example : plain ["a", "b", "c"] (.scalar "b") [⟨["c"], true⟩] [] = some { childs := [some (.many ["b", "c"])], keep := true } := by decide +kernel
example : plain ["a", "b"] (.list ["b", "a"]) [] [] = none := by decide +kernel

/-! ### 3. keys kept implicitly: groupby, sort_values, set_index, nlargest; dropna, drop_duplicates, shuffle,
        SetIndexBlockwise -/

theorem C04_keyed_wf (frame keys : List Name) (p : Parent) (deps : List Dep) (rw : Rw)
    (h : keyed frame keys p deps = some rw) :
    ∃ child, rw.isKeep1 child ∧ Adequate frame keys p.cols child := by
  obtain ⟨hk, _⟩ := keyed_spec h
  exact ⟨_, hk, adequate_union_contains frame p deps keys⟩

theorem C04_keyed_labels (K : KeyedOp γ) (F : Frame γ) (p : Parent) (deps : List Dep) (rw : Rw)
    (h : keyed F.cols K.keys p deps = some rw) : (evalRw K.op p.cols rw F).cols = p.cols :=
  (keep1_sound K F p.cols rw (C04_keyed_wf F.cols K.keys p deps rw h)).1

theorem C04_keyed_values (K : KeyedOp γ) (F : Frame γ) (p : Parent) (deps : List Dep) (rw : Rw)
    (h : keyed F.cols K.keys p deps = some rw) (hkeys : ∀ k, k ∈ K.keys → k ∈ F.cols) (c : Name) (hc : c ∈ p.cols) :
    (evalRw K.op p.cols rw F).val c = (evalOrig K.op p.cols F).val c :=
  (keep1_sound K F p.cols rw (C04_keyed_wf F.cols K.keys p deps rw h)).2 hkeys c hc

/-- the full well-formedness statement for the keyed rules, on the semantic side -/
theorem C04_keyed_wf_sem (K : KeyedOp γ) (hm : OutMono K) (F : Frame γ) (p : Parent) (deps : List Dep) (rw : Rw)
    (h : keyed F.cols K.keys p deps = some rw) (hkeys : ∀ k, k ∈ K.keys → k ∈ F.cols)
    (hP : ∀ c, c ∈ p.cols → c ∈ K.outCols F.cols) :
    ∃ child, rw.isKeep1 child ∧ (∀ k, k ∈ K.keys → k ∈ child) ∧ (∀ c, c ∈ child → c ∈ F.cols) ∧
      (F.cols.Nodup → child.Nodup) ∧ (∀ c, c ∈ p.cols → c ∈ (K.op (F.select child)).cols) := by
  obtain ⟨child, hk, had⟩ := C04_keyed_wf F.cols K.keys p deps rw h
  exact ⟨child, hk, C04_keep1_wf K hm F K.keys p.cols child had (fun k hkk => ⟨hkk, hkeys k hkk⟩) hP⟩

-- groupby('k').sum()[['a']] over [a,b,k]: key kept although not requested (D17/D23/D24 class of defects)
example : keyed ["a", "b", "k"] ["k"] (.list ["a"]) [] = some { childs := [some (.many ["a", "k"])], keep := true } := by decide +kernel
-- a dependent that renames reports labels that do not exist in the input: ignored (D24)
example : keyed ["a", "b", "k"] ["k"] (.list ["a"]) [⟨["p_a", "p_b"], false⟩] = some { childs := [some (.many ["a", "k"])], keep := true } := by decide +kernel

theorem C04_dropna_wf (frame : List Name) (subset : Option (List Name)) (p : Parent) (deps : List Dep) (rw : Rw)
    (h : dropna frame subset p deps = some rw) :
    ∃ s child, subset = some s ∧ rw.isKeep1 child ∧ Adequate frame s p.cols child := by
  cases subset with
  | none => cases h
  | some s => exact ⟨s, _, rfl, dropna_spec h, adequate_union_has frame p deps s⟩

theorem C04_dropna_labels (K : KeyedOp γ) (F : Frame γ) (subset : Option (List Name)) (p : Parent) (deps : List Dep)
    (rw : Rw) (h : dropna F.cols subset p deps = some rw) : (evalRw K.op p.cols rw F).cols = p.cols := by
  obtain ⟨s, child, _, hk, _⟩ := C04_dropna_wf F.cols subset p deps rw h
  exact C04_keep1_labels K.op p.cols rw child F hk

theorem C04_dropna_values (K : KeyedOp γ) (F : Frame γ) (p : Parent) (deps : List Dep)
    (rw : Rw) (h : dropna F.cols (some K.keys) p deps = some rw) (hkeys : ∀ k, k ∈ K.keys → k ∈ F.cols)
    (c : Name) (hc : c ∈ p.cols) : (evalRw K.op p.cols rw F).val c = (evalOrig K.op p.cols F).val c :=
  (keep1_sound K F p.cols rw ⟨_, dropna_spec h, adequate_union_has F.cols p deps K.keys⟩).2 hkeys c hc

-- dropna(subset=['c'])[['a']]: the subset column stays
example : dropna ["a", "b", "c"] (some ["c"]) (.list ["a"]) [] = some { childs := [some (.many ["a", "c"])], keep := true } := by decide +kernel

theorem C04_dropdup_wf (frame : List Name) (subset : Option (List Name)) (p : Parent) (deps : List Dep) (rw : Rw)
    (h : dropDup frame subset p deps = some rw) :
    ∃ s child, subset = some s ∧ rw.isKeep1 child ∧ Adequate frame s p.cols child := by
  cases subset with
  | none => cases h
  | some s => exact ⟨s, _, rfl, dropDup_spec h, adequate_union_has frame p deps s⟩

theorem C04_dropdup_labels (K : KeyedOp γ) (F : Frame γ) (subset : Option (List Name)) (p : Parent) (deps : List Dep)
    (rw : Rw) (h : dropDup F.cols subset p deps = some rw) : (evalRw K.op p.cols rw F).cols = p.cols := by
  obtain ⟨s, child, _, hk, _⟩ := C04_dropdup_wf F.cols subset p deps rw h
  exact C04_keep1_labels K.op p.cols rw child F hk

theorem C04_dropdup_values (K : KeyedOp γ) (F : Frame γ) (p : Parent) (deps : List Dep)
    (rw : Rw) (h : dropDup F.cols (some K.keys) p deps = some rw) (hkeys : ∀ k, k ∈ K.keys → k ∈ F.cols)
    (c : Name) (hc : c ∈ p.cols) : (evalRw K.op p.cols rw F).val c = (evalOrig K.op p.cols F).val c :=
  (keep1_sound K F p.cols rw ⟨_, dropDup_spec h, adequate_union_has F.cols p deps K.keys⟩).2 hkeys c hc

example : dropDup ["a", "b", "c"] (some ["b"]) (.scalar "a") [] = some { childs := [some (.many ["a", "b"])], keep := true } := by decide +kernel

theorem C04_shuffle_wf (frame pidx : List Name) (p : Parent) (deps : List Dep) (rw : Rw)
    (h : shuffle frame pidx p deps = some rw) : ∃ child, rw.isKeep1 child ∧ Adequate frame pidx p.cols child :=
  ⟨_, shuffle_spec h, shuffle_adequate frame pidx p deps⟩

theorem C04_shuffle_labels (K : KeyedOp γ) (F : Frame γ) (p : Parent) (deps : List Dep)
    (rw : Rw) (h : shuffle F.cols K.keys p deps = some rw) : (evalRw K.op p.cols rw F).cols = p.cols :=
  (keep1_sound K F p.cols rw (C04_shuffle_wf F.cols K.keys p deps rw h)).1

theorem C04_shuffle_values (K : KeyedOp γ) (F : Frame γ) (p : Parent) (deps : List Dep)
    (rw : Rw) (h : shuffle F.cols K.keys p deps = some rw) (hkeys : ∀ k, k ∈ K.keys → k ∈ F.cols)
    (c : Name) (hc : c ∈ p.cols) : (evalRw K.op p.cols rw F).val c = (evalOrig K.op p.cols F).val c :=
  (keep1_sound K F p.cols rw (C04_shuffle_wf F.cols K.keys p deps rw h)).2 hkeys c hc

example : shuffle ["a", "b", "k"] ["k"] (.list ["b"]) [] = some { childs := [some (.many ["b", "k"])], keep := true } := by decide +kernel

theorem C04_sib_wf (frame other : List Name) (p : Parent) (deps : List Dep) (rw : Rw)
    (h : setIndexBlockwise frame other p deps = some rw) : ∃ child, rw.isKeep1 child ∧ Adequate frame other p.cols child :=
  ⟨_, sib_spec h, adequate_union_has frame p deps other⟩

theorem C04_sib_labels (K : KeyedOp γ) (F : Frame γ) (p : Parent) (deps : List Dep)
    (rw : Rw) (h : setIndexBlockwise F.cols K.keys p deps = some rw) : (evalRw K.op p.cols rw F).cols = p.cols :=
  (keep1_sound K F p.cols rw (C04_sib_wf F.cols K.keys p deps rw h)).1

theorem C04_sib_values (K : KeyedOp γ) (F : Frame γ) (p : Parent) (deps : List Dep)
    (rw : Rw) (h : setIndexBlockwise F.cols K.keys p deps = some rw) (hkeys : ∀ k, k ∈ K.keys → k ∈ F.cols)
    (c : Name) (hc : c ∈ p.cols) : (evalRw K.op p.cols rw F).val c = (evalOrig K.op p.cols F).val c :=
  (keep1_sound K F p.cols rw (C04_sib_wf F.cols K.keys p deps rw h)).2 hkeys c hc

/-- NLargest / NSmallest / NFirst / NLast: with ordering columns it is a keyed rule (D23), without it is `plain` -/
theorem C04_nlargest_wf (frame cols : List Name) (p : Parent) (deps : List Dep) (rw : Rw)
    (h : nlargest frame (some cols) p deps = some rw) : ∃ child, rw.isKeep1 child ∧ Adequate frame cols p.cols child :=
  C04_keyed_wf frame cols p deps rw h

example : nlargest ["a", "b", "c"] (some ["b"]) (.list ["a"]) [] = some { childs := [some (.many ["a", "b"])], keep := true } := by decide +kernel

/-- `GroupbyAggregationBase._simplify_down` (dict spec): group keys and aggregated columns stay -/
theorem C04_gbdown_wf (frame byCols argKeys child : List Name) (h : gbDown frame byCols argKeys = some child) :
    Adequate frame byCols argKeys child := by
  obtain ⟨_, h⟩ := Option.ite_none_left_eq_some.mp h
  cases h
  exact adequate_filter frame byCols argKeys _
    (fun _ hk => Bool.or_eq_true_iff.mpr (Or.inl (List.contains_iff_mem.mpr hk)))
    (fun _ hc => Bool.or_eq_true_iff.mpr (Or.inr (List.contains_iff_mem.mpr hc)))

theorem C04_gbdown_values (K : KeyedOp γ) (F : Frame γ) (argKeys child : List Name)
    (h : gbDown F.cols K.keys argKeys = some child) (hkeys : ∀ k, k ∈ K.keys → k ∈ F.cols)
    (c : Name) (hc : c ∈ argKeys) (hcF : c ∈ F.cols) :
    (K.op (F.select child)).val c = (K.op F).val c := by
  have had := C04_gbdown_wf F.cols K.keys argKeys child h
  exact keyed_core K F child had.sub (fun k hk => had.keys k hk (hkeys k hk)) c (Or.inl (had.req c hc hcF))

example : gbDown ["a", "b", "c", "k"] ["k"] ["b"] = some ["b", "k"] := by decide +kernel

-- KeyedOp is inhabited by a non-trivial operator: "keep a value where the key column k is non-null, else 0"
example : ∃ K : KeyedOp Nat, K.keys = ["k"] ∧ OutMono K :=
  ⟨KeyedOp.ofFun ["k"] (fun ks x => if ks.all Option.isSome then x else 0), rfl,
   fun _ _ _ _ hc hin => hc.elim id (absurd hin)⟩

/-! ### 4. ResetIndex (frame input): the label guard (D25) and the switch to `drop=True` -/

theorem C04_resetindex_wf (frame : List Name) (drop named : Bool) (p : Parent) (hp : p.overFrame) (deps : List Dep) (rw : Rw)
    (h : resetIndex frame drop named p deps = some rw) :
    (drop = true ∨ named = true ∨ "index" ∉ frame) ∧
    ∃ s, rw.childs = [some s] ∧ Adequate frame [] p.cols s.toList ∧ (rw.keep = true → rw.drop = drop) ∧
      (rw.keep = false → rw.drop = true ∧ s = p.operand) ∧ (∀ c, s = .one c → p = .scalar c ∧ rw.keep = false) := by
  obtain ⟨hg, rw0, h0, hrw⟩ := resetIndex_spec h
  obtain ⟨s, hs, _, had, hnk, hone⟩ := C04_plain_wf frame p hp deps [] rw0 h0
  subst hrw
  exact ⟨hg, s, hs, had, fun hk => if_pos hk,
    fun hk => ⟨if_neg (by rw [hk]; exact Bool.false_ne_true), hnk hk⟩, hone⟩

/-- the label of the former index is the same before and after pruning — what the guard of the rule protects -/
theorem C04_resetindex_label (indexName : Option Name) (frame child : List Name)
    (hsub : ∀ c, c ∈ child → c ∈ frame) (hg : indexName.isSome = true ∨ "index" ∉ frame) :
    resetLabel indexName child = resetLabel indexName frame := by
  cases indexName with
  | some n => rfl
  | none =>
    have hi : "index" ∉ frame := hg.resolve_left Bool.false_ne_true
    rw [resetLabel, resetLabel, if_neg fun h => hi (hsub _ (List.contains_iff_mem.mp h)),
      if_neg fun h => hi (List.contains_iff_mem.mp h)]

/-- FULL labels/values statement for `reset_index` under a Projection: every requested label — a data column or
    the former index — is present with its value, and a dropped parent leaves exactly the requested labels -/
theorem C04_resetindex_values (R : ResetOp γ) (indexName : Option Name) (hlab : R.label = resetLabel indexName)
    (F : Frame γ) (drop : Bool) (p : Parent) (hp : p.overFrame) (deps : List Dep) (rw : Rw)
    (h : resetIndex F.cols drop indexName.isSome p deps = some rw)
    (hfresh : F.cols.contains (R.label F.cols) = false)
    (c : Name) (hc : c ∈ p.cols) (hwf : c ∈ (R.op drop F).cols) :
    (evalReset R p.cols rw F).val c = ((R.op drop F).select p.cols).val c := by
  obtain ⟨hg, s, hs, had, hkd, hnk, _⟩ := C04_resetindex_wf F.cols drop indexName.isSome p hp deps rw h
  rw [select_val_mem hc, evalReset_val R F hs hc]
  by_cases hcF : c ∈ F.cols
  · exact reset_data R F s.toList had.sub _ _ c (had.req c hc hcF)
  · -- the former index: only with drop = False, and then the parent is kept and the label is stable
    rw [R.op_cols] at hwf
    cases drop with
    | true => exact absurd hwf hcF
    | false =>
      have hcl : c = R.label F.cols := (List.mem_cons.mp hwf).resolve_right hcF
      have hk : rw.keep = true := Bool.of_not_eq_false fun hk =>
        hcF (had.sub c (by rw [(hnk hk).2, Parent.operand_toList]; exact hc))
      rw [hkd hk, hcl]
      refine reset_idx R F s.toList had.sub ?_ hfresh
      rw [hlab]
      exact C04_resetindex_label indexName F.cols s.toList had.sub (hg.resolve_left Bool.false_ne_true)

theorem C04_resetindex_labels (R : ResetOp γ) (F : Frame γ) (drop named : Bool) (p : Parent) (hp : p.overFrame)
    (deps : List Dep) (rw : Rw) (h : resetIndex F.cols drop named p deps = some rw) :
    (evalReset R p.cols rw F).cols = p.cols := by
  obtain ⟨_, s, hs, _, _, hnk, _⟩ := C04_resetindex_wf F.cols drop named p hp deps rw h
  rw [evalReset_eq R p.cols F hs]
  cases hk : rw.keep
  · obtain ⟨hd, hso⟩ := hnk hk
    rw [if_neg Bool.false_ne_true, hd, R.op_cols, if_pos rfl, select_cols, hso, Parent.operand_toList]
  · rfl

-- the guard: with an unnamed index and a column called 'index' nothing is pushed (the label would change)
example : resetIndex ["b", "index", "a"] false false (.list ["a"]) [] = none := by decide +kernel
example : resetIndex ["a", "b"] false false (.list ["index", "a"]) [] =
    some { childs := [some (.many ["a"])], keep := true, drop := false } := by decide +kernel
example : resetIndex ["a", "b"] false false (.list ["a"]) [] =
    some { childs := [some (.many ["a"])], keep := false, drop := true } := by decide +kernel
/-- without the guard the label changes: 'level_0' before, 'index' after pruning the column 'index' away (D25) -/
theorem C04_resetindex_unguarded_counterexample :
    resetLabel none ["b", "index", "a"] = "level_0" ∧ resetLabel none ["a"] = "index" := by decide +kernel

/-! ### 5. sources absorbing the projection -/

theorem C04_io_wf (selfCols : List Name) (p : Parent) (deps : List Dep) (rw : Rw) (h : ioAbsorb selfCols p deps = some rw) :
    ∃ child, rw.childs = [some (.many child)] ∧ Adequate selfCols [] p.cols child ∧
      (rw.keep = false → Sel.many child = p.operand) := by
  obtain ⟨hc, hk, _⟩ := ioAbsorb_spec h
  refine ⟨_, hc, adequate_union_contains selfCols p deps [], fun hf => ?_⟩
  rw [hk] at hf
  exact of_decide_eq_true (Bool.not_eq_eq_eq_not.mp hf)

theorem C04_io_labels (S : SourceOp γ) (selfCols : List Name) (p : Parent) (deps : List Dep) (rw : Rw)
    (h : ioAbsorb selfCols p deps = some rw) : (evalSource S p.cols rw).cols = p.cols := by
  obtain ⟨child, hc, _, hnk⟩ := C04_io_wf selfCols p deps rw h
  exact (evalSource_sound S p.cols hc fun hk =>
    (congrArg Sel.toList (hnk hk)).trans (Parent.operand_toList p)).1

theorem C04_io_values (S : SourceOp γ) (selfCols : List Name) (p : Parent) (deps : List Dep) (rw : Rw)
    (h : ioAbsorb selfCols p deps = some rw) (c : Name) (hc : c ∈ p.cols) (hwf : c ∈ selfCols) :
    (evalSource S p.cols rw).val c = ((S.read selfCols).select p.cols).val c := by
  obtain ⟨child, hch, had, hnk⟩ := C04_io_wf selfCols p deps rw h
  rw [select_val_mem hc, S.read_val selfCols c (List.contains_iff_mem.mpr hwf)]
  exact (evalSource_sound S p.cols hch fun hk =>
    (congrArg Sel.toList (hnk hk)).trans (Parent.operand_toList p)).2 c hc (had.req c hc hwf)

example : ioAbsorb ["a", "b", "c"] (.list ["c", "a"]) [] = some { childs := [some (.many ["a", "c"])], keep := true } := by decide +kernel
example : ioAbsorb ["a", "b", "c"] (.scalar "b") [] = some { childs := [some (.many ["b"])], keep := true } := by decide +kernel
example : ioAbsorb ["a", "b", "c"] (.list ["a", "c"]) [] = some { childs := [some (.many ["a", "c"])], keep := false } := by decide +kernel

/-! ### 6. relabelling operators: rename, add_prefix, add_suffix -/

/-- rename: the source column of every requested label is kept (reverse mapping restricted to existing columns, D21) -/
theorem C04_rename_wf (frame : List Name) (mapping : List (Name × Name)) (hnd : (mapping.map (·.1)).Nodup)
    (p : Parent) (deps : List Dep) (rw : Rw) (h : rename frame mapping p deps = some rw) :
    ∃ child, rw.isKeep1 child ∧ (∀ c, c ∈ child → c ∈ frame) ∧ (frame.Nodup → child.Nodup) ∧
      ∀ c, c ∈ frame → (∀ c', c' ∈ frame → renameFwd mapping c' = renameFwd mapping c → c' = c) →
        renameFwd mapping c ∈ p.cols → c ∈ child :=
  ⟨_, rename_spec h, fun _ hc => (List.mem_filter.mp hc).1, List.Nodup.sublist List.filter_sublist,
    fun _ hc hinj hreq => rename_sources hnd hc hinj hreq⟩

theorem C04_rename_labels (R : RelabelOp γ) (F : Frame γ) (mapping : List (Name × Name)) (p : Parent) (deps : List Dep)
    (rw : Rw) (h : rename F.cols mapping p deps = some rw) : (evalRw R.op p.cols rw F).cols = p.cols :=
  C04_keep1_labels R.op p.cols rw _ F (rename_spec h)

/-- every requested label that the rename produces from exactly one input column keeps its value -/
theorem C04_rename_values (R : RelabelOp γ) (mapping : List (Name × Name)) (hf : R.f = renameFwd mapping)
    (hnd : (mapping.map (·.1)).Nodup) (F : Frame γ) (p : Parent) (deps : List Dep) (rw : Rw)
    (h : rename F.cols mapping p deps = some rw) (c : Name) (hc : c ∈ F.cols)
    (hinj : ∀ c', c' ∈ F.cols → R.f c' = R.f c → c' = c) (hreq : R.f c ∈ p.cols) :
    (evalRw R.op p.cols rw F).val (R.f c) = (evalOrig R.op p.cols F).val (R.f c) := by
  obtain ⟨child, hk, hsub, _, hsrc⟩ := C04_rename_wf F.cols mapping hnd p deps rw h
  exact relabel_keep1_values R F p.cols rw child hk hsub c
    (hsrc c hc (by rw [← hf]; exact hinj) (by rw [← hf]; exact hreq)) hinj hreq

-- rename chain / swap / a mapping key that is not a column (D21)
example : rename ["a", "b", "c"] [("a", "b"), ("b", "a")] (.list ["a"]) [] = some { childs := [some (.many ["b"])], keep := true } := by decide +kernel
example : rename ["a", "b", "c"] [("a", "A"), ("zz", "a")] (.list ["A"]) [] = some { childs := [some (.many ["a"])], keep := true } := by decide +kernel
example : rename ["a", "b", "c"] [("zz", "b"), ("b", "B")] (.list ["B", "a"]) [] = some { childs := [some (.many ["a", "b"])], keep := true } := by decide +kernel

theorem C04_prefix_wf (pre : String) (frame : List Name) (p : Parent) (deps : List Dep) (rw : Rw)
    (h : affix false pre.length frame p deps = some rw) :
    ∃ child, rw.isKeep1 child ∧ (∀ c, c ∈ child → c ∈ frame) ∧ (frame.Nodup → child.Nodup) ∧
      ∀ c, c ∈ frame → pre ++ c ∈ p.cols → c ∈ child :=
  ⟨_, affix_spec h, fun _ hc => (List.mem_filter.mp hc).1, List.Nodup.sublist List.filter_sublist,
    fun _ hc hreq => prefix_sources hc hreq⟩

theorem C04_prefix_labels (R : RelabelOp γ) (F : Frame γ) (n : Nat) (p : Parent) (deps : List Dep)
    (rw : Rw) (h : affix false n F.cols p deps = some rw) : (evalRw R.op p.cols rw F).cols = p.cols :=
  C04_keep1_labels R.op p.cols rw _ F (affix_spec h)

theorem C04_prefix_values (R : RelabelOp γ) (pre : String) (hf : R.f = fun c => pre ++ c) (F : Frame γ) (p : Parent)
    (deps : List Dep) (rw : Rw) (h : affix false pre.length F.cols p deps = some rw)
    (c : Name) (hc : c ∈ F.cols) (hreq : pre ++ c ∈ p.cols) :
    (evalRw R.op p.cols rw F).val (pre ++ c) = (evalOrig R.op p.cols F).val (pre ++ c) := by
  obtain ⟨child, hk, hsub, _, hsrc⟩ := C04_prefix_wf pre F.cols p deps rw h
  have := relabel_keep1_values R F p.cols rw child hk hsub c (hsrc c hc hreq)
  rw [hf] at this
  exact this (fun c' _ he => (String.append_right_inj pre).mp he) hreq

/-- the suffix theorems hold for every suffix, the empty one included (full since D38) -/
theorem C04_suffix_wf (suf : String) (frame : List Name) (p : Parent) (deps : List Dep) (rw : Rw)
    (h : affix true suf.length frame p deps = some rw) :
    ∃ child, rw.isKeep1 child ∧ (∀ c, c ∈ child → c ∈ frame) ∧ (frame.Nodup → child.Nodup) ∧
      ∀ c, c ∈ frame → c ++ suf ∈ p.cols → c ∈ child :=
  ⟨_, affix_spec h, fun _ hc => (List.mem_filter.mp hc).1, List.Nodup.sublist List.filter_sublist,
    fun _ hc hreq => suffix_sources hc hreq⟩

theorem C04_suffix_labels (R : RelabelOp γ) (F : Frame γ) (n : Nat) (p : Parent) (deps : List Dep)
    (rw : Rw) (h : affix true n F.cols p deps = some rw) : (evalRw R.op p.cols rw F).cols = p.cols :=
  C04_keep1_labels R.op p.cols rw _ F (affix_spec h)

theorem C04_suffix_values (R : RelabelOp γ) (suf : String) (hf : R.f = fun c => c ++ suf)
    (F : Frame γ) (p : Parent) (deps : List Dep) (rw : Rw) (h : affix true suf.length F.cols p deps = some rw)
    (c : Name) (hc : c ∈ F.cols) (hreq : c ++ suf ∈ p.cols) :
    (evalRw R.op p.cols rw F).val (c ++ suf) = (evalOrig R.op p.cols F).val (c ++ suf) := by
  obtain ⟨child, hk, hsub, _, hsrc⟩ := C04_suffix_wf suf F.cols p deps rw h
  have := relabel_keep1_values R F p.cols rw child hk hsub c (hsrc c hc hreq)
  rw [hf] at this
  exact this (fun c' _ he => (String.append_left_inj suf).mp he) hreq

-- the empty suffix (D38): the requested column stays
example : affix true 0 ["a", "b"] (.list ["a"]) [] = some { childs := [some (.many ["a"])], keep := true } := by decide +kernel

-- prefix + set_index: add_prefix('p_') then set_index('p_k')[['p_a']] — each rule keeps what the next one needs
example : keyed ["p_a", "p_b", "p_k"] ["p_k"] (.list ["p_a"]) [] = some { childs := [some (.many ["p_a", "p_k"])], keep := true } := by decide +kernel
example : affix false 2 ["a", "b", "k"] (.list ["p_a", "p_k"]) [] = some { childs := [some (.many ["a", "k"])], keep := true } := by decide +kernel
example : affix true 2 ["a", "b", "k"] (.list ["k_s"]) [⟨["b_s"], true⟩] = some { childs := [some (.many ["b", "k"])], keep := true } := by decide +kernel

/-! ### 7. Assign -/

theorem C04_assign_wf (frame keys : List Name) (p : Parent) (deps : List Dep) (rw : Rw)
    (h : assign frame keys p deps = some rw) :
    rw.keep = true ∧
    ((rw.gone = true ∧ ∀ k, k ∈ keys → k ∉ p.cols) ∨
     (rw.gone = false ∧ ∃ newKeys child, rw.keys = some newKeys ∧ rw.childs = [some (.many child)] ∧
        (∀ k, k ∈ newKeys → k ∈ keys) ∧ (∀ k, k ∈ keys → k ∈ p.cols → k ∈ newKeys) ∧
        Adequate frame [] (p.cols.filter (fun c => !keys.contains c)) child)) := by
  cases assign_spec h with
  | gone hg hc hk hno =>
    exact ⟨hk, Or.inl ⟨hg, fun k hk1 hk2 => hno k hk1 (parent_mem_union hk2)⟩⟩
  | pruned newKeys hg hk hkeys hc hnew =>
    exact ⟨hk, Or.inr ⟨hg, newKeys, _, hkeys, hc, fun k hk1 => ((hnew k).mp hk1).1,
      fun k hk1 hk2 => (hnew k).mpr ⟨hk1, parent_mem_union hk2⟩, assign_child_adequate frame keys p deps⟩⟩

theorem C04_assign_labels (A : AssignOp γ) (kv : List (Name × γ)) (F : Frame γ) (p : Parent) (deps : List Dep) (rw : Rw)
    (_h : assign F.cols (kv.map (·.1)) p deps = some rw) : (evalAssign A kv p.cols rw F).cols = p.cols := by
  unfold evalAssign
  split <;> rfl

theorem C04_assign_values (A : AssignOp γ) (kv : List (Name × γ)) (F : Frame γ) (p : Parent) (deps : List Dep) (rw : Rw)
    (h : assign F.cols (kv.map (·.1)) p deps = some rw) (c : Name) (hc : c ∈ p.cols) (hwf : c ∈ (A.op kv F).cols) :
    (evalAssign A kv p.cols rw F).val c = ((A.op kv F).select p.cols).val c := by
  have hcu : c ∈ unionCols p deps [] := parent_mem_union hc
  rw [select_val_mem hc]
  cases assign_spec h with
  | gone hg hch hk hno =>
    rw [evalAssign_gone A kv p.cols F hg, select_val_mem hc, A.op_other kv F c
      (Bool.eq_false_iff.mpr fun hh => hno c (List.contains_iff_mem.mp hh) hcu)]
  | pruned newKeys hg hk hkeys hch hnew =>
    rw [evalAssign_pruned A kv p.cols F hg hkeys hch, select_val_mem hc]
    refine assign_core A kv newKeys.contains F _ c
      (fun hkey => List.contains_iff_mem.mpr ((hnew c).mpr ⟨List.contains_iff_mem.mp hkey, hcu⟩)) fun hkey => ?_
    -- a passed-through column: it is in the pruned input
    have hcF : c ∈ F.cols := by
      rw [A.op_cols, mem_assignLabels] at hwf
      exact hwf.resolve_right fun hh => Bool.false_ne_true (hkey.symm.trans (List.contains_iff_mem.mpr hh))
    -- named first: applied to `.req` directly, unification of the expected type unfolds `sortKeep`
    have had := assign_child_adequate F.cols (kv.map (·.1)) p deps
    exact had.req c (List.mem_filter.mpr ⟨hc, by rw [hkey]; rfl⟩) hcF

-- keys vs inputs; the input projection is sorted; the "same projection twice" guard
example : assign ["b", "a", "c"] ["z"] (.list ["z", "c", "b"]) [] =
    some { childs := [some (.many ["b", "c"])], keep := true, keys := some ["z"] } := by decide +kernel
example : assign ["a", "b", "c"] ["z", "y"] (.list ["y", "a"]) [] =
    some { childs := [some (.many ["a"])], keep := true, keys := some ["y"] } := by decide +kernel
example : assign ["a", "b", "c"] ["z"] (.list ["a"]) [] = some { childs := [none], keep := true, gone := true } := by decide +kernel
example : assign ["a", "b"] ["z"] (.list ["b", "z", "a"]) [] = none := by decide +kernel

/-! ### 8. column-wise binary operators: combine_first, Binop -/

theorem C04_combinefirst_wf (frame other : List Name) (p : Parent) (deps : List Dep) (rw : Rw)
    (h : combineFirst frame other p deps = some rw) :
    ∃ fc oc, rw.childs = [some (.many fc), some (.many oc)] ∧ rw.keep = true ∧
      Adequate frame [] p.cols fc ∧ Adequate other [] p.cols oc := by
  rw [combineFirst_spec h]
  exact ⟨_, _, rfl, rfl, adequate_union_has frame p deps [], adequate_union_has other p deps []⟩

theorem C04_combinefirst_labels (B : BinOp γ) (X Y : Frame γ) (p : Parent) (deps : List Dep) (rw : Rw)
    (h : combineFirst X.cols Y.cols p deps = some rw) : (evalBin B p.cols rw X Y).cols = p.cols := by
  rw [combineFirst_spec h]; rfl

theorem C04_combinefirst_values (B : BinOp γ) (X Y : Frame γ) (p : Parent) (deps : List Dep) (rw : Rw)
    (h : combineFirst X.cols Y.cols p deps = some rw) (c : Name) (hc : c ∈ p.cols) :
    (evalBin B p.cols rw X Y).val c = ((B.op X Y).select p.cols).val c := by
  rw [combineFirst_spec h]
  exact evalBin_filter B X Y p.cols _ c hc (detProj_has (parent_mem_union hc))

example : combineFirst ["a", "b", "c"] ["b", "c", "k"] (.list ["k", "b"]) [] =
    some { childs := [some (.many ["b"]), some (.many ["b", "k"])], keep := true } := by decide +kernel

/-- OpAlignPartitions / MethodOperatorAlign (binary operators on frames that are not co-aligned): BOTH operands are
    projected, each onto the requested columns it has (D32) -/
theorem C04_opalign_wf (frame : List Name) (other : Option (List Name)) (p : Parent) (deps : List Dep) (rw : Rw)
    (h : opAlign frame other p deps = some rw) :
    ∃ oc0 fc oc, other = some oc0 ∧ rw.childs = [some (.many fc), some (.many oc)] ∧ rw.keep = true ∧
      Adequate frame [] p.cols fc ∧ Adequate oc0 [] p.cols oc := by
  cases other with
  | none => cases h
  | some oc0 =>
    rw [opAlign_spec h]
    exact ⟨oc0, _, _, rfl, rfl, rfl, adequate_union_contains frame p deps [], adequate_union_contains oc0 p deps []⟩

theorem C04_opalign_labels (B : BinOp γ) (X Y : Frame γ) (p : Parent) (deps : List Dep) (rw : Rw)
    (h : opAlign X.cols (some Y.cols) p deps = some rw) : (evalBin B p.cols rw X Y).cols = p.cols := by
  rw [opAlign_spec h]; rfl

theorem C04_opalign_values (B : BinOp γ) (X Y : Frame γ) (p : Parent) (deps : List Dep) (rw : Rw)
    (h : opAlign X.cols (some Y.cols) p deps = some rw) (c : Name) (hc : c ∈ p.cols) :
    (evalBin B p.cols rw X Y).val c = ((B.op X Y).select p.cols).val c := by
  rw [opAlign_spec h]
  exact evalBin_filter B X Y p.cols _ c hc (detProj_contains.mpr (parent_mem_union hc))

example : opAlign ["a", "b"] (some ["a", "b"]) (.list ["a"]) [] =
    some { childs := [some (.many ["a"]), some (.many ["a"])], keep := true } := by decide +kernel
example : opAlign ["a", "b"] (some ["b", "c"]) (.list ["a"]) [] =
    some { childs := [some (.many ["a"]), some (.many [])], keep := true } := by decide +kernel

/-- FULL STATEMENT (false on the current tree): every projection `Binop._simplify_up` places on an operand selects
    columns that operand has.
    The rule projects BOTH frame operands onto the requested *output* columns; an operand that lacks one of them
    (frames with different column sets: `(df[['a','b']] + df[['b','c']])[['a']]`) gets an impossible projection
    (N7: AssertionError / KeyError). -/
theorem C04_binop_wf_partial (selfCols : List Name) (left right : Option (List Name)) (p : Parent) (deps : List Dep) (rw : Rw)
    (h : binop selfCols left right p deps = some rw)
    (hl : ∀ lc, left = some lc → ∀ c, c ∈ selfCols → c ∈ lc) (hr : ∀ rc, right = some rc → ∀ c, c ∈ selfCols → c ∈ rc) :
    rw.keep = true ∧ ∃ l r, rw.childs = [l, r] ∧
      (∀ s, l = some s → ∃ cs lc, s = .many cs ∧ left = some lc ∧ (∀ c, c ∈ cs → c ∈ lc) ∧ (selfCols.Nodup → cs.Nodup) ∧
          ∀ c, c ∈ p.cols → c ∈ selfCols → c ∈ cs) ∧
      (∀ s, r = some s → ∃ cs rc, s = .many cs ∧ right = some rc ∧ (∀ c, c ∈ cs → c ∈ rc) ∧ (selfCols.Nodup → cs.Nodup) ∧
          ∀ c, c ∈ p.cols → c ∈ selfCols → c ∈ cs) := by
  have had := adequate_union_contains selfCols p deps []
  rw [binop_spec h]
  refine ⟨rfl, _, _, rfl, fun s hs => ?_, fun s hs => ?_⟩
  · obtain ⟨hs1, lc, hlc⟩ := binopSide_some hs
    exact ⟨_, lc, hs1, hlc, fun c hc => hl lc hlc c (had.sub c hc), had.nodup, had.req⟩
  · obtain ⟨hs1, rc, hrc⟩ := binopSide_some hs
    exact ⟨_, rc, hs1, hrc, fun c hc => hr rc hrc c (had.sub c hc), had.nodup, had.req⟩

theorem C04_binop_counterexample :
    binop ["a", "b", "c"] (some ["a", "b"]) (some ["b", "c"]) (.list ["a"]) [] =
      some { childs := [some (.many ["a"]), some (.many ["a"])], keep := true } := by decide +kernel

theorem C04_binop_values_partial (B : BinOp γ) (X Y : Frame γ) (selfCols : List Name) (p : Parent) (deps : List Dep) (rw : Rw)
    (h : binop selfCols (some X.cols) (some Y.cols) p deps = some rw)
    (c : Name) (hc : c ∈ p.cols) (hcs : c ∈ selfCols) (hx : c ∈ X.cols) (hy : c ∈ Y.cols) :
    (evalBin B p.cols rw X Y).val c = ((B.op X Y).select p.cols).val c := by
  have hmem : c ∈ selfCols.filter ((detProj p deps []).toList.contains ·) :=
    (adequate_union_contains selfCols p deps []).req c hc hcs
  rw [binop_spec h]
  show ((B.op _ _).select p.cols).val c = _
  rw [select_val_mem hc, select_val_mem hc, B.op_val, B.op_val, masked_binopSide hmem hx, masked_binopSide hmem hy]

theorem C04_binop_labels (B : BinOp γ) (X Y : Frame γ) (selfCols : List Name) (left right : Option (List Name))
    (p : Parent) (deps : List Dep) (rw : Rw) (h : binop selfCols left right p deps = some rw) :
    (evalBin B p.cols rw X Y).cols = p.cols := by
  rw [binop_spec h]; rfl

example : binop ["a", "b", "c"] (some ["a", "b", "c"]) none (.list ["c", "a"]) [] =
    some { childs := [some (.many ["a", "c"]), none], keep := true } := by decide +kernel

/-! ### 9. AsType -/

theorem C04_astype_labels (A : AsTypeOp γ) (F : Frame γ) (dkeys : Option (List Name)) (p : Parent) (hp : p.overFrame)
    (deps : List Dep) (rw : Rw) (h : astype F.cols dkeys p deps = some rw) : (evalAsType A p.cols rw F).cols = p.cols := by
  rcases astype_spec h with ⟨_, rfl⟩ | ⟨_, k, rfl, hk⟩
  · rfl
  · cases k with
    | true => rfl
    | false =>
      obtain ⟨s, hs⟩ := hk rfl
      show (A.op _ (F.select (astypeSel F.cols (detProj p deps [])).toList)).cols = _
      rw [A.op_cols, select_cols, hs, detProj_one_scalar hp hs]
      rfl

/-- every requested column is cast exactly when the unpruned expression casts it -/
theorem C04_astype_values (A : AsTypeOp γ) (F : Frame γ) (dkeys : Option (List Name)) (p : Parent)
    (deps : List Dep) (rw : Rw) (h : astype F.cols dkeys p deps = some rw)
    (c : Name) (hc : c ∈ p.cols) (hcF : c ∈ F.cols) :
    (evalAsType A p.cols rw F).val c = ((A.op dkeys F).select p.cols).val c := by
  have hcu : c ∈ unionCols p deps [] := parent_mem_union hc
  -- the cast flag of `c` survives the filtering of the dtype dict
  have hflag : castFlag (dkeys.map (·.filter ((detProj p deps []).toList.contains ·))) c = castFlag dkeys c := by
    cases dkeys with
    | none => rfl
    | some l => exact filter_contains_of_pred (detProj_contains.mpr hcu)
  rw [select_val_mem hc, A.op_val dkeys F c (List.contains_iff_mem.mpr hcF), ← hflag]
  rcases astype_spec h with ⟨hg, rfl⟩ | ⟨_, k, rfl, _⟩
  · -- no requested column is cast
    show (F.select p.cols).val c = _
    rw [select_val_mem hc, hg]
    exact (A.cast_false c _).symm
  · rw [evalAsType_val A F _ _ _ hc]
    exact astype_core A F _ _ c (mem_astypeSel hcF (by rw [detProj_toList]; exact hcu))

/-- the surviving dtype keys are columns of the pruned input (pandas refuses other keys), for every request —
    dtype keys are matched against the labels of the request, also when it collapsed to one label (D33) -/
theorem C04_astype_wf (frame : List Name) (dkeys : Option (List Name)) (p : Parent) (hp : p.overFrame)
    (deps : List Dep) (rw : Rw)
    (h : astype frame dkeys p deps = some rw) (hd : ∀ l, dkeys = some l → ∀ k, k ∈ l → k ∈ frame)
    (hreq : ∀ c, c ∈ p.cols → c ∈ frame) :
    rw.gone = true ∨
    ∃ s, rw.childs = [some s] ∧ Adequate frame [] p.cols s.toList ∧ ∀ l, rw.keys = some l → ∀ k, k ∈ l → k ∈ s.toList := by
  rcases astype_spec h with ⟨_, rfl⟩ | ⟨_, k, rfl, _⟩
  · exact Or.inl rfl
  · -- the child is a duplicate-free sub-schema: a filter of the input, or the one requested column
    have hsn : (∀ c, c ∈ (astypeSel frame (detProj p deps [])).toList → c ∈ frame) ∧
        (frame.Nodup → (astypeSel frame (detProj p deps [])).toList.Nodup) := by
      cases hs : detProj p deps [] with
      | many l => exact ⟨fun c hc => (List.mem_filter.mp hc).1, List.Nodup.sublist List.filter_sublist⟩
      | one s =>
        have hps := detProj_one_scalar hp hs
        exact ⟨fun c hc => hreq c (by rw [hps]; exact hc), fun _ => List.pairwise_singleton _ s⟩
    refine Or.inr ⟨_, rfl, ⟨hsn.1, hsn.2, nofun, fun c hc hf =>
      mem_astypeSel hf (by rw [detProj_toList]; exact parent_mem_union hc)⟩, fun l' hl' k' hk' => ?_⟩
    -- a surviving key is a dtype key, hence a column of the input, and one of the requested labels
    cases dkeys with
    | none => cases hl'
    | some dl =>
      cases hl'
      exact mem_astypeSel (hd dl rfl k' (List.mem_filter.mp hk').1) (List.contains_iff_mem.mp (List.mem_filter.mp hk').2)

-- D33: a dtype key that is a substring of the selected label is not kept; here no selected column is cast at all
example : astype ["a", "ab"] (some ["a"]) (.scalar "ab") [] = some { childs := [none], keep := true, gone := true } := by decide +kernel
example : astype ["a", "ab"] (some ["a", "ab"]) (.scalar "ab") [] =
    some { childs := [some (.one "ab")], keep := false, keys := some ["ab"] } := by decide +kernel
example : astype ["a", "b", "c"] (some ["a", "b"]) (.list ["c", "a"]) [] =
    some { childs := [some (.many ["a", "c"])], keep := true, keys := some ["a"] } := by decide +kernel
example : astype ["a", "b", "c"] (some ["a"]) (.list ["c"]) [] = some { childs := [none], keep := true, gone := true } := by decide +kernel

/-! ### 10. Merge (Projection / Index parent) -/

/-- what holds for EVERY merge: both pushed lists are duplicate-free sub-schemas (D1) and keep the join keys -/
theorem C04_merge_wf (m : MergeP) (L R : List Name) (hL : L.Nodup) (hR : R.Nodup) (p : Parent) (deps : List Dep) (rw : Rw)
    (h : merge m L R p deps = some rw) :
    ∃ pl pr, rw.childs = [some (.many pl), some (.many pr)] ∧ rw.keep = true ∧
      (∀ c, c ∈ pl → c ∈ L) ∧ (∀ c, c ∈ pr → c ∈ R) ∧ pl.Nodup ∧ pr.Nodup ∧
      (∀ k, k ∈ m.leftOn → k ∈ L → k ∈ pl) ∧ (∀ k, k ∈ m.rightOn → k ∈ R → k ∈ pr) := by
  have hrw := merge_spec h
  refine ⟨_, _, by rw [hrw], by rw [hrw], merge_left_sub m L R _ hR, merge_right_sub m L R _ hR,
    merge_left_nodup m L R _ hL hR, merge_right_nodup m L R _ hL hR,
    fun k hk hkL => merge_left_keys m L R _ hR hk hkL, fun k hk hkR => merge_right_keys m L R _ hR hk hkR⟩

/-- FULL STATEMENT (false on the current tree): `∀ m L R …, ℓ ∈ p.cols → ℓ ∈ mergeLabels m L R → ℓ ∈ mergeLabels m pl pr`
    (every requested label is still produced, with its suffix).
    With `left_on != right_on`, a key column that also exists on the other side is kept through `col in left_on`
    without its collision partner, so the suffixed label disappears:
    `L.merge(R, left_on='b', right_on='k2')[['b_x']]` raises KeyError (N1). -/
theorem C04_merge_labels_partial (m : MergeP) (L R : List Name) (hR : R.Nodup) (hkeys : KeysDoNotCollide m L R)
    (p : Parent) (deps : List Dep) (rw : Rw) (h : merge m L R p deps = some rw) :
    ∃ pl pr, rw.childs = [some (.many pl), some (.many pr)] ∧
      ∀ l, l ∈ p.cols → l ∈ mergeLabels m L R → l ∈ mergeLabels m pl pr := by
  rw [merge_spec h]
  refine ⟨_, _, rfl, fun l hl hml => ?_⟩
  have hproj : (detProj p deps []).toList.contains l = true := detProj_contains.mpr (parent_mem_union hl)
  rcases List.mem_append.mp hml with hml | hml
  · obtain ⟨c, hc, rfl⟩ := List.mem_map.mp hml
    have hsrc := merge_left_source m L R _ hR hkeys.1 hc hproj
    exact List.mem_append_left _ (List.mem_map.mpr
      ⟨c, hsrc.1, labelL_pruned m R _ c (merge_right_sub m L R _ hR) hsrc.2⟩)
  · obtain ⟨c, hc, rfl⟩ := List.mem_map.mp hml
    have hsrc := merge_right_source m L R _ hR hkeys.2 (List.mem_filter.mp hc).1 hproj
    exact List.mem_append_right _ (List.mem_map.mpr ⟨c, List.mem_filter.mpr ⟨hsrc.1, (List.mem_filter.mp hc).2⟩,
      labelR_pruned m L _ c (merge_left_sub m L R _ hR) hsrc.2⟩)

theorem C04_merge_labels (M : MergeOp γ) (X Y : Frame γ) (p : Parent) (deps : List Dep) (rw : Rw)
    (h : merge M.m X.cols Y.cols p deps = some rw) : (evalMerge M p.cols rw X Y).cols = p.cols := by
  rw [merge_spec h]; rfl

/-- values, left side: a requested label that carries a left column still carries it, matched by the same keys.
    (`MergeOp` speaks about joins with duplicate-free result labels: `hlnd`; the pruned join has them too,
    `mergeLabels_pruned_nodup`.) -/
theorem C04_merge_values_left_partial (M : MergeOp γ) (X Y : Frame γ) (hL : X.cols.Nodup) (hR : Y.cols.Nodup)
    (hlnd : (mergeLabels M.m X.cols Y.cols).Nodup)
    (hkeys : KeysDoNotCollide M.m X.cols Y.cols) (hlo : ∀ k, k ∈ M.m.leftOn → k ∈ X.cols) (hro : ∀ k, k ∈ M.m.rightOn → k ∈ Y.cols)
    (p : Parent) (deps : List Dep) (rw : Rw) (h : merge M.m X.cols Y.cols p deps = some rw)
    (c : Name) (hc : c ∈ X.cols) (hreq : labelL M.m Y.cols c ∈ p.cols) :
    (evalMerge M p.cols rw X Y).val (labelL M.m Y.cols c) = ((M.op X Y).select p.cols).val (labelL M.m Y.cols c) := by
  have hsrc := merge_left_source M.m X.cols Y.cols (detProj p deps []).toList hR hkeys.1 hc
    (detProj_contains.mpr (parent_mem_union hreq))
  have e := M.op_left (X.select (mergeLists M.m X.cols Y.cols (detProj p deps []).toList).1)
    (Y.select (mergeLists M.m X.cols Y.cols (detProj p deps []).toList).2) c
    (mergeLabels_pruned_nodup hL hR hkeys hlnd) (List.contains_iff_mem.mpr hsrc.1)
  rw [select_cols, labelL_pruned M.m Y.cols _ c (merge_right_sub M.m X.cols Y.cols _ hR) hsrc.2,
    select_val_mem hsrc.1, (merge_T_pruned M X Y hR hlo hro _).1] at e
  rw [merge_spec h]
  show ((M.op (X.select _) (Y.select _)).select p.cols).val _ = _
  rw [select_val_mem hreq, select_val_mem hreq]
  exact e.trans (M.op_left X Y c hlnd (List.contains_iff_mem.mpr hc)).symm

theorem C04_merge_values_right_partial (M : MergeOp γ) (X Y : Frame γ) (hL : X.cols.Nodup) (hR : Y.cols.Nodup)
    (hlnd : (mergeLabels M.m X.cols Y.cols).Nodup)
    (hkeys : KeysDoNotCollide M.m X.cols Y.cols) (hlo : ∀ k, k ∈ M.m.leftOn → k ∈ X.cols) (hro : ∀ k, k ∈ M.m.rightOn → k ∈ Y.cols)
    (p : Parent) (deps : List Dep) (rw : Rw) (h : merge M.m X.cols Y.cols p deps = some rw)
    (c : Name) (hc : c ∈ Y.cols) (hck : commonKey M.m c = false) (hreq : labelR M.m X.cols c ∈ p.cols) :
    (evalMerge M p.cols rw X Y).val (labelR M.m X.cols c) = ((M.op X Y).select p.cols).val (labelR M.m X.cols c) := by
  have hsrc := merge_right_source M.m X.cols Y.cols (detProj p deps []).toList hR hkeys.2 hc
    (detProj_contains.mpr (parent_mem_union hreq))
  have e := M.op_right (X.select (mergeLists M.m X.cols Y.cols (detProj p deps []).toList).1)
    (Y.select (mergeLists M.m X.cols Y.cols (detProj p deps []).toList).2) c
    (mergeLabels_pruned_nodup hL hR hkeys hlnd) (List.contains_iff_mem.mpr hsrc.1) hck
  rw [select_cols, labelR_pruned M.m X.cols _ c (merge_left_sub M.m X.cols Y.cols _ hR) hsrc.2,
    select_val_mem hsrc.1, (merge_T_pruned M X Y hR hlo hro _).2] at e
  rw [merge_spec h]
  show ((M.op (X.select _) (Y.select _)).select p.cols).val _ = _
  rw [select_val_mem hreq, select_val_mem hreq]
  exact e.trans (M.op_right X Y c hlnd (List.contains_iff_mem.mpr hc) hck).symm

/-- the pruned join is again a join `MergeOp` speaks about: duplicate-free result labels, keys present -/
theorem C04_merge_pruned_wf (m : MergeP) (L R : List Name) (hL : L.Nodup) (hR : R.Nodup) (hkeys : KeysDoNotCollide m L R)
    (hlnd : (mergeLabels m L R).Nodup) (proj : List Name) :
    (mergeLabels m (mergeLists m L R proj).1 (mergeLists m L R proj).2).Nodup ∧
    KeysDoNotCollide m (mergeLists m L R proj).1 (mergeLists m L R proj).2 :=
  ⟨mergeLabels_pruned_nodup hL hR hkeys hlnd,
   fun c hc hcr => hkeys.1 c hc (merge_right_sub m L R proj hR c hcr),
   fun c hc hcl => hkeys.2 c hc (merge_left_sub m L R proj hR c hcl)⟩

/-- N1: the key 'b' of the left side collides with the non-key 'b' of the right side; 'b_x' is requested and the
    pruned merge (left [b], right [k2]) does not produce it -/
theorem C04_merge_counterexample :
    merge ⟨["b"], ["k2"], "_x", "_y"⟩ ["b", "v"] ["k2", "b"] (.list ["b_x"]) [] =
        some { childs := [some (.many ["b"]), some (.many ["k2"])], keep := true } ∧
    "b_x" ∈ mergeLabels ⟨["b"], ["k2"], "_x", "_y"⟩ ["b", "v"] ["k2", "b"] ∧
    "b_x" ∉ mergeLabels ⟨["b"], ["k2"], "_x", "_y"⟩ ["b"] ["k2"] := by decide +kernel

-- both suffixed twins requested: each side keeps 'b' once (the D1 shape); keys needed only implicitly
example : merge ⟨["k"], ["k"], "_x", "_y"⟩ ["k", "b", "c"] ["k", "b", "d"] (.list ["b_x", "b_y"]) [] =
    some { childs := [some (.many ["k", "b"]), some (.many ["b", "k"])], keep := true } := by decide +kernel
example : merge ⟨["k"], ["k"], "_x", "_y"⟩ ["k", "b", "c"] ["k", "b", "d"] (.list ["d"]) [] =
    some { childs := [some (.many ["k"]), some (.many ["k", "d"])], keep := true } := by decide +kernel
example : KeysDoNotCollide ⟨["k"], ["k"], "_x", "_y"⟩ ["k", "b", "c"] ["k", "b", "d"] := by
  constructor <;> intro c hc _ <;> simp at hc <;> subst hc <;> decide
example : mergeLabels ⟨["k"], ["k"], "_x", "_y"⟩ ["k", "b", "c"] ["k", "b", "d"] = ["k", "b_x", "c", "b_y", "d"] := by decide +kernel

/-! ### 11. Concat -/

/-- stacking rows (`axis=0`): no input is ever removed (D31), every input is left alone or pruned to a sub-schema that
    still has all requested columns it had, and an input that has columns keeps at least one of them (D85: an input
    without any requested column still contributes rows of missing values, which decide the dtypes of the result) -/
theorem C04_concat_wf (inner : Bool) (frames : List (List Name)) (p : Parent) (deps : List Dep) (rw : Rw)
    (h : concat false inner frames p deps = some rw) :
    (∀ b, b ∈ rw.dropped → b = false) ∧
    rw.childs = frames.map (concatChild false (detProj p deps []).toList) ∧
    ∀ f, f ∈ frames → (concatChild false (detProj p deps []).toList f = none ∨
      ∃ cs, concatChild false (detProj p deps []).toList f = some (.many cs) ∧ Adequate f [] p.cols cs ∧
        (f ≠ [] → cs ≠ [])) := by
  obtain ⟨hc, hd⟩ := concat_spec h
  refine ⟨?_, hc, ?_⟩
  · intro b hb
    rw [hd, List.mem_map] at hb
    obtain ⟨f, _, hf⟩ := hb
    rw [← hf]; rfl
  · intro f _
    rcases concatChild_cases false (detProj p deps []).toList f with h1 | h1
    · exact Or.inl h1
    · exact Or.inr ⟨_, h1, concatKeepCols_adequate false f p deps, concatKeepCols_ne_nil _ f⟩

/-- labels: the parent projection is dropped only when the labels the new Concat DECLARES (`Concat._meta` leaves inputs
    without columns out) are exactly the requested list (and the parent is a frame selection); otherwise it is re-applied -/
theorem C04_concat_labels (axis1 inner : Bool) (frames : List (List Name)) (p : Parent) (deps : List Dep) (rw : Rw)
    (h : concat axis1 inner frames p deps = some rw) (hk : rw.keep = false) :
    concatLabels axis1 inner (((frames.filter (fun f => !concatDropped axis1 (detProj p deps []).toList f)).map
        (concatKeepCols axis1 (detProj p deps []).toList))) = p.cols ∧ p.ndim1 = false :=
  concat_nokeep h hk

/-- inputs without columns do not matter for the declared labels when rows are stacked with `join="outer"`, and there
    are none when every input has a column (an input that has columns keeps one, `C04_concat_wf`) -/
theorem C04_concat_declared (axis1 inner : Bool) (fs : List (List Name)) :
    concatLabels false false fs = concatCols false false fs ∧
    ((∀ f, f ∈ fs → f ≠ []) → concatLabels axis1 inner fs = concatCols axis1 inner fs) :=
  ⟨concatLabels_outer fs, concatLabels_of_nonempty axis1 inner⟩

/-- with `join="inner"` an input without columns is NOT part of the declared intersection (D111: dask-expr declares and
    computes the labels of the other inputs, pandas computes none) -/
theorem C04_concat_inner_zero_columns :
    concatLabels false true [["b", "k"], []] = ["b", "k"] ∧ concatCols false true [["b", "k"], []] = [] := by decide +kernel

/-- values (`axis=0`): every input's block of a requested column is unchanged — an input that has none of the
    requested columns still contributes its (null) block -/
theorem C04_concat_values (C : ConcatOp γ) (Fs : List (Frame γ)) (columns : List Name) (c : Name) (hc : c ∈ columns) :
    (C.op (Fs.map (fun F => selOpt (concatChild false columns F.cols) F))).val c = (C.op Fs).val c := by
  rw [C.op_val, C.op_val, List.map_map]
  refine congrArg C.C (List.map_congr_left fun F _ => ?_)
  rw [Function.comp_apply]
  exact masked_concatChild F hc

/-- FULL STATEMENT (false on the current tree): `C04_concat_wf` for `axis=1` as well — no input is removed.
    With `axis=1` an input that contributes no selected column is removed from the Concat although it takes part in
    the index join (D35, open: the repository's own tests expect it).
    PARTIAL: when every input contributes a requested column nothing is removed. -/
theorem C04_concat_axis1_wf_partial (inner : Bool) (frames : List (List Name)) (p : Parent) (deps : List Dep) (rw : Rw)
    (h : concat true inner frames p deps = some rw)
    (hall : ∀ f, f ∈ frames → ∃ c, c ∈ f ∧ c ∈ unionCols p deps []) :
    (∀ b, b ∈ rw.dropped → b = false) ∧
    rw.childs = frames.map (concatChild true (detProj p deps []).toList) := by
  obtain ⟨hc, hd⟩ := concat_spec h
  refine ⟨fun b hb => ?_, hc⟩
  rw [hd, List.mem_map] at hb
  obtain ⟨f, hf, rfl⟩ := hb
  obtain ⟨c, hcf, hcu⟩ := hall f hf
  have hm : c ∈ f.filter ((detProj p deps []).toList.contains ·) :=
    List.mem_filter.mpr ⟨hcf, detProj_contains.mpr hcu⟩
  unfold concatDropped
  cases hl : f.filter ((detProj p deps []).toList.contains ·) with
  | nil => rw [hl] at hm; cases hm
  | cons _ _ => rfl

/-- D35: concat([A(a,b), B(c,d)], axis=1)[['a']] removes B from the index join -/
theorem C04_concat_axis1_counterexample :
    concat true false [["a", "b"], ["c", "d"]] (.list ["a"]) [] =
      some { childs := [some (.many ["a"]), some (.many [])], keep := false, dropped := [false, true] } := by decide +kernel

-- D31/D85: with axis=0 the second input stays, with one of its columns (it still contributes its rows and their
-- missing values), and the parent selection is re-applied
example : concat false false [["a", "b"], ["c", "d"]] (.list ["a"]) [] =
    some { childs := [some (.many ["a"]), some (.many ["c"])], keep := true, dropped := [false, false] } := by decide +kernel
example : concat false false [["a", "b"], ["b", "c"]] (.list ["b"]) [] =
    some { childs := [some (.many ["b"]), some (.many ["b"])], keep := false, dropped := [false, false] } := by decide +kernel

/-! ### 12. RollingReduction -/

/-- (full since D43) the rule re-applies the parent for grouped AND ungrouped rollings — except for the scalar
    collapse — and keeps a sub-schema with the grouping columns and everything requested -/
theorem C04_rolling_wf (frame : List Name) (gb : Option (List Name)) (p : Parent) (deps : List Dep) (rw : Rw)
    (h : rolling frame gb p deps = some rw) :
    (∃ child, rw.isKeep1 child ∧ Adequate frame (gb.getD []) p.cols child) ∨
    (gb = none ∧ p.ndim1 = true ∧ ∃ c, rw.childs = [some (.one c)] ∧ rw.keep = false ∧ c ∈ frame ∧
      frame.filter ((detProj p deps []).toList.contains ·) = [c]) := by
  -- every branch but the scalar collapse re-applies the parent over the requested columns of the input
  have keep1 : ∀ extra child, child = frame.filter ((detProj p deps extra).toList.contains ·) →
      some ({ childs := [some (.many child)], keep := true } : Rw) = some rw →
      ∃ child, rw.isKeep1 child ∧ Adequate frame extra p.cols child := by
    intro extra child hc h
    cases h
    exact ⟨child, ⟨rfl, rfl, rfl⟩, hc ▸ adequate_union_contains frame p deps extra⟩
  obtain ⟨_, h⟩ := Option.ite_none_left_eq_some.mp h
  cases gb with
  | some b => exact Or.inl (keep1 b _ rfl h)
  | none =>
    cases hnd : p.ndim1 with
    | false => rw [hnd] at h; exact Or.inl (keep1 [] _ rfl h)
    | true =>
      simp only [hnd, Option.getD_none, Option.isNone_none, Bool.and_self, if_true] at h
      split at h
      · rename_i c hc
        cases h
        exact Or.inr ⟨rfl, rfl, c, rfl, rfl, (List.mem_filter.mp (hc ▸ List.mem_singleton.mpr rfl)).1, hc⟩
      · exact Or.inl (keep1 [] _ rfl h)

-- the witnesses of the former finding D43: the list selections are re-applied (order, frame-ness); a scalar collapses
example :
    rolling ["a", "b", "c"] none (.list ["c", "a"]) [] = some { childs := [some (.many ["a", "c"])], keep := true } ∧
    rolling ["a", "b", "c"] none (.list ["a"]) [] = some { childs := [some (.many ["a"])], keep := true } ∧
    rolling ["a", "b", "c"] none (.scalar "a") [] = some { childs := [some (.one "a")], keep := false } := by decide +kernel

/-! ### 13. `_simplify_down`: squashing projections, identity elimination, Drop -/

/-- the last step of `Projection._simplify_down`: squash when the outer selection is within the inner one, else the
    assertion of the real code fails -/
theorem squash_or_assert {c : Prop} [Decidable c] {s : Sel} {d : Down}
    (h : (if c then Down.squash s else Down.assertErr) = d) : (c ∧ d = .squash s) ∨ d = .assertErr := by
  by_cases hc : c
  · exact Or.inl ⟨hc, ((if_pos hc).symm.trans h).symm⟩
  · exact Or.inr ((if_neg hc).symm.trans h).symm

theorem C04_projdown_squash (frameCols : List Name) (same : Bool) (self : Sel) (a : List Name) (b : Sel)
    (h : projDown frameCols same self (some (.many a)) = .squash b) : b = self ∧ ∀ c, c ∈ self.toList → c ∈ a := by
  unfold projDown at h
  by_cases hc : (decide (frameCols = self.toList) && same) = true
  · rw [if_pos hc] at h
    cases h
  · rw [if_neg hc] at h
    cases self with
    | many bs =>
      rcases squash_or_assert h with ⟨hall, hb⟩ | hb
      · exact ⟨Down.squash.inj hb, fun c hc => List.contains_iff_mem.mp (List.all_eq_true.mp hall c hc)⟩
      · cases hb
    | one c0 =>
      rcases squash_or_assert h with ⟨hin, hb⟩ | hb
      · exact ⟨Down.squash.inj hb, fun c hc => List.mem_singleton.mp hc ▸ List.contains_iff_mem.mp hin⟩
      · cases hb

/-- `df[a][b]` = `df[b]` whenever `b ⊆ a`, which is what the rule asserts before squashing -/
theorem C04_projdown_squash_values (F : Frame γ) (a b : List Name) (h : ∀ c, c ∈ b → c ∈ a) :
    ((F.select a).select b).cols = (F.select b).cols ∧ ∀ c, ((F.select a).select b).val c = (F.select b).val c :=
  ⟨rfl, fun c => by
    by_cases hc : c ∈ b
    · rw [select_val_mem hc, select_val_mem hc, select_val_mem (h c hc)]
    · rw [select_val_not_mem hc, select_val_not_mem hc]⟩

theorem C04_projdown_ident (F : Frame γ) (same : Bool) (self : Sel) (inner : Option Sel)
    (h : projDown F.cols same self inner = .ident) :
    (F.select self.toList).cols = F.cols ∧ ∀ c, c ∈ F.cols → (F.select self.toList).val c = F.val c := by
  unfold projDown at h
  by_cases hc : (decide (F.cols = self.toList) && same) = true
  · have he : F.cols = self.toList := of_decide_eq_true (Bool.and_eq_true_iff.mp hc).1
    exact ⟨he.symm, fun c hcF => select_val_mem (he ▸ hcF)⟩
  · -- no other branch returns the frame itself
    rw [if_neg hc] at h
    cases inner with
    | none => cases h
    | some i =>
      cases i with
      | one _ => cases h
      | many a =>
        cases self with
        | many b => rcases squash_or_assert h with ⟨_, hb⟩ | hb <;> cases hb
        | one c => rcases squash_or_assert h with ⟨_, hb⟩ | hb <;> cases hb

example : projDown ["a", "b"] true (.many ["b"]) (some (.many ["a", "b"])) = .squash (.many ["b"]) := by decide +kernel
example : projDown ["a", "b"] true (.many ["a", "b"]) none = .ident := by decide +kernel
example : projDown ["b"] false (.one "b") none = .none := by decide +kernel

theorem C04_drop (D : DropOp γ) (F : Frame γ) (colOp : List Name) :
    (D.op colOp F).cols = (F.select (dropDown F.cols colOp)).cols ∧
    ∀ c, c ∈ dropDown F.cols colOp → (D.op colOp F).val c = (F.select (dropDown F.cols colOp)).val c := by
  refine ⟨by rw [D.op_cols]; rfl, ?_⟩
  intro c hc
  rw [select_val_mem hc]
  unfold dropDown at hc
  rw [List.mem_filter] at hc
  exact D.op_val colOp F c (List.contains_iff_mem.mpr hc.1) (by simpa using hc.2)

example : dropDown ["a", "b", "c"] ["b", "zz"] = ["a", "c"] := by decide +kernel

/-! ### 14. shared intermediates -/

/-- every column a *listed* dependent reports and the input has is in the child built for the parent —
    for ANY dependents list; the child serves all listed consumers that later rewrite the same way -/
theorem C04_shared_plain (frame : List Name) (p : Parent) (deps : List Dep) (extra : List Name) (rw : Rw)
    (h : plain frame p deps extra = some rw) (d : Dep) (hd : d ∈ deps) (c : Name) (hc : c ∈ d.cols) (hf : c ∈ frame) :
    ∃ s, rw.childs = [some s] ∧ c ∈ s.toList := by
  obtain ⟨hrw, _⟩ := plain_spec h
  exact ⟨_, by rw [hrw], plainSel_mem frame p deps extra c (dep_mem_union hd hc) hf⟩

theorem C04_shared_keyed (frame keys : List Name) (p : Parent) (deps : List Dep) (rw : Rw)
    (h : keyed frame keys p deps = some rw) (d : Dep) (hd : d ∈ deps) (c : Name) (hc : c ∈ d.cols) (hf : c ∈ frame) :
    ∃ child, rw.childs = [some (.many child)] ∧ c ∈ child := by
  obtain ⟨hk, _⟩ := keyed_spec h
  exact ⟨_, hk.1, List.mem_filter.mpr ⟨hf, detProj_contains.mpr (dep_mem_union hd hc)⟩⟩

/-- the same for every rule whose child is `[col for col in frame.columns if col in columns]`
    (dropna, drop_duplicates, SetIndexBlockwise, combine_first, grouped rolling; shuffle with its keys) -/
theorem C04_shared (frame : List Name) (p : Parent) (deps : List Dep) (extra : List Name)
    (d : Dep) (hd : d ∈ deps) (c : Name) (hc : c ∈ d.cols) (hf : c ∈ frame) :
    c ∈ frame.filter (detProj p deps extra).has ∧ c ∈ frame.filter ((detProj p deps extra).toList.contains ·) :=
  ⟨List.mem_filter.mpr ⟨hf, detProj_has (dep_mem_union hd hc)⟩,
   List.mem_filter.mpr ⟨hf, detProj_contains.mpr (dep_mem_union hd hc)⟩⟩

/-- a dependent that renames (AddPrefix, RenameFrame, Merge suffixes) reports OUTPUT labels; what it really reads may
    be missing from the child — harmless, because a rewrite builds a NEW parent expression and every other consumer
    (listed or not, alive or stale) keeps referring to the original node: only entry `i` of the consumers changes -/
theorem C04_shared_original {β : Type} (consumers : List (Frame γ → β)) (X : Frame γ) (i : Nat) (rewritten : β)
    (j : Nat) (hj : j ≠ i) :
    ((consumers.map (· X)).set i rewritten)[j]? = (consumers.map (· X))[j]? :=
  List.getElem?_set_ne (Ne.symm hj)

-- a renaming dependent reports 'p_a': not a column of the input, ignored; the consumer itself is untouched
example : plain ["a", "b", "c"] (.list ["b"]) [⟨["p_a", "p_b", "p_c"], false⟩] [] =
    some { childs := [some (.many ["b"])], keep := false } := by decide +kernel
example : plain ["a", "b", "c"] (.list ["b"]) [⟨["c"], true⟩, ⟨["c"], true⟩] [] =
    some { childs := [some (.many ["b", "c"])], keep := true } := by decide +kernel

/-! ### 15. widening: unrequested input columns do not influence the pruned plan -/

/-- a schema `wide` that extends `frame` by columns nobody asks for is pruned to exactly the same child -/
theorem C04_widening (frame wide : List Name) (pred : Name → Bool)
    (hw : wide.filter (frame.contains ·) = frame) (hun : ∀ c, c ∈ wide → c ∉ frame → pred c = false) :
    wide.filter pred = frame.filter pred := by
  conv => rhs; rw [← hw]
  rw [List.filter_filter]
  apply List.filter_congr
  intro c hc
  by_cases hf : c ∈ frame
  · rw [List.contains_iff_mem.mpr hf, Bool.and_true]
  · rw [hun c hc hf]; rfl

theorem C04_widening_keyed (frame wide keys : List Name) (p : Parent) (deps : List Dep)
    (hw : wide.filter (frame.contains ·) = frame) (hun : ∀ c, c ∈ wide → c ∉ frame → c ∉ unionCols p deps keys) :
    wide.filter ((detProj p deps keys).toList.contains ·) = frame.filter ((detProj p deps keys).toList.contains ·) := by
  apply C04_widening frame wide _ hw
  intro c hc hf
  have := hun c hc hf
  by_cases hh : (detProj p deps keys).toList.contains c = true
  · exact absurd (detProj_contains.mp hh) this
  · simpa using hh

/-- a widened source read with the same child list yields the same frame -/
theorem C04_widening_source (S S' : SourceOp γ) (child : List Name)
    (hsame : ∀ c, c ∈ child → S'.data c = S.data c) :
    (S'.read child).cols = (S.read child).cols ∧ ∀ c, c ∈ child → (S'.read child).val c = (S.read child).val c := by
  refine ⟨by rw [S.read_cols, S'.read_cols], ?_⟩
  intro c hc
  rw [S.read_val child c (List.contains_iff_mem.mpr hc), S'.read_val child c (List.contains_iff_mem.mpr hc), hsame c hc]

example : ["a", "u", "b", "w", "k"].filter ((detProj (.list ["a"]) [] ["k"]).toList.contains ·)
    = ["a", "b", "k"].filter ((detProj (.list ["a"]) [] ["k"]).toList.contains ·) := by decide +kernel

/-! ### 16. T1: which live classes hand a Projection to plain_column_projection -/

/-- classes that reach `plain_column_projection` although pruning their `frame` operand alone is not sound;
    each is a reported failing input (N8 Categorize, N9 Corr/Cov, N10 Mode) -/
def knownUnsoundPlain : List String :=
  ["dask_expr._categorical.Categorize", "dask_expr._reductions.Corr", "dask_expr._reductions.Cov",
   "dask_expr._reductions.Mode"]

def projEntryOk (e : Generated.ProjEntry) : Bool :=
  (!e.plainUser || e.cat == .columnLocal || knownUnsoundPlain.contains e.name) && (!e.absorb || e.cat == .source)

/-- FULL STATEMENT (false on the current tree): every class handing a Projection to `plain_column_projection` is
    column-local.  PARTIAL: every such class is column-local or one of the four listed exceptions; every class with
    `_absorb_projections` is a source.  Re-decided by the kernel against the live class table on every run. -/
theorem C04_passthrough_table_partial : ∀ e, e ∈ Generated.projFlags → projEntryOk e = true := by
  have h : Generated.projFlags.all projEntryOk = true := by decide +kernel
  exact fun e he => List.all_eq_true.mp h e he

/-- … hence the `plain` theorems (C04_plain_wf / _labels / _values, stated for every `KeyedOp`) apply to it -/
theorem C04_passthrough_sound (e : Generated.ProjEntry) (he : e ∈ Generated.projFlags) (hp : e.plainUser = true)
    (hk : knownUnsoundPlain.contains e.name = false) : e.cat = .columnLocal := by
  have h := C04_passthrough_table_partial e he
  simp only [projEntryOk, hp, hk, Bool.not_true, Bool.false_or, Bool.or_false, Bool.and_eq_true, beq_iff_eq] at h
  exact h.1

/-- why an operator with a second frame operand must not use the generic pass-through (D32, fixed: OpAlignPartitions
    has its own rule, `C04_opalign_*`): pruning only `frame` of a union-schema operator leaves the other operand's
    labels in the result -/
theorem C04_plain_unsound_for_binary :
    let unionSchema : List Name → List Name → List Name := fun a b => a ++ b.filter (fun c => !a.contains c)
    plain ["a", "b"] (.list ["a"]) [] [] = some { childs := [some (.many ["a"])], keep := false } ∧
    unionSchema ["a"] ["a", "b"] ≠ ["a"] := by decide +kernel

example : (Generated.projFlags.filter (·.plainUser)).length > 60 := by decide +kernel
example : (Generated.projFlags.filter (·.absorb)).length > 5 := by decide +kernel

/-! ### 17. the operator structures are inhabited by real, non-degenerate operators

Every theorem above that quantifies over `KeyedOp`, `RelabelOp`, `AssignOp`, `BinOp`, `MergeOp`, `ConcatOp`, `ResetOp`,
`SourceOp`, `AsTypeOp`, `DropOp` speaks about a non-empty class: Lemmas/ColsInst.lean builds each structure from the
column-level functions an operator is made of, with all laws proven.  Here: list-valued columns (`none` = null). -/
namespace C04Inst

def colsOf (F : Frame LCol) : List (Name × Option LCol) := F.cols.map (fun c => (c, F.val c))

def tblL : Name → Option LCol
  | "k" => some [some 1, some 2, some 2]
  | "v" => some [some 10, some 20, some 30]
  | "u" => some [some 5, some 6, some 7]
  | _ => none
def tblR : Name → Option LCol
  | "k" => some [some 2, some 2, some 3]
  | "w" => some [some 7, some 8, some 9]
  | _ => none

def Lf : Frame LCol := (SourceOp.ofData tblL).read ["k", "v", "u"]
def Rf : Frame LCol := (SourceOp.ofData tblR).read ["k", "w"]
def onK : MergeP := ⟨["k"], ["k"], "_x", "_y"⟩

/-- an inner join with duplicate keys on both sides: 4 result rows, left and right values distinct -/
example : colsOf ((listMerge false onK).op Lf Rf) =
    [("k", some [some 2, some 2, some 2, some 2]), ("v", some [some 20, some 20, some 30, some 30]),
     ("u", some [some 6, some 6, some 7, some 7]), ("w", some [some 7, some 8, some 7, some 8])] := by decide +kernel
/-- the left join keeps the unmatched left row, padded with a null on the right -/
example : colsOf ((listMerge true onK).op Lf Rf) =
    [("k", some [some 1, some 2, some 2, some 2, some 2]), ("v", some [some 10, some 20, some 20, some 30, some 30]),
     ("u", some [some 5, some 6, some 6, some 7, some 7]), ("w", some [none, some 7, some 8, some 7, some 8])] := by decide +kernel
/-- not degenerate: a result column depends on the data of the input column it carries -/
example : (listMerge false onK).TL Lf.val Rf.val (some [some 10, some 20, some 30]) ≠
    (listMerge false onK).TL Lf.val Rf.val (some [some 10, some 21, some 30]) := by decide +kernel

/-- the hypotheses of `C04_merge_values_left_partial` / `_right_partial` on this join: the rule prunes `u`, and both
    requested columns keep their values -/
example : merge onK Lf.cols Rf.cols (.list ["w", "v"]) [] =
    some { childs := [some (.many ["k", "v"]), some (.many ["k", "w"])], keep := true } := by decide +kernel
example : (evalMerge (listMerge false onK) ["w", "v"] { childs := [some (.many ["k", "v"]), some (.many ["k", "w"])], keep := true } Lf Rf).val "v"
    = (((listMerge false onK).op Lf Rf).select ["w", "v"]).val "v" :=
  -- the one join key on either side is "k"
  have key : ∀ {P : Name → Prop}, P "k" → ∀ k, k ∈ ["k"] → P k := fun h k hk => List.mem_singleton.mp hk ▸ h
  C04_merge_values_left_partial (listMerge false onK) Lf Rf (by decide +kernel) (by decide +kernel) (by decide +kernel)
    ⟨key fun _ => by decide +kernel, key fun _ => by decide +kernel⟩
    (key (by decide +kernel)) (key (by decide +kernel))
    (.list ["w", "v"]) [] _ (by decide +kernel) "v" (by decide +kernel) (by decide +kernel)

/-- `KeyedOp`: keep the rows whose key column `k` is > 1 -/
def keepBig : KeyedOp LCol := KeyedOp.ofFun ["k"] (fun ks x => match ks with
  | [some k] => (x.zip k).filterMap (fun xk => match xk.2 with
      | some kv => if kv > 1 then some xk.1 else none
      | none => none)
  | _ => x)
example : colsOf (keepBig.op Lf) = [("k", some [some 2, some 2]), ("v", some [some 20, some 30]), ("u", some [some 6, some 7])] := by
  decide +kernel
example : OutMono keepBig := fun l l' c _ hc hin => by
  rcases hc with h | h
  · exact h
  · exact absurd hin h

/-- `RelabelOp`: rename -/
example : colsOf ((RelabelOp.ofFun (renameFwd [("v", "V")])).op Lf) =
    [("k", some [some 1, some 2, some 2]), ("V", some [some 10, some 20, some 30]), ("u", some [some 5, some 6, some 7])] := by
  decide +kernel

/-- `AssignOp`: a repeated key keeps its FIRST position and its LAST value (`df.assign(z=, y=).assign(z=)` → `[…, z, y]`),
    an existing key is overwritten in place -/
example : colsOf (AssignOp.std.op [("z", [some 1]), ("y", [some 2]), ("z", [some 3]), ("v", [some 4])] Lf) =
    [("k", some [some 1, some 2, some 2]), ("v", some [some 4]), ("u", some [some 5, some 6, some 7]),
     ("z", some [some 3]), ("y", some [some 2])] := by decide +kernel
example : assignLabels ["a", "b"] ["z", "y", "z"] = ["a", "b", "z", "y"] := by decide +kernel

/-- `BinOp`: cell-wise sum (null if either is null) -/
def addCols (x y : LCol) : LCol := List.zipWith (fun a b => match a, b with
  | some a, some b => some (a + b)
  | _, _ => none) x y
example : ((BinOp.ofFun addCols).op Lf Lf).val "v" = some [some 20, some 40, some 60] := by decide +kernel

/-- `ConcatOp`: rows stacked; the labels are those `Concat._meta` declares -/
def stackCols (blocks : List (Option LCol)) : Option LCol :=
  if blocks.all Option.isNone then none else some (blocks.flatMap (fun b => b.getD []))
example : colsOf ((ConcatOp.ofStack (concatLabels false false) stackCols).op [Lf.select ["k", "v"], Rf]) =
    [("k", some [some 1, some 2, some 2, some 2, some 2, some 3]), ("v", some [some 10, some 20, some 30]),
     ("w", some [some 7, some 8, some 9])] := by decide +kernel

/-- `ResetOp`: the former index becomes the first column -/
example : colsOf ((ResetOp.ofIndex (some [some 0, some 1, some 2]) (resetLabel none)).op false (Lf.select ["v"])) =
    [("index", some [some 0, some 1, some 2]), ("v", some [some 10, some 20, some 30])] := by decide +kernel

/-- `AsTypeOp`: only the flagged columns are cast; `DropOp` -/
example : colsOf ((AsTypeOp.ofCast (fun x : LCol => x.map (fun c => c.map (· * 2)))).op (some ["v"]) (Lf.select ["k", "v"])) =
    [("k", some [some 1, some 2, some 2]), ("v", some [some 20, some 40, some 60])] := by decide +kernel
example : colsOf (DropOp.std.op ["u", "zz"] Lf) = [("k", some [some 1, some 2, some 2]), ("v", some [some 10, some 20, some 30])] := by
  decide +kernel

end C04Inst

end Dx

/-
  Parquet.lean — the pure planner logic around parquet reads that is specific to C18
  (the predicate / DNF / null semantics part lives in Pred.lean, shared with C03):
    * `FusedIO._fusion_buckets`  — `[partitions[i : i + step] for i in range(0, npartitions, step)]`
    * `FusedIO._divisions`       — bucket heads + the division after the last bucket (after fix D5)
    * the overwrite guard of `to_parquet` — `(read.rstrip("/") + "/").startswith(write.rstrip("/") + "/")`
      at the level of path components.
-/
namespace Dx.Parquet

/-- `[l[i : i + step] for i in range(0, len l, step)]` (fuel = len l suffices for step ≥ 1) -/
def chunks {α} (step : Nat) : Nat → List α → List (List α)
  | 0, _ => []
  | _, [] => []
  | fuel+1, l => l.take step :: chunks step fuel (l.drop step)

def fusionBuckets {α} (step : Nat) (parts : List α) : List (List α) := chunks step parts.length parts

/-- divisions of the fused read: `divisions[b[0]]` for every bucket, then `divisions[last + 1]` -/
def fusedDivisions (divs : List Int) (buckets : List (List Nat)) : List Int :=
  buckets.map (fun b => divs.getD (b.headD 0) 0) ++
    [divs.getD ((buckets.getLastD []).getLastD 0 + 1) 0]

/-- overwrite guard on path components (empty trailing components removed = `rstrip("/")`) -/
def guardRefuses (readComps writeComps : List String) : Bool := writeComps.isPrefixOf readComps

theorem chunks_flatten {α} (step : Nat) (hs : 0 < step) (fuel : Nat) (l : List α) (h : l.length ≤ fuel) :
    (chunks step fuel l).flatten = l := by
  induction fuel generalizing l with
  | zero => cases l with
    | nil => rfl
    | cons a t => exact absurd h (Nat.not_succ_le_zero _)
  | succ n ih =>
    cases l with
    | nil => rfl
    | cons a t =>
      have hd : ((a :: t).drop step).length ≤ n := by rw [List.length_drop]; exact Nat.sub_le_of_le_add (by omega)
      simp only [chunks, List.flatten_cons]
      rw [ih _ hd]
      exact List.take_append_drop step (a :: t)

theorem chunks_nonempty {α} (step : Nat) (hs : 0 < step) (fuel : Nat) (l : List α) :
    ∀ b ∈ chunks step fuel l, b ≠ [] ∧ b.length ≤ step := by
  induction fuel generalizing l with
  | zero => exact fun b hb => nomatch hb
  | succ n ih =>
    cases l with
    | nil => exact fun b hb => nomatch hb
    | cons a t =>
      intro b hb
      rcases List.mem_cons.mp hb with rfl | hb
      · obtain ⟨s, rfl⟩ : ∃ s, step = s + 1 := ⟨step - 1, by omega⟩
        exact ⟨List.cons_ne_nil _ _, List.length_take_le _ _⟩
      · exact ih _ b hb

end Dx.Parquet

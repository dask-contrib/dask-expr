/-
  GraphCheck.lean — an executable checker for *real* task graphs (T3) with a soundness proof.
  The harness lists the graph's keys in a claimed topological order, each with the keys its
  task refers to; `checkOrder` accepts iff no key repeats and every reference points to an
  earlier key.  Soundness: acceptance implies the graph is unambiguous (no duplicate key),
  closed (every reference is a listed key) and acyclic (every reference sits at a strictly earlier position).
-/
namespace Dx

def checkOrder {κ} [DecidableEq κ] : List (κ × List κ) → List κ → Bool
  | [], _ => true
  | (k, rs) :: t, seen => !seen.contains k && rs.all (fun r => seen.contains r) && checkOrder t (k :: seen)

/-- position of a key in the listing (its rank) -/
def posOf {κ} [DecidableEq κ] (l : List (κ × List κ)) (k : κ) : Nat :=
  (l.map Prod.fst).idxOf k

theorem checkOrder_sound_aux {κ} [DecidableEq κ] :
    ∀ (l : List (κ × List κ)) (seen : List κ), checkOrder l seen = true →
      (l.map Prod.fst).Nodup ∧ (∀ k ∈ l.map Prod.fst, k ∉ seen) ∧
      (∀ (i : Nat) (h : i < l.length), ∀ r ∈ (l[i]).2, r ∈ seen ∨ r ∈ (l.take i).map Prod.fst)
  | [], _, _ => ⟨List.nodup_nil, fun _ hk => (nomatch hk), fun _ h => (nomatch h)⟩
  | (k, rs) :: t, seen, h => by
    simp only [checkOrder, Bool.and_eq_true, Bool.not_eq_true', List.all_eq_true, List.contains_eq_mem,
      decide_eq_false_iff_not, decide_eq_true_eq] at h
    obtain ⟨⟨hk, hrs⟩, ht⟩ := h
    obtain ⟨hnd, hdis, hrefs⟩ := checkOrder_sound_aux t (k :: seen) ht
    refine ⟨List.nodup_cons.mpr ⟨fun hm => hdis k hm List.mem_cons_self, hnd⟩, ?_, ?_⟩
    · intro k' hk' hs
      rcases List.mem_cons.mp hk' with rfl | h
      · exact hk hs
      · exact hdis k' h (List.mem_cons_of_mem _ hs)
    · intro i hi r hr
      cases i with
      | zero => exact Or.inl (hrs r hr)
      | succ i =>
        rcases hrefs i (Nat.lt_of_succ_lt_succ hi) r hr with hm | hm
        · rcases List.mem_cons.mp hm with rfl | hs
          · exact Or.inr List.mem_cons_self
          · exact Or.inl hs
        · exact Or.inr (List.mem_cons_of_mem _ hm)

/-- **Soundness of the graph checker**: an accepted listing has no duplicate key, and every
    reference of the `i`-th task is the key of a strictly earlier entry (closed + acyclic). -/
theorem checkOrder_sound {κ} [DecidableEq κ] (l : List (κ × List κ)) (h : checkOrder l [] = true) :
    (l.map Prod.fst).Nodup ∧
    (∀ (i : Nat) (hi : i < l.length), ∀ r ∈ (l[i]).2,
        ∃ (j : Nat) (hj : j < l.length), j < i ∧ (l[j]).1 = r) := by
  obtain ⟨h1, _, h3⟩ := checkOrder_sound_aux l [] h
  refine ⟨h1, fun i hi r hr => ?_⟩
  rcases h3 i hi r hr with h | h
  · cases h
  · obtain ⟨p, hp, rfl⟩ := List.mem_map.mp h
    obtain ⟨j, hj, rfl⟩ := List.mem_take_iff_getElem.mp hp
    have hj' := Nat.lt_min.mp hj
    exact ⟨j, hj'.2, hj'.1, rfl⟩
end Dx

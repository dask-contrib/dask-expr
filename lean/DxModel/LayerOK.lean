/-
  LayerOK.lean — what a hand-written `_layer()` must satisfy (DESIGN §6 C09: `LayerOK`), stated over the
  layer's OWN key type, and the bridge to `Plan.LayerOK` (layers of a whole plan, `C09_merge_*`).

  A layer model is a graph function over a layer-specific key inductive (Layers/*.lean).  `LSpec` adds the
  classification of those keys that the property talks about:

    depOf k  = some (d, i)   the key is `(dependencies()[d]._name, i)` — owned by ANOTHER expression
    outIdx k = some i        the key is `(self._name, i)`            — what `__dask_keys__` asks for
    everything else          an internal key; its name embeds `self._name` (or a token of all operands)
                             — tied by the renderers of the drivers (`…@self:…`) in the exact graph equality

  `LayerWF L depN` (`depN[d]` = npartitions of the d-th dependency):
    (i)   outputs   every `(self._name, i)`, `i < npartitions`, is defined, and NO other `(self._name, i)` is
    (ii)  closed    a referenced key is a key of this layer, or partition `i < depN[d]` of dependency `d`
    (iii) own       the layer defines no key of another expression (keys unique to the owner)
    (iv)  ranked    a bounded rank strictly decreases along references inside the layer (acyclic)
  The layer proofs (Lemmas/Layer*.lean) establish (ii) and (iv) together, one obligation per reference
  (`LSpec.RefOK`, `LayerWF.ofRefs`).
  Definitions and proofs, Mathlib-free.
-/
import DxModel.Plan
namespace Dx

structure LSpec (κ : Type) where
  task : Graph κ
  nout : Nat                          -- self.npartitions
  out : Nat → κ                       -- (self._name, i)
  outIdx : κ → Option Nat
  depOf : κ → Option (Nat × Nat)
  rank : κ → Nat
  bound : Nat

structure LayerWF {κ} (L : LSpec κ) (depN : List Nat) : Prop where
  out_idx : ∀ i, i < L.nout → L.outIdx (L.out i) = some i
  outs_defined : ∀ i, i < L.nout → (L.task (L.out i)).isSome
  outs_exact : ∀ k i, (L.task k).isSome → L.outIdx k = some i → i < L.nout ∧ k = L.out i
  own : ∀ k, (L.task k).isSome → L.depOf k = none
  closed : ∀ k t, L.task k = some t → ∀ r ∈ t.refs,
      (L.task r).isSome ∨ (∃ d i nd, L.depOf r = some (d, i) ∧ depN[d]? = some nd ∧ i < nd)
  ranked : ∀ k t, L.task k = some t → ∀ r ∈ t.refs, (L.task r).isSome → L.rank r < L.rank k
  bounded : ∀ k, (L.task k).isSome → L.rank k ≤ L.bound

/-- the dict listing of the layer (what T2 compares with the real `_layer()`) is exactly the domain of `task` -/
def Listed {κ} (L : LSpec κ) (keys : List κ) : Prop := ∀ k, (L.task k).isSome ↔ k ∈ keys

namespace LSpec
variable {κ : Type}

/-- the keys every task of the layer reads from outside: closedness relative to them -/
def extInputs (L : LSpec κ) (depN : List Nat) (vals : Nat → Nat → V) : κ → Option V := fun k =>
  match L.depOf k with
  | some (d, i) => (match depN[d]? with
      | some nd => if i < nd then some (vals d i) else none
      | none => none)
  | none => none

/-- translate a key of the layer into a plan-level reference -/
def refMap (L : LSpec κ) (r : κ) : LRef κ :=
  match L.depOf r with
  | some (d, i) => .dep d i
  | none => .loc r

def toPLayer (L : LSpec κ) : PLayer κ :=
  { task := fun k => (L.task k).map (fun t => t.mapKeys L.refMap)
    nout := L.nout, out := L.out, rank := L.rank, bound := L.bound }

theorem extInputs_isSome (L : LSpec κ) (depN : List Nat) (vals : Nat → Nat → V) (k : κ) :
    (L.extInputs depN vals k).isSome ↔ ∃ d i nd, L.depOf k = some (d, i) ∧ depN[d]? = some nd ∧ i < nd := by
  unfold extInputs
  constructor
  · intro h
    split at h
    · next d i hd =>
      split at h
      · next nd hn =>
        split at h
        · next hi => exact ⟨d, i, nd, hd, hn, hi⟩
        · cases h
      · cases h
    · cases h
  · rintro ⟨d, i, nd, hd, hn, hi⟩
    simp only [hd, hn, hi, if_true, Option.isSome_some]

theorem toPLayer_isSome (L : LSpec κ) (k : κ) : (L.toPLayer.task k).isSome = (L.task k).isSome := by
  simp [toPLayer]

theorem toPLayer_refs (L : LSpec κ) {k : κ} {t : Tsk (LRef κ)} (hk : L.toPLayer.task k = some t) {r : LRef κ}
    (hr : r ∈ t.refs) : ∃ t0 r0, L.task k = some t0 ∧ r0 ∈ t0.refs ∧ L.refMap r0 = r := by
  obtain ⟨t0, ht0, rfl⟩ := Option.map_eq_some_iff.mp hk
  rw [Tsk.refs_mapKeys] at hr
  obtain ⟨r0, hr0, rfl⟩ := List.mem_map.mp hr
  exact ⟨t0, r0, ht0, hr0, rfl⟩

theorem refMap_loc (L : LSpec κ) (r k' : κ) (h : L.refMap r = .loc k') : r = k' ∧ L.depOf r = none := by
  unfold refMap at h
  cases hd : L.depOf r with
  | none => rw [hd] at h; simp only [LRef.loc.injEq] at h; exact ⟨h, rfl⟩
  | some p => obtain ⟨d, i⟩ := p; rw [hd] at h; cases h

/-- what the task at `k` may refer to: a key of the layer of smaller rank, or an existing partition of a dependency -/
def RefOK (L : LSpec κ) (depN : List Nat) (k r : κ) : Prop :=
  ((L.task r).isSome ∧ L.rank r < L.rank k) ∨ ∃ d i nd, L.depOf r = some (d, i) ∧ depN[d]? = some nd ∧ i < nd

theorem RefOK.own {L : LSpec κ} {depN : List Nat} {k r : κ} (hs : (L.task r).isSome) (hr : L.rank r < L.rank k) :
    L.RefOK depN k r := Or.inl ⟨hs, hr⟩

theorem RefOK.dep {L : LSpec κ} {depN : List Nat} {k r : κ} {d i nd : Nat} (hd : L.depOf r = some (d, i))
    (hn : depN[d]? = some nd) (hi : i < nd) : L.RefOK depN k r := Or.inr ⟨d, i, nd, hd, hn, hi⟩

end LSpec

/-- `LayerWF` is the classical pair (closed over the dependencies' outputs, ranked) of Graph.lean -/
theorem LayerWF.closed_ranked {κ} {L : LSpec κ} {depN : List Nat} (h : LayerWF L depN) (vals : Nat → Nat → V) :
    Closed L.task (L.extInputs depN vals) ∧ Ranked L.task L.rank :=
  ⟨fun k t hk r hr => (h.closed k t hk r hr).imp_right (L.extInputs_isSome depN vals r).mpr, h.ranked⟩

/-- `closed` and `ranked` from one obligation per reference.  Since no key of a dependency is defined by the
    layer (`own`), a reference that is a defined key cannot have been justified as a dependency partition. -/
theorem LayerWF.ofRefs {κ} {L : LSpec κ} {depN : List Nat}
    (out_idx : ∀ i, i < L.nout → L.outIdx (L.out i) = some i)
    (outs_defined : ∀ i, i < L.nout → (L.task (L.out i)).isSome)
    (outs_exact : ∀ k i, (L.task k).isSome → L.outIdx k = some i → i < L.nout ∧ k = L.out i)
    (own : ∀ k, (L.task k).isSome → L.depOf k = none)
    (refs : ∀ k t, L.task k = some t → ∀ r ∈ t.refs, L.RefOK depN k r)
    (bounded : ∀ k, (L.task k).isSome → L.rank k ≤ L.bound) : LayerWF L depN where
  out_idx := out_idx
  outs_defined := outs_defined
  outs_exact := outs_exact
  own := own
  closed := fun k t hk r hr => (refs k t hk r hr).imp_left And.left
  ranked := by
    intro k t hk r hr hs
    rcases refs k t hk r hr with h | ⟨d, i, _, hd, _, _⟩
    · exact h.2
    · rw [own r hs] at hd; cases hd
  bounded := bounded

/-- **bridge**: a well-formed layer model is a `LayerOK` node of every plan that supplies its dependencies -/
theorem LayerWF.toLayerOK {κ} {L : LSpec κ} {depN : List Nat} (h : LayerWF L depN)
    (P : Plan κ) (n : Nat) (deps : List Nat)
    (hdeps : ∀ (d nd : Nat), depN[d]? = some nd →
      ∃ (m : Nat) (M : PNode κ), deps[d]? = some m ∧ m < n ∧ P[m]? = some M ∧ nd ≤ M.layer.nout) :
    LayerOK P n ⟨L.toPLayer, deps⟩ where
  outs_defined := fun i hi => (L.toPLayer_isSome _).trans (h.outs_defined i hi)
  closed := by
    intro k t hk r hr
    obtain ⟨t0, r0, ht0, hr0, rfl⟩ := L.toPLayer_refs hk hr
    -- a reference is local exactly if it is no key of a dependency (`own`)
    rcases h.closed k t0 ht0 r0 hr0 with hs | ⟨d, i, nd, hd, hn, hi⟩
    · exact Or.inl ⟨r0, by simp [LSpec.refMap, h.own r0 hs], (L.toPLayer_isSome r0).trans hs⟩
    · obtain ⟨m, M, hm, hlt, hM, hle⟩ := hdeps d nd hn
      exact Or.inr ⟨d, i, m, M, by simp [LSpec.refMap, hd], hm, hlt, hM, Nat.lt_of_lt_of_le hi hle⟩
  ranked := by
    intro k t hk k' hk' hdef
    obtain ⟨t0, r0, ht0, hr0, hmap⟩ := L.toPLayer_refs hk hk'
    obtain ⟨rfl, _⟩ := L.refMap_loc r0 k' hmap
    exact h.ranked k t0 ht0 r0 hr0 ((L.toPLayer_isSome r0).symm.trans hdef)
  bounded := fun k hk => h.bounded k ((L.toPLayer_isSome k).symm.trans hk)

/-! ### a whole plan described by layer models -/

/-- a node of a plan: the layer model of the expression and the plan indices of its dependencies -/
structure MNode (κ : Type) where
  spec : LSpec κ
  deps : List Nat

def MNode.toPNode {κ} (N : MNode κ) : PNode κ := ⟨N.spec.toPLayer, N.deps⟩

/-- npartitions of the dependencies of a node, read off the plan -/
def depNOf {κ} (nodes : List (MNode κ)) (deps : List Nat) : List Nat :=
  deps.map (fun m => match nodes[m]? with
    | some M => M.spec.nout
    | none => 0)

/-- every node's dependencies precede it, and its layer is well formed for THEIR partition counts -/
def ModelPlanOK {κ} (nodes : List (MNode κ)) : Prop :=
  ∀ (n : Nat) (N : MNode κ), nodes[n]? = some N → (∀ m ∈ N.deps, m < n) ∧ LayerWF N.spec (depNOf nodes N.deps)

theorem modelPlan_planOK {κ} (nodes : List (MNode κ)) (h : ModelPlanOK nodes) :
    PlanOK (nodes.map MNode.toPNode) := by
  intro n PN hn
  rw [List.getElem?_map] at hn
  obtain ⟨N, hN, rfl⟩ := Option.map_eq_some_iff.mp hn
  obtain ⟨hlt, hwf⟩ := h n N hN
  refine hwf.toLayerOK _ n N.deps fun d nd hd => ?_
  rw [depNOf, List.getElem?_map] at hd
  obtain ⟨m, hm, hnd⟩ := Option.map_eq_some_iff.mp hd
  have hmn : m < n := hlt m (List.mem_of_getElem? hm)
  have hml : m < nodes.length := Nat.lt_trans hmn (List.getElem?_eq_some_iff.mp hN).1
  have hM : nodes[m]? = some nodes[m] := List.getElem?_eq_getElem hml
  rw [hM] at hnd
  exact ⟨m, nodes[m].toPNode, hm, hmn, by rw [List.getElem?_map, hM]; rfl, Nat.le_of_eq hnd.symm⟩

end Dx

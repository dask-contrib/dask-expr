/-
  Plan.lean — assembling the task graph of a whole plan from the layers of its expressions
  (model of `Expr.__dask_graph__`: walk the DAG, `toolz.merge` the layers).

  A plan is a list of nodes in topological numbering; node `n` owns a layer whose tasks refer
  either to keys of the same layer (`LRef.loc`) or to an output partition of one of the node's
  dependencies (`LRef.dep d i` = partition `i` of the `d`-th dependency).  Global keys are pairs
  `(node, local key)`: *that every real key embeds the name of the expression that owns it* is
  exactly what makes `toolz.merge` unambiguous; it is the assumption this representation encodes and
  the T2 graph-equality checks establish it for every modelled layer (owner tag `@self`).
-/
import DxModel.Graph
namespace Dx

namespace Tsk
/-- rename the keys of a task -/
def mapKeys {κ κ'} (f : κ → κ') : Tsk κ → Tsk κ'
  | .alias k => .alias (f k)
  | .const r => .const r
  | .concat ks ii => .concat (ks.map f) ii
  | .getitem k i => .getitem (f k) i
  | .shuffleGroup k fl s n m q => .shuffleGroup (f k) fl s n m q
  | .shuffleGroup2 k n => .shuffleGroup2 (f k) n
  | .shuffleGroupGet k i => .shuffleGroupGet (f k) i
  | .boundarySlice k lo hi incl => .boundarySlice (f k) lo hi incl
  | .splitEvenly k n => .splitEvenly (f k) n
  | .pieceOf k i => .pieceOf (f k) i
  | .diskWrite k fl => .diskWrite (f k) fl
  | .barrier ks => .barrier (ks.map f)
  | .collect ks p b => .collect (ks.map f) p (f b)
  | .apply g args => .apply g (args.map f)

theorem refs_mapKeys {κ κ'} (f : κ → κ') (t : Tsk κ) : (t.mapKeys f).refs = t.refs.map f := by
  cases t <;> rfl

theorem mapKeys_id {κ} (t : Tsk κ) : t.mapKeys id = t := by
  cases t <;> simp only [mapKeys, List.map_id, id]
end Tsk

inductive LRef (κ : Type) where
  | loc (k : κ)
  | dep (d i : Nat)
deriving DecidableEq, Repr

structure PLayer (κ : Type) where
  task : κ → Option (Tsk (LRef κ))
  nout : Nat                 -- npartitions of the expression
  out : Nat → κ              -- local key of output partition i  (the real key is (name, i))
  rank : κ → Nat             -- local rank (decreasing along local references)
  bound : Nat                -- bound of the local ranks of defined keys

structure PNode (κ : Type) where
  layer : PLayer κ
  deps : List Nat            -- indices of the dependencies in the plan (all smaller than the node's own)

abbrev Plan (κ : Type) := List (PNode κ)

/-- What a layer must satisfy (DESIGN §6 C09: `LayerOK`; its clauses (iii) and (v) — owner tag, references name
    existing dependencies — are built into the representation `LRef` / `resolve`). -/
structure LayerOK {κ} (P : Plan κ) (n : Nat) (N : PNode κ) : Prop where
  /-- (i) every reported output key is defined -/
  outs_defined : ∀ i, i < N.layer.nout → (N.layer.task (N.layer.out i)).isSome
  /-- (ii) every referenced key is a defined local key or an existing output of a dependency -/
  closed : ∀ k t, N.layer.task k = some t → ∀ r ∈ t.refs,
      (∃ k', r = .loc k' ∧ (N.layer.task k').isSome) ∨
      (∃ d i m M, r = .dep d i ∧ N.deps[d]? = some m ∧ m < n ∧ P[m]? = some M ∧ i < M.layer.nout)
  /-- (iv) local references strictly decrease the local rank, which is bounded -/
  ranked : ∀ k t, N.layer.task k = some t → ∀ k', LRef.loc k' ∈ t.refs →
      (N.layer.task k').isSome → N.layer.rank k' < N.layer.rank k
  bounded : ∀ k, (N.layer.task k).isSome → N.layer.rank k ≤ N.layer.bound

def PlanOK {κ} (P : Plan κ) : Prop := ∀ n N, P[n]? = some N → LayerOK P n N

/-- translate a layer-local reference of node `N` into a global key -/
def resolve {κ} [Inhabited κ] (P : Plan κ) (n : Nat) (N : PNode κ) : LRef κ → Nat × κ
  | .loc k => (n, k)
  | .dep d i => match N.deps[d]? with
      | some m => match P[m]? with
          | some M => (m, M.layer.out i)
          | none => (m, default)
      | none => (n, default)   -- like the `default` above: unreachable for PlanOK plans (`LayerOK.closed` gives both look-ups)

/-- the merged graph (`toolz.merge` of all layers) over global keys -/
def merged {κ} [Inhabited κ] (P : Plan κ) : Graph (Nat × κ)
  | (n, k) => match P[n]? with
      | some N => (N.layer.task k).map (fun t => t.mapKeys (resolve P n N))
      | none => none

def maxBound {κ} : Plan κ → Nat
  | [] => 0
  | N :: t => max N.layer.bound (maxBound t)

theorem bound_le_max {κ} (P : Plan κ) (n : Nat) (N : PNode κ) (h : P[n]? = some N) :
    N.layer.bound ≤ maxBound P := by
  induction P generalizing n with
  | nil => rw [List.getElem?_nil] at h; cases h
  | cons M t ih =>
    cases n with
    | zero => cases h; exact Nat.le_max_left _ _
    | succ n => exact Nat.le_trans (ih n h) (Nat.le_max_right _ _)

/-- lexicographic rank (node, local rank) packed into a natural number -/
def globalRank {κ} (P : Plan κ) : Nat × κ → Nat
  | (n, k) => match P[n]? with
      | some N => n * (maxBound P + 1) + N.layer.rank k
      | none => 0

/-- the packing is lexicographic: a smaller node number wins whatever the local ranks (bounded by `B`) are -/
theorem globalRank_lex {m n B r r' : Nat} (hm : m < n) (hr : r ≤ B) : m * (B + 1) + r < n * (B + 1) + r' :=
  calc m * (B + 1) + r < m * (B + 1) + (B + 1) := Nat.add_lt_add_left (Nat.lt_succ_of_le hr) _
    _ = (m + 1) * (B + 1) := (Nat.succ_mul m (B + 1)).symm
    _ ≤ n * (B + 1) := Nat.mul_le_mul_right _ hm
    _ ≤ n * (B + 1) + r' := Nat.le_add_right _ _

theorem merged_some {κ} [Inhabited κ] (P : Plan κ) (n : Nat) (k : κ) (t : Tsk (Nat × κ))
    (h : merged P (n, k) = some t) :
    ∃ N t0, P[n]? = some N ∧ N.layer.task k = some t0 ∧ t = t0.mapKeys (resolve P n N) := by
  simp only [merged] at h
  cases hN : P[n]? with
  | none => simp [hN] at h
  | some N =>
    simp only [hN] at h
    cases ht : N.layer.task k with
    | none => simp [ht] at h
    | some t0 => simp [ht] at h; exact ⟨N, t0, rfl, ht, h.symm⟩

/-- **C09, closure**: in a plan whose layers are all `LayerOK`, every key referenced by a task of the
    merged graph is defined in the merged graph (no external inputs are needed at all). -/
theorem merged_closed {κ} [Inhabited κ] (P : Plan κ) (hP : PlanOK P) :
    Closed (merged P) (fun _ => none) := by
  intro gk t hg d hd
  obtain ⟨n, k⟩ := gk
  obtain ⟨N, t0, hN, ht0, rfl⟩ := merged_some P n k t hg
  rw [Tsk.refs_mapKeys] at hd
  obtain ⟨r, hr, rfl⟩ := List.mem_map.mp hd
  left
  have ok := hP n N hN
  rcases ok.closed k t0 ht0 r hr with ⟨k', rfl, hk'⟩ | ⟨dd, i, m, M, rfl, hm, _, hM, hi⟩
  · simp only [resolve, merged, hN, Option.isSome_map]
    exact hk'
  · simp only [resolve, hm, hM, merged, Option.isSome_map]
    exact (hP m M hM).outs_defined i hi

/-- **C09, acyclicity**: the lexicographic rank strictly decreases along every reference. -/
theorem merged_ranked {κ} [Inhabited κ] (P : Plan κ) (hP : PlanOK P) :
    Ranked (merged P) (globalRank P) := by
  intro gk t hg d hd hdef
  obtain ⟨n, k⟩ := gk
  obtain ⟨N, t0, hN, ht0, rfl⟩ := merged_some P n k t hg
  rw [Tsk.refs_mapKeys] at hd
  obtain ⟨r, hr, rfl⟩ := List.mem_map.mp hd
  have ok := hP n N hN
  rcases ok.closed k t0 ht0 r hr with ⟨k', rfl, hk'⟩ | ⟨dd, i, m, M, rfl, hm, hlt, hM, hi⟩
  · simp only [resolve, globalRank, hN]
    exact Nat.add_lt_add_left (ok.ranked k t0 ht0 k' hr hk') _
  · simp only [resolve, hm, hM, globalRank, hN]
    have okM := hP m M hM
    exact globalRank_lex hlt
      (Nat.le_trans (okM.bounded _ (okM.outs_defined i hi)) (bound_le_max P m M hM))

/-- **C09, outputs**: every reported output key `(name, i)`, `i < npartitions`, of every node is defined. -/
theorem merged_outputs {κ} [Inhabited κ] (P : Plan κ) (hP : PlanOK P) (n : Nat) (N : PNode κ)
    (hN : P[n]? = some N) (i : Nat) (hi : i < N.layer.nout) :
    (merged P (n, N.layer.out i)).isSome := by
  simp only [merged, hN, Option.isSome_map]
  exact (hP n N hN).outs_defined i hi

end Dx

/-
  Sched.lean — executing a graph in an explicit order / with several workers.
  Model of an external scheduler (dask.get, threaded get): a store of finished keys;
  a task is evaluated from the store.
-/
import DxModel.Graph
import DxModel.Lemmas.ListBasics
namespace Dx

abbrev Store (κ : Type) := List (κ × V)

def Store.get {κ} [DecidableEq κ] (s : Store κ) (inp : κ → Option V) (k : κ) : V :=
  match s.lookup k with
  | some v => v
  | none => inpVal inp k

/-- Sequential execution of the keys in `order` (keys the graph does not define are skipped). -/
def execOrder {κ} [DecidableEq κ] (I : Interp) (g : Graph κ) (inp : κ → Option V) :
    List κ → Store κ → Store κ
  | [], s => s
  | k :: ks, s => match g k with
      | some t => execOrder I g inp ks ((k, evalTsk I (s.get inp) t) :: s)
      | none => execOrder I g inp ks s

/-- `order` respects dependencies w.r.t. the already finished keys `done`.
    (`k ∉ done`, like `k ∉ started` in `LegalPar`, describes a real schedule: a task runs once.  No proof needs it.) -/
def Topo {κ} (g : Graph κ) : List κ → List κ → Prop
  | _, [] => True
  | done, k :: ks =>
      (∀ t, g k = some t → ∀ d ∈ t.refs, (g d).isSome → d ∈ done) ∧ k ∉ done ∧ Topo g (k :: done) ks

/-- every in-graph dependency of `k` is in `done`, as a test -/
def depsIn {κ} [DecidableEq κ] (g : Graph κ) (done : List κ) (k : κ) : Bool :=
  match g k with
  | some t => t.refs.all (fun d => !(g d).isSome || done.contains d)
  | none => true

theorem depsIn_sound {κ} [DecidableEq κ] {g : Graph κ} {done : List κ} {k : κ} (h : depsIn g done k = true) :
    ∀ t, g k = some t → ∀ d ∈ t.refs, (g d).isSome → d ∈ done := by
  intro t ht d hd hdef
  rw [depsIn, ht] at h
  have := List.all_eq_true.mp h d hd
  rw [hdef] at this
  exact List.contains_iff_mem.mp this

/-- `Topo` as a test, for concrete graphs and orders. -/
def Topo.check {κ} [DecidableEq κ] (g : Graph κ) : List κ → List κ → Bool
  | _, [] => true
  | done, k :: ks => depsIn g done k && !done.contains k && Topo.check g (k :: done) ks

theorem Topo.of_check {κ} [DecidableEq κ] (g : Graph κ) :
    ∀ (order done : List κ), Topo.check g done order = true → Topo g done order
  | [], _, _ => trivial
  | k :: ks, done, h => by
    simp only [Topo.check, Bool.and_eq_true, Bool.not_eq_true', List.contains_eq_mem,
      decide_eq_false_iff_not] at h
    exact ⟨depsIn_sound h.1.1, h.1.2, Topo.of_check g ks _ h.2⟩

/-- The canonical value of a key: the evaluator with just enough fuel (`rank k + 1` suffices, and more changes
    nothing: `run_stable`). -/
def val {κ} (I : Interp) (g : Graph κ) (inp : κ → Option V) (rank : κ → Nat) (k : κ) : V :=
  run I g inp (rank k + 1) k

/-- Store invariant: exactly the finished keys are stored, each defined in `g`, each with its canonical value. -/
def StoreOK {κ} [DecidableEq κ] (I : Interp) (g : Graph κ) (inp : κ → Option V) (rank : κ → Nat)
    (done : List κ) (s : Store κ) : Prop :=
  (∀ k, k ∈ done → s.lookup k = some (val I g inp rank k)) ∧
  (∀ k, k ∉ done → s.lookup k = none) ∧
  (∀ k, k ∈ done → (g k).isSome)

section
variable {κ} [DecidableEq κ] (I : Interp) (g : Graph κ) (inp : κ → Option V) (rank : κ → Nat)

theorem eval_from_store (hr : Ranked g rank) (done : List κ) (s : Store κ)
    (hs : StoreOK I g inp rank done s) (k : κ) (t : Tsk κ) (hg : g k = some t)
    (hdeps : ∀ d ∈ t.refs, (g d).isSome → d ∈ done) :
    evalTsk I (s.get inp) t = val I g inp rank k := by
  rw [val, run_defined I g inp (rank k) k t hg]
  refine evalTsk_congr I _ _ t fun d hd => ?_
  cases hgd : g d with
  | none =>
    have hnd : d ∉ done := fun hmem => by have := hs.2.2 d hmem; rw [hgd] at this; cases this
    rw [Store.get, hs.2.1 d hnd, run_undefined I g inp d hgd]
  | some td =>
    have hdef : (g d).isSome := by rw [hgd]; rfl
    rw [Store.get, hs.1 d (hdeps d hd hdef)]
    exact (run_stable I g inp rank hr (rank d + 1) d (Nat.lt_succ_self _) (rank k) (hr k t hg d hd hdef)).symm

theorem StoreOK.nil :
    StoreOK I g inp rank [] ([] : Store κ) :=
  ⟨fun _ h => (nomatch h), fun _ _ => rfl, fun _ h => (nomatch h)⟩

variable {I g inp rank} in
/-- publishing the canonical value of a defined key keeps the store invariant -/
theorem StoreOK.cons {done : List κ} {s : Store κ} (hs : StoreOK I g inp rank done s) {k : κ} (hk : (g k).isSome) :
    StoreOK I g inp rank (k :: done) ((k, val I g inp rank k) :: s) := by
  refine ⟨fun k' hk' => ?_, fun k' hk' => ?_, fun k' hk' => ?_⟩
  · by_cases he : k' = k
    · rw [he, List.lookup_cons_self]
    · rw [List.lookup_cons, beq_false_of_ne he]
      exact hs.1 k' ((List.mem_cons.mp hk').resolve_left he)
  · rw [List.mem_cons, not_or] at hk'
    rw [List.lookup_cons, beq_false_of_ne hk'.1]
    exact hs.2.1 k' hk'.2
  · rcases List.mem_cons.mp hk' with rfl | h
    · exact hk
    · exact hs.2.2 k' h

theorem execOrder_ok (hr : Ranked g rank) :
    ∀ (order done : List κ) (s : Store κ), StoreOK I g inp rank done s → Topo g done order →
      (∀ k ∈ order, (g k).isSome) →
      StoreOK I g inp rank (order.reverse ++ done) (execOrder I g inp order s) := by
  intro order
  induction order with
  | nil => intro done s hs _ _; exact hs
  | cons k ks ih =>
    intro done s hs ht hdef
    obtain ⟨hdeps, -, hrest⟩ := ht
    have hk := hdef k List.mem_cons_self
    cases hg : g k with
    | none => rw [hg] at hk; cases hk
    | some t =>
      simp only [execOrder, hg, List.reverse_cons, List.append_assoc, List.singleton_append]
      rw [eval_from_store I g inp rank hr done s hs k t hg (hdeps t hg)]
      exact ih (k :: done) _ (hs.cons hk) hrest (fun k' hk' => hdef k' (List.mem_cons_of_mem _ hk'))

/-- **Confluence.** Any dependency-respecting order of the graph's keys stores, for every key,
    the canonical value — hence any two such orders agree on every key. -/
theorem execOrder_val (hr : Ranked g rank) (order : List κ) (ht : Topo g [] order)
    (hdef : ∀ k ∈ order, (g k).isSome) (k : κ) (hk : k ∈ order) :
    (execOrder I g inp order []).lookup k = some (val I g inp rank k) := by
  have := execOrder_ok I g inp rank hr order [] [] (StoreOK.nil I g inp rank) ht hdef
  exact this.1 k (by simpa using hk)

end

theorem confluence {κ} [DecidableEq κ] (I : Interp) (g : Graph κ) (inp : κ → Option V)
    (rank : κ → Nat) (hr : Ranked g rank) (o₁ o₂ : List κ)
    (h₁ : Topo g [] o₁) (h₂ : Topo g [] o₂)
    (d₁ : ∀ k ∈ o₁, (g k).isSome) (d₂ : ∀ k ∈ o₂, (g k).isSome)
    (k : κ) (hk₁ : k ∈ o₁) (hk₂ : k ∈ o₂) :
    (execOrder I g inp o₁ []).lookup k = (execOrder I g inp o₂ []).lookup k := by
  rw [execOrder_val I g inp rank hr o₁ h₁ d₁ k hk₁, execOrder_val I g inp rank hr o₂ h₂ d₂ k hk₂]

/-! ### Several workers: start / finish events -/

inductive Ev (κ : Type) where
  | start (k : κ)      -- a worker picks the task up and reads its arguments from the store
  | finish (k : κ)     -- the worker publishes the result
deriving Repr

/-- State of a multi-worker run: published results and in-flight tasks with the value each
    worker computed from the arguments it read when it started. -/
structure ParState (κ : Type) where
  store : Store κ
  running : List (κ × V)

def parStep {κ} [DecidableEq κ] (I : Interp) (g : Graph κ) (inp : κ → Option V)
    (st : ParState κ) : Ev κ → ParState κ
  | .start k => match g k with
      | some t => { st with running := (k, evalTsk I (st.store.get inp) t) :: st.running }
      | none => st
  | .finish k => match st.running.lookup k with
      | some v => { store := (k, v) :: st.store, running := st.running.filter (fun p => p.1 != k) }
      | none => st

/-- A schedule is legal when a task starts only after all its in-graph dependencies were
    published, starts at most once, and finishes only after it started. -/
def LegalPar {κ} (g : Graph κ) : List κ → List κ → List (Ev κ) → Prop
  | _, _, [] => True
  | done, started, .start k :: es =>
      (∀ t, g k = some t → ∀ d ∈ t.refs, (g d).isSome → d ∈ done) ∧ k ∉ started ∧ (g k).isSome ∧
      LegalPar g done (k :: started) es
  | done, started, .finish k :: es =>
      k ∈ started ∧ k ∉ done ∧ LegalPar g (k :: done) started es

/-- `LegalPar` as a test, for concrete graphs and schedules. -/
def LegalPar.check {κ} [DecidableEq κ] (g : Graph κ) : List κ → List κ → List (Ev κ) → Bool
  | _, _, [] => true
  | done, started, .start k :: es =>
      depsIn g done k && !started.contains k && (g k).isSome && LegalPar.check g done (k :: started) es
  | done, started, .finish k :: es =>
      started.contains k && !done.contains k && LegalPar.check g (k :: done) started es

theorem LegalPar.of_check {κ} [DecidableEq κ] (g : Graph κ) :
    ∀ (es : List (Ev κ)) (done started : List κ), LegalPar.check g done started es = true →
      LegalPar g done started es
  | [], _, _, _ => trivial
  | .start k :: es, done, started, h => by
    simp only [LegalPar.check, Bool.and_eq_true, Bool.not_eq_true', List.contains_eq_mem,
      decide_eq_false_iff_not] at h
    exact ⟨depsIn_sound h.1.1.1, h.1.1.2, h.1.2, LegalPar.of_check g es _ _ h.2⟩
  | .finish k :: es, done, started, h => by
    simp only [LegalPar.check, Bool.and_eq_true, Bool.not_eq_true', List.contains_eq_mem,
      decide_eq_false_iff_not, decide_eq_true_eq] at h
    exact ⟨h.1.1, h.1.2, LegalPar.of_check g es _ _ h.2⟩

def ParOK {κ} [DecidableEq κ] (I : Interp) (g : Graph κ) (inp : κ → Option V) (rank : κ → Nat)
    (done started : List κ) (st : ParState κ) : Prop :=
  StoreOK I g inp rank done st.store ∧
  (∀ k, k ∈ started → k ∉ done → st.running.lookup k = some (val I g inp rank k)) ∧
  (∀ k, k ∈ done → k ∈ started) ∧
  (∀ k, k ∈ started → (g k).isSome)

section ParOK
variable {κ} [DecidableEq κ] {I : Interp} {g : Graph κ} {inp : κ → Option V} {rank : κ → Nat}
  {done started : List κ} {st : ParState κ}

theorem ParOK.nil : ParOK I g inp rank [] [] (⟨[], []⟩ : ParState κ) :=
  ⟨StoreOK.nil I g inp rank, fun _ h => (nomatch h), fun _ h => (nomatch h), fun _ h => (nomatch h)⟩

/-- a worker that starts `k` once its dependencies are published holds the canonical value of `k` -/
theorem ParOK.start (hr : Ranked g rank) (hok : ParOK I g inp rank done started st) {k : κ} {t : Tsk κ}
    (hg : g k = some t) (hdeps : ∀ d ∈ t.refs, (g d).isSome → d ∈ done) :
    ParOK I g inp rank done (k :: started) (parStep I g inp st (.start k)) := by
  simp only [parStep, hg, eval_from_store I g inp rank hr done st.store hok.1 k t hg hdeps]
  refine ⟨hok.1, fun k' hk' hnd => ?_, fun k' hk' => List.mem_cons_of_mem _ (hok.2.2.1 k' hk'),
    fun k' hk' => ?_⟩
  · by_cases he : k' = k
    · rw [he, List.lookup_cons_self]
    · rw [List.lookup_cons, beq_false_of_ne he]
      exact hok.2.1 k' ((List.mem_cons.mp hk').resolve_left he) hnd
  · rcases List.mem_cons.mp hk' with rfl | h
    · rw [hg]; rfl
    · exact hok.2.2.2 k' h

theorem ParOK.finish (hok : ParOK I g inp rank done started st) {k : κ} (hst : k ∈ started) (hnd : k ∉ done) :
    ParOK I g inp rank (k :: done) started (parStep I g inp st (.finish k)) := by
  simp only [parStep, hok.2.1 k hst hnd]
  refine ⟨hok.1.cons (hok.2.2.2 k hst), fun k' hk' hnd' => ?_, fun k' hk' => ?_, hok.2.2.2⟩
  · rw [List.mem_cons, not_or] at hnd'
    rw [lookup_filter_key (· != k), if_pos (bne_iff_ne.mpr hnd'.1)]
    exact hok.2.1 k' hk' hnd'.2
  · rcases List.mem_cons.mp hk' with rfl | h
    · exact hst
    · exact hok.2.2.1 k' h

variable (I g inp rank) in
/-- **Any number of workers.** Every legal start/finish schedule publishes canonical values only. -/
theorem par_ok (hr : Ranked g rank) :
    ∀ (es : List (Ev κ)) (done started : List κ) (st : ParState κ),
      ParOK I g inp rank done started st → LegalPar g done started es →
      ∃ done' started', ParOK I g inp rank done' started' (es.foldl (parStep I g inp) st) ∧
        (∀ k, k ∈ done → k ∈ done') ∧
        (∀ k, (Ev.finish k) ∈ es → k ∈ done') := by
  intro es
  induction es with
  | nil => intro done started st h _; exact ⟨done, started, h, fun _ h => h, fun _ hk => nomatch hk⟩
  | cons e es ih =>
    intro done started st hok hl
    cases e with
    | start k =>
      obtain ⟨hdeps, -, hdef, hrest⟩ := hl
      obtain ⟨t, hg⟩ := Option.isSome_iff_exists.mp hdef
      obtain ⟨d', s', h1, h2, h3⟩ := ih done (k :: started) _ (hok.start hr hg (hdeps t hg)) hrest
      refine ⟨d', s', h1, h2, fun k' hk' => h3 k' ?_⟩
      rcases List.mem_cons.mp hk' with h | h
      · cases h
      · exact h
    | finish k =>
      obtain ⟨hst, hnd, hrest⟩ := hl
      obtain ⟨d', s', h1, h2, h3⟩ := ih (k :: done) started _ (hok.finish hst hnd) hrest
      refine ⟨d', s', h1, fun k' hk' => h2 k' (List.mem_cons_of_mem _ hk'), fun k' hk' => ?_⟩
      rcases List.mem_cons.mp hk' with h | h
      · cases h; exact h2 k List.mem_cons_self
      · exact h3 k' h

end ParOK

end Dx

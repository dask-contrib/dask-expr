/-
  Cut.lean — materialization boundaries (C17).
  (1) `evalTsk` commutes with renaming keys, and so does `run` (`run_mapKeys`); the layer of an opaque graph
      imported under new output names (`FromGraph._layer`: the original layer plus alias tasks
      `(new_name, i) -> keys[i]`) is defined here, its values are C17_import_preserves / C17_alias.
  (2) Cutting a graph: `gunion`, `cutInp`, `CutOK`; that evaluating the upper part `g₂` of a graph on top of the
      *values* of the lower part `g₁` (persist / compute-then-reimport) equals evaluating the union graph is C17_cut;
      `run_congr_on` (graphs agreeing on a closed key set) also gives C17_cull_preserves.
-/
import DxModel.Plan
namespace Dx

theorem evalTsk_mapKeys {κ κ'} (I : Interp) (f : κ → κ') (ev : κ' → V) (t : Tsk κ) :
    evalTsk I ev (t.mapKeys f) = evalTsk I (fun k => ev (f k)) t := by
  have hm : ∀ ks : List κ, (ks.map f).map ev = ks.map (fun k => ev (f k)) := fun ks => List.map_map
  cases t with
  | concat ks _ | barrier ks | collect ks _ _ | apply _ ks => simp only [Tsk.mapKeys, evalTsk, hm]
  | _ => rfl

/-- `FromGraph._layer`: `dsk = dict(layer); dsk[(self._name, part)] = keys[part]` -/
def fromGraphLayer {κ} (L : Graph κ) (keys : List κ) : Graph (κ ⊕ Nat)
  | .inl k => (L k).map (fun t => t.mapKeys Sum.inl)
  | .inr i => match keys[i]? with
      | some k => some (.alias (.inl k))
      | none => none

def liftInp {κ} (inp : κ → Option V) : κ ⊕ Nat → Option V
  | .inl k => inp k
  | .inr _ => none

/-- **Embedding.** A graph `g` that sits inside `g'` under a renaming `f` of its keys evaluates there as it does
    alone, on every set `S` of keys that is closed under references (all keys, the kept keys of a cull, the keys
    below a cut). -/
theorem run_mapKeys {κ κ'} (I : Interp) (f : κ → κ') (g : Graph κ) (g' : Graph κ') (inp : κ → Option V)
    (inp' : κ' → Option V) (S : κ → Prop)
    (hg : ∀ k, S k → g' (f k) = (g k).map (fun t => t.mapKeys f))
    (hinp : ∀ k, S k → g k = none → inp' (f k) = inp k)
    (hS : ∀ k t, S k → g k = some t → ∀ d ∈ t.refs, S d) :
    ∀ n k, S k → run I g' inp' n (f k) = run I g inp n k := by
  have hnone : ∀ n k, S k → g k = none → run I g' inp' n (f k) = run I g inp n k := by
    intro n k hk h
    rw [run_undefined I g inp k h, run_undefined I g' inp' (f k) (by rw [hg k hk, h]; rfl), inpVal, inpVal,
      hinp k hk h]
  intro n
  induction n with
  | zero =>
    intro k hk
    cases h : g k with
    | none => exact hnone 0 k hk h
    | some t => simp only [run, hg k hk, h, Option.map_some]
  | succ n ih =>
    intro k hk
    cases h : g k with
    | none => exact hnone _ k hk h
    | some t =>
      rw [run_defined I g inp n k t h, run_defined I g' inp' n (f k) _ (by rw [hg k hk, h]; rfl), evalTsk_mapKeys]
      exact evalTsk_congr I _ _ t fun d hd => ih d (hS k t hk h d hd)

/-- two graphs that agree on a set `S` of keys closed under references evaluate alike on `S` -/
theorem run_congr_on {κ} (I : Interp) (g g' : Graph κ) (inp : κ → Option V) (S : κ → Prop)
    (hg : ∀ k, S k → g' k = g k) (hS : ∀ k t, S k → g k = some t → ∀ d ∈ t.refs, S d) :
    ∀ n k, S k → run I g' inp n k = run I g inp n k :=
  run_mapKeys I id g g' inp inp S
    (fun k hk => by rw [id, hg k hk, funext Tsk.mapKeys_id, Option.map_id']) (fun _ _ _ => rfl) hS

/-! ### cutting a graph -/

/-- `toolz.merge(g₁, g₂)` -/
def gunion {κ} (g₁ g₂ : Graph κ) : Graph κ := fun k =>
  match g₂ k with
  | some t => some t
  | none => g₁ k

/-- inputs seen by the upper part after the lower part was materialised -/
def cutInp {κ} (I : Interp) (g₁ : Graph κ) (inp : κ → Option V) (rank : κ → Nat) : κ → Option V := fun k =>
  match g₁ k with
  | some _ => some (run I g₁ inp (rank k + 1) k)
  | none => inp k

structure CutOK {κ} (g₁ g₂ : Graph κ) : Prop where
  disjoint : ∀ k, (g₁ k).isSome → g₂ k = none
  lower_closed : ∀ k t, g₁ k = some t → ∀ d ∈ t.refs, g₂ d = none

theorem gunion_lower {κ} (g₁ g₂ : Graph κ) (h : CutOK g₁ g₂) (k : κ) (hk : g₂ k = none) :
    gunion g₁ g₂ k = g₁ k := by simp [gunion, hk]

/-- on keys outside the upper part the union graph evaluates like the lower part alone -/
theorem run_union_lower {κ} (I : Interp) (g₁ g₂ : Graph κ) (inp : κ → Option V) (h : CutOK g₁ g₂) :
    ∀ n k, g₂ k = none → run I (gunion g₁ g₂) inp n k = run I g₁ inp n k :=
  run_congr_on I g₁ (gunion g₁ g₂) inp (fun k => g₂ k = none) (gunion_lower g₁ g₂ h)
    fun k t _ => h.lower_closed k t

end Dx

/-
  Graph.lean — key-indexed task graphs, the task language, a total evaluator.

  A graph is a *function* `κ → Option (Tsk κ)` over a layer-specific key type κ
  (look-ups are then definitional); every layer additionally lists its keys so
  that the listing can be compared with the dict the real `_layer()` returns.
-/
namespace Dx

/-- A row of a partition.  `idx` is the index value (ordered domain, embedded in Int),
    `tgt` the value of the `_partitions` column (hash(key) % npartitions_out),
    `pay` everything else. -/
structure Row where
  idx : Int
  tgt : Nat
  pay : Nat
deriving DecidableEq, Repr, Inhabited

/-- Runtime values flowing between tasks. -/
inductive V where
  | frame  (rows : List Row)
  | groups (g : List (Nat × List Row))        -- dict {int: frame} returned by shuffle_group
  | pieces (ps : List (List Row))              -- list of frames (split_evenly / tree levels)
  | unit                                       -- None (barrier, partd append)
  | err                                        -- KeyError / ill-typed / out of fuel
deriving Repr, Inhabited, DecidableEq

/-- First-order task language: one constructor per helper the real layers call. -/
inductive Tsk (κ : Type) where
  | alias (k : κ)
  | const (rows : List Row)                                    -- an embedded literal frame (meta)
  | concat (ks : List κ) (ignoreIndex : Bool)                  -- _concat / methods.concat
  | getitem (k : κ) (i : Nat)                                  -- operator.getitem on a dict
  | shuffleGroup (k : κ) (filter : Option (List Nat)) (stage nsplit nin nfinal : Nat)
  | shuffleGroup2 (k : κ) (nfinal : Nat)
  | shuffleGroupGet (k : κ) (i : Nat)
  | boundarySlice (k : κ) (lo hi : Int) (incl : Bool)          -- boundary_slice(df, lo, hi, right_boundary=incl)
  | splitEvenly (k : κ) (n : Nat)                              -- split_evenly(df, n) -> dict
  | pieceOf (k : κ) (i : Nat)                                  -- getitem on split_evenly output
  | diskWrite (k : κ) (filter : List Nat)                      -- DiskShuffle._shuffle_group (returns None)
  | barrier (ks : List κ)
  | collect (ks : List κ) (part : Nat) (barrier : κ)           -- partd collect: all rows written with tgt = part
  | apply (f : Nat) (args : List κ)                            -- uninterpreted n-ary function on frames
deriving Repr

namespace Tsk
/-- Keys a task reads. -/
def refs {κ} : Tsk κ → List κ
  | .alias k => [k]
  | .const _ => []
  | .concat ks _ => ks
  | .getitem k _ => [k]
  | .shuffleGroup k _ _ _ _ _ => [k]
  | .shuffleGroup2 k _ => [k]
  | .shuffleGroupGet k _ => [k]
  | .boundarySlice k _ _ _ => [k]
  | .splitEvenly k _ => [k]
  | .pieceOf k _ => [k]
  | .diskWrite k _ => [k]
  | .barrier ks => ks
  | .collect ks _ b => b :: ks
  | .apply _ args => args
end Tsk

abbrev Graph (κ : Type) := κ → Option (Tsk κ)

/-! ### Specifications of the helper functions (the boundary of the proof; validated by T4) -/

def concatV : List V → V
  | [] => .frame []
  | .frame r :: t => match concatV t with
      | .frame rs => .frame (r ++ rs)
      | _ => .err
  | _ :: _ => .err

/-- stage digit of a row: `(ind % npartitions) // k**stage % k` -/
def stageDigit (nin k stage : Nat) (r : Row) : Nat := (r.tgt % nin) / k ^ stage % k

/-- `SimpleShuffle._shuffle_group`: dict over `range k`, restricted to `filter` -/
def shuffleGroupSpec (rows : List Row) (filter : Option (List Nat)) (stage k nin : Nat) :
    List (Nat × List Row) :=
  let ks := (List.range k).filter (fun c => match filter with | none => true | some f => f.contains c)
  ks.map (fun c => (c, rows.filter (fun r => stageDigit nin k stage r == c)))

def lookupG : List (Nat × List Row) → Nat → V
  | [], _ => .err                      -- KeyError
  | (k, rows) :: t, i => if k = i then .frame rows else lookupG t i

/-- `shuffle_group_get(shuffle_group_2(df), i)`: the rows whose `_partitions` value is `i`
    (an absent group yields the empty head). -/
def group2Get (rows : List Row) (i : Nat) : List Row := rows.filter (fun r => r.tgt == i)

/-- `boundary_slice(df, lo, hi, right_boundary=incl)` on a frame (no sortedness assumed:
    the real helper uses `.loc[lo:hi]` on a monotonic index, which selects exactly these rows;
    T4 validates this on sorted inputs, the only ones the planner produces). -/
def boundarySliceSpec (rows : List Row) (lo hi : Int) (incl : Bool) : List Row :=
  rows.filter (fun r => decide (lo ≤ r.idx) && (decide (r.idx < hi) || (incl && decide (r.idx = hi))))

/-- `split_evenly(df, n)`: piece `i` is rows `[⌊len*i/n⌋, ⌊len*(i+1)/n⌋)` -/
def splitEvenlySpec (rows : List Row) (n : Nat) : List (List Row) :=
  (List.range n).map (fun i =>
    (rows.drop (rows.length * i / n)).take (rows.length * (i+1) / n - rows.length * i / n))

def nthPiece : List (List Row) → Nat → V
  | [], _ => .err
  | p :: _, 0 => .frame p
  | _ :: t, i+1 => nthPiece t i

/-- Interpretation of the uninterpreted functions `apply f`. -/
abbrev Interp := Nat → List V → V

def allFrames : List V → Option (List (List Row))
  | [] => some []
  | .frame r :: t => match allFrames t with
      | some rs => some (r :: rs)
      | none => none
  | _ :: _ => none

/-- Evaluate one task given the values of the keys it refers to. -/
def evalTsk {κ} (I : Interp) (ev : κ → V) : Tsk κ → V
  | .alias k => ev k
  | .const rows => .frame rows
  | .concat ks _ => concatV (ks.map ev)
  | .getitem k i => match ev k with
      | .groups g => lookupG g i
      | _ => .err
  | .shuffleGroup k f stage nsplit nin _ => match ev k with
      | .frame rows => .groups (shuffleGroupSpec rows f stage nsplit nin)
      | _ => .err
  | .shuffleGroup2 k _ => match ev k with
      | .frame rows => .frame rows        -- grouping is deferred to shuffleGroupGet (dict + empty head)
      | _ => .err
  | .shuffleGroupGet k i => match ev k with
      | .frame rows => .frame (group2Get rows i)
      | _ => .err
  | .boundarySlice k lo hi incl => match ev k with
      | .frame rows => .frame (boundarySliceSpec rows lo hi incl)
      | _ => .err
  | .splitEvenly k n => match ev k with
      | .frame rows => .pieces (splitEvenlySpec rows n)
      | _ => .err
  | .pieceOf k i => match ev k with
      | .pieces ps => nthPiece ps i
      | _ => .err
  | .diskWrite k _ => match ev k with
      | .frame _ => .unit
      | _ => .err
  | .barrier ks => if (ks.map ev).all (fun v => v == .unit) then .unit else .err
  | .collect ks part b => match ev b with
      | .unit => (match concatV (ks.map ev) with
          | .frame rows => .frame (group2Get rows part)
          | _ => .err)
      | _ => .err
  | .apply f args => I f (args.map ev)

def inpVal {κ} (inp : κ → Option V) (k : κ) : V :=
  match inp k with
  | some v => v
  | none => .err

/-- Fuel-indexed total evaluator.  `inp` gives the values of keys the graph does not define
    (outputs of dependencies); a key defined nowhere evaluates to `err` (KeyError). -/
def run {κ} (I : Interp) (g : Graph κ) (inp : κ → Option V) : Nat → κ → V
  | 0, k => match g k with
      | some _ => .err
      | none => inpVal inp k
  | fuel+1, k => match g k with
      | some t => evalTsk I (run I g inp fuel) t
      | none => inpVal inp k

/-! ### Well-formedness of graphs -/

/-- Every key referenced by a defined task is defined in the graph or is an input. -/
def Closed {κ} (g : Graph κ) (inp : κ → Option V) : Prop :=
  ∀ k t, g k = some t → ∀ d ∈ t.refs, (g d).isSome ∨ (inp d).isSome

/-- A rank function strictly decreasing along references inside the graph (⇒ acyclic). -/
def Ranked {κ} (g : Graph κ) (rank : κ → Nat) : Prop :=
  ∀ k t, g k = some t → ∀ d ∈ t.refs, (g d).isSome → rank d < rank k

/-- `evalTsk` only looks at the values of `refs`. -/
theorem evalTsk_congr {κ} (I : Interp) (ev₁ ev₂ : κ → V) (t : Tsk κ)
    (h : ∀ d ∈ t.refs, ev₁ d = ev₂ d) : evalTsk I ev₁ t = evalTsk I ev₂ t := by
  have hm : ∀ ks : List κ, (∀ d ∈ ks, ev₁ d = ev₂ d) → ks.map ev₁ = ks.map ev₂ :=
    fun ks hk => List.map_congr_left hk
  cases t with
  | const r => rfl
  | concat ks _ | barrier ks | apply _ ks => simp only [evalTsk, hm ks h]
  | collect ks p b =>
    simp only [evalTsk, h b List.mem_cons_self, hm ks fun d hd => h d (List.mem_cons_of_mem _ hd)]
  | alias k | getitem k _ | shuffleGroup k _ _ _ _ _ | shuffleGroup2 k _ | shuffleGroupGet k _
  | boundarySlice k _ _ _ | splitEvenly k _ | pieceOf k _ | diskWrite k _ =>
    simp only [evalTsk, h k List.mem_cons_self]

theorem run_succ {κ} (I : Interp) (g : Graph κ) (inp : κ → Option V) (n : Nat) (k : κ) :
    run I g inp (n+1) k =
      (match g k with
        | some t => evalTsk I (run I g inp n) t
        | none => inpVal inp k) := by
  simp only [run]

theorem run_defined {κ} (I : Interp) (g : Graph κ) (inp : κ → Option V) (n : Nat) (k : κ) (t : Tsk κ)
    (h : g k = some t) : run I g inp (n+1) k = evalTsk I (run I g inp n) t := by
  simp only [run, h]

theorem run_undefined {κ} (I : Interp) (g : Graph κ) (inp : κ → Option V) (k : κ) (h : g k = none) :
    ∀ n, run I g inp n k = inpVal inp k := by
  intro n; cases n <;> simp [run, h]

theorem run_input {κ} (I : Interp) (g : Graph κ) (inp : κ → Option V) (k : κ) (v : V) (hg : g k = none)
    (hv : inp k = some v) (n : Nat) : run I g inp n k = v := by
  rw [run_undefined I g inp k hg n, inpVal, hv]

theorem nthPiece_getElem? (l : List (List Row)) (i : Nat) :
    nthPiece l i = (match l[i]? with | some p => .frame p | none => .err) := by
  induction l generalizing i with
  | nil => rfl
  | cons p t ih =>
    cases i with
    | zero => rfl
    | succ i => exact ih i

theorem nthPiece_map_range (f : Nat → List Row) (n j : Nat) (hj : j < n) :
    nthPiece ((List.range n).map f) j = .frame (f j) := by
  rw [nthPiece_getElem?, List.getElem?_map, List.getElem?_range hj]
  rfl

theorem concatV_map_frames {α} (l : List α) (v : α → V) (f : α → List Row)
    (h : ∀ a ∈ l, v a = .frame (f a)) : concatV (l.map v) = .frame (l.flatMap f) := by
  induction l with
  | nil => rfl
  | cons a t ih =>
    simp only [List.map_cons, List.flatMap_cons, concatV, h a List.mem_cons_self,
      ih fun b hb => h b (List.mem_cons_of_mem _ hb)]

/-- With enough fuel the value of a key no longer depends on the fuel:
    the value is a function of the graph and its inputs only. -/
theorem run_stable {κ} (I : Interp) (g : Graph κ) (inp : κ → Option V) (rank : κ → Nat)
    (hr : Ranked g rank) :
    ∀ (n : Nat) (k : κ), rank k < n → ∀ m, n ≤ m → run I g inp m k = run I g inp n k := by
  intro n
  induction n with
  | zero => intro k hk; exact absurd hk (Nat.not_lt_zero _)
  | succ n ih =>
    intro k hk m hm
    obtain ⟨m', rfl⟩ : ∃ m', m = m' + 1 := ⟨m - 1, (Nat.sub_add_cancel (Nat.le_trans (Nat.succ_pos n) hm)).symm⟩
    cases hg : g k with
    | none => rw [run_undefined I g inp k hg, run_undefined I g inp k hg]
    | some t =>
      rw [run_defined I g inp m' k t hg, run_defined I g inp n k t hg]
      refine evalTsk_congr I _ _ t fun d hd => ?_
      cases hgd : g d with
      | none => rw [run_undefined I g inp d hgd, run_undefined I g inp d hgd]
      | some td =>
        exact ih d (Nat.lt_of_lt_of_le (hr k t hg d hd (by rw [hgd]; rfl)) (Nat.le_of_lt_succ hk)) m'
          (Nat.le_of_succ_le_succ hm)

/-- For a graph over `Nat` keys that defines nothing from `N` on, a test `p` of every reference of every key
    below `N` holds of every reference of every task (how the example graphs are checked). -/
theorem Tsk.refs_all_of_range {κ} (g : Nat → Option (Tsk κ)) (N : Nat) (hN : ∀ k, g (k + N) = none)
    (p : Nat → κ → Bool)
    (h : (List.range N).all (fun k => match g k with | some t => t.refs.all (p k) | none => true) = true) :
    ∀ k t, g k = some t → ∀ d ∈ t.refs, p k d = true := by
  intro k t hg d hd
  have hk : k < N := by
    apply Nat.lt_of_not_le
    intro hle
    have := hN (k - N)
    rw [Nat.sub_add_cancel hle, hg] at this
    cases this
  have := List.all_eq_true.mp h k (List.mem_range.mpr hk)
  rw [hg] at this
  exact List.all_eq_true.mp this d hd

end Dx

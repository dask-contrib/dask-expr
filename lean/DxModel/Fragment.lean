/-
  DxModel/Fragment.lean — a concrete instance of the C01 expression model for a fragment of real classes, with
  a denotation and the rule system the real classes have (property C01).  Mathlib-free.

  Classes (the class code of `Expr.node`):

      0 SRC      io.FromPandas            operands: the pandas frame (table id + its labels), `columns` (None | list)
      1 PROJ     Projection               `columns`: a list or one scalar label
      2 ELEM     Abs, Neg, Pos, Invert    elementwise unary, pushed through by `plain_column_projection`
      3 BINK     Add/Sub/…/GT/LT/…(x, k)  Binop whose right operand is a python scalar
      4 BIN      Add/…/And/Or(x, y)       Binop of two expressions over the same frame (op 0 = And, 1 = Or)
      5 ASSIGN   Assign                   keys; operands: frame, then one Series expression per key
      6 RENAME   RenameFrame              a dict mapping
      7 FILTER   Filter                   operands: frame, predicate (a boolean Series expression)
      8 MERGE    Merge                    how, left_on, right_on, suffixes (column keys, no index join)
      9 CONCAT   Concat (axis=0)          join = outer | inner

  The non-expression operands are the literal `lit : Nat` of Expr.lean: a sentence (list of words, a word = list of
  naturals: a label is the word of its characters) coded as one natural number (`encS` / `decS`, inverse of each
  other for every sentence).

  Rules (`fragRules`): `_simplify_down` of Projection and Assign, `_simplify_up` of every class above, DEFINED by
  the rule functions of DxModel/Cols.lean (`ioAbsorb`, `plain`, `binop`, `assign`, `rename`, `filterRule`, `merge`,
  `concat`, `projDown`, `detProj` inside them with the dependents' columns) and `Pred.rewriteFilters`, followed by
  the re-assembly the real method does (`type(parent)(type(self)(self.frame[cols], …), *parent.operands[1:])`, the
  parent kept or dropped).  Not in the rule system (the model returns `none` where the real method may fire):
  squashing two consecutive Filters, Filter push-down into a Merge, and the Projection branch of a Filter whose
  frame is a Filter or a Merge (its guard needs `is_filter_pushdown_available`); `_lower`, `_tune_*`, fusion.

  Denotation: `fragP I : PSem (FVal γ)` — partial (an ill-formed expression denotes nothing), over abstract
  columns `γ` and an interpretation `I` of the column-level operations (what pandas does to the rows).
  Definedness is decided on the labels alone (`schOp` / `schemaOf`, tied to the real `columns` / `ndim`): labels
  present and duplicate-free; Binop of two frames only with equal label lists (D39); Merge only with `mergeOK`
  (keys are columns, no key / non-key collision across the sides — D34 —, duplicate-free result labels); a row-wise
  Concat needs an input with columns and, for join="inner", columns in every input (`Concat._meta` leaves inputs
  without columns out when it declares the labels).
-/
import DxModel.Drivers
import DxModel.Lemmas.DriversSem
import DxModel.Cols
import DxModel.Lemmas.ColsRules
import DxModel.Pred
namespace Dx.Frag
open Dx Dx.Cols

/-! ## 1. literals: sentences as natural numbers -/

/-- number of trailing zero bits of `n` (at most `fuel`) -/
def tz : Nat → Nat → Nat
  | 0, _ => 0
  | f + 1, n => if n % 2 = 1 then 0 else 1 + tz f (n / 2)

/-- `[a, b, …] ↦ 2^a · (2 · code [b, …] + 1)`, `[] ↦ 0` -/
def encL : List Nat → Nat
  | [] => 0
  | a :: t => 2 ^ a * (2 * encL t + 1)

def decL : Nat → Nat → List Nat
  | 0, _ => []
  | f + 1, n => if n = 0 then [] else (tz n n) :: decL f (n / 2 ^ (tz n n) / 2)

abbrev Sentence := List (List Nat)

/-- words shifted by one and terminated by 0 -/
def flatW : Sentence → List Nat
  | [] => []
  | w :: ws => w.map (· + 1) ++ 0 :: flatW ws

def splitW : List Nat → Sentence
  | [] => []
  | 0 :: t => [] :: splitW t
  | (a + 1) :: t => match splitW t with
    | [] => [[a]]
    | w :: ws => (a :: w) :: ws

def encS (s : Sentence) : Nat := encL (flatW s)
def decS (n : Nat) : Sentence := splitW (decL n n)

def wName (s : Name) : List Nat := s.toList.map Char.toNat
def nameW (w : List Nat) : Name := String.ofList (w.map Char.ofNat)

/-! ## 2. classes and their non-expression operands -/

/-- operands of FromPandas: which table, the labels of the pandas frame, the `columns` operand -/
structure SrcLit where
  tid : Nat
  full : List Name
  cols : Option (List Name)
deriving DecidableEq, Repr

/-- class + non-expression operands of a node -/
inductive Op where
  | src (l : SrcLit)
  | proj (sel : Sel)
  | elem (op : Nat)
  | bink (op k : Nat)
  | bin (op : Nat)
  | assign (keys : List Name)
  | rename (m : List (Name × Name))
  | filter
  | merge (how : Nat) (m : MergeP)
  | concat (inner : Bool)
  | bad
deriving DecidableEq, Repr

/-- class codes of And / Or among the binary operators -/
def opAnd : Nat := 0
def opOr : Nat := 1

def pairsOf : List Name → List (Name × Name)
  | k :: v :: t => (k, v) :: pairsOf t
  | _ => []

def unpairs : List (Name × Name) → List Name
  | [] => []
  | kv :: t => kv.1 :: kv.2 :: unpairs t

def Op.cls : Op → Nat
  | .src _ => 0
  | .proj _ => 1
  | .elem _ => 2
  | .bink _ _ => 3
  | .bin _ => 4
  | .assign _ => 5
  | .rename _ => 6
  | .filter => 7
  | .merge _ _ => 8
  | .concat _ => 9
  | .bad => 10

def Op.sent : Op → Sentence
  | .src l => [l.tid] :: [l.full.length] :: (l.full.map wName ++
      (match l.cols with
       | none => [[0]]
       | some cs => [1] :: cs.map wName))
  | .proj (.one c) => [[0], wName c]
  | .proj (.many cs) => [1] :: cs.map wName
  | .elem op => [[op]]
  | .bink op k => [[op], [k]]
  | .bin op => [[op]]
  | .assign keys => keys.map wName
  | .rename m => (unpairs m).map wName
  | .filter => []
  | .merge how m => [how] :: [m.leftOn.length] :: [m.rightOn.length] ::
      (m.leftOn.map wName ++ (m.rightOn.map wName ++ [wName m.ls, wName m.rs]))
  | .concat inner => [[if inner then 1 else 0]]
  | .bad => []

def srcOfSent : Sentence → Op
  | [tid] :: [n] :: rest =>
    match rest.drop n with
    | [[0]] => .src ⟨tid, (rest.take n).map nameW, none⟩
    | [1] :: cs => .src ⟨tid, (rest.take n).map nameW, some (cs.map nameW)⟩
    | _ => .bad
  | _ => .bad

def mergeOfSent : Sentence → Op
  | [how] :: [nl] :: [nr] :: rest =>
    match (rest.drop nl).drop nr with
    | [ls, rs] => .merge how ⟨(rest.take nl).map nameW, ((rest.drop nl).take nr).map nameW, nameW ls, nameW rs⟩
    | _ => .bad
  | _ => .bad

def opOfSent (c : Nat) (s : Sentence) : Op :=
  match c with
  | 0 => srcOfSent s
  | 1 => match s with
    | [[0], w] => .proj (.one (nameW w))
    | [1] :: ws => .proj (.many (ws.map nameW))
    | _ => .bad
  | 2 => match s with
    | [[op]] => .elem op
    | _ => .bad
  | 3 => match s with
    | [[op], [k]] => .bink op k
    | _ => .bad
  | 4 => match s with
    | [[op]] => .bin op
    | _ => .bad
  | 5 => .assign (s.map nameW)
  | 6 => .rename (pairsOf (s.map nameW))
  | 7 => .filter
  | 8 => mergeOfSent s
  | 9 => match s with
    | [[0]] => .concat false
    | [[1]] => .concat true
    | _ => .bad
  | _ => .bad

/-- `type(e)` and the non-expression operands of a node -/
def opOf (c l : Nat) : Op := opOfSent c (decS l)

def Op.lit (o : Op) : Nat := encS o.sent

/-- `cls(*operands)` -/
def mk (o : Op) (args : List Expr) : Expr := .node o.cls o.lit args

end Dx.Frag

namespace Dx.Expr
/-- the class view of a node -/
def op (e : Expr) : Dx.Frag.Op := Dx.Frag.opOf e.cls e.lit
end Dx.Expr

namespace Dx.Frag
open Dx Dx.Cols

/-! ## 3. values and the interpretation of the column-level operations -/

/-- labels and `ndim == 1` -/
structure Schema where
  cols : List Name
  ser : Bool
deriving DecidableEq, Repr

/-- a frame, or a Series (`ser`: one column, labelled by the name of the Series) -/
structure FVal (γ : Type) where
  fr : Frame γ
  ser : Bool

def FVal.sch {γ : Type} (v : FVal γ) : Schema := ⟨v.fr.cols, v.ser⟩

/-- what pandas does to the rows, column by column.  `γ` = a column, `ι` = a row position. -/
structure Interp (γ ι : Type) where
  /-- the data of source table `t` -/
  data : Nat → Name → Option γ
  /-- the column a Series expression contributes when it has none -/
  nul : γ
  /-- `abs`, `-x`, … by operator code -/
  un : Nat → γ → γ
  /-- `x <op> k` for a python scalar `k` -/
  bink : Nat → Nat → γ → γ
  /-- `x <op> y`; op 0 = `&`, 1 = `|` -/
  bin : Nat → γ → γ → γ
  /-- `x[m]`: the rows of `x` at which the boolean column `m` holds -/
  mask : γ → γ → γ
  /-- a left / right column in the result of a join: decided by how, the key columns of both sides, the column -/
  joinL : Nat → List (Option γ) → List (Option γ) → γ → γ
  joinR : Nat → List (Option γ) → List (Option γ) → γ → γ
  /-- stacking the blocks of one label (`none`: that input has no such column) -/
  stack : List (Option γ) → Option γ
  /-- truth value of a boolean column at a row -/
  bit : γ → ι → Bool

variable {γ ι : Type}

def subsetB (a b : List Name) : Bool := a.all (b.contains ·)

/-- labels of `assign(df, k1, v1, …)`: the frame's, then the new keys in first-occurrence order -/
def assignCols (keys frame : List Name) : List Name := assignLabels frame keys

/-- the name of a Series; only read for schemas with `ser = true`, which have exactly one label -/
def Schema.name (s : Schema) : Name := s.cols.headD ""

/-- decidable form of `KeysDoNotCollide` + what `pd.merge` itself asks for -/
def mergeOK (m : MergeP) (L R : List Name) : Bool :=
  subsetB m.leftOn L && subsetB m.rightOn R &&
  m.leftOn.all (fun c => !R.contains c || commonKey m c) &&
  m.rightOn.all (fun c => !L.contains c || commonKey m c) &&
  decide (mergeLabels m L R).Nodup

/-- labels / ndim of a node from those of its operands; `none`: not a well-formed expression of the fragment -/
def schOp : Op → List Schema → Option Schema
  | .src l, [] =>
    let cols := l.cols.getD l.full
    if decide l.full.Nodup && decide cols.Nodup && subsetB cols l.full then some ⟨cols, false⟩ else none
  | .proj (.many cs), [s] =>
    if !s.ser && decide cs.Nodup && subsetB cs s.cols then some ⟨cs, false⟩ else none
  | .proj (.one c), [s] => if !s.ser && s.cols.contains c then some ⟨[c], true⟩ else none
  | .elem _, [s] => some s
  | .bink _ _, [s] => some s
  | .bin _, [a, b] =>
    if a.ser && b.ser then some ⟨[if a.name = b.name then a.name else ""], true⟩
    else if !a.ser && !b.ser && decide (a.cols = b.cols) then some ⟨a.cols, false⟩
    else none
  | .assign keys, s :: vs =>
    if !s.ser && vs.all (·.ser) && keys.length == vs.length then
      some ⟨assignCols keys s.cols, false⟩
    else none
  | .rename m, [s] =>
    if !s.ser && decide (m.map (·.1)).Nodup && decide (s.cols.map (renameFwd m)).Nodup then
      some ⟨s.cols.map (renameFwd m), false⟩
    else none
  | .filter, [s, p] => if p.ser then some s else none
  | .merge how m, [a, b] =>
    if !a.ser && !b.ser && decide (how < 4) && mergeOK m a.cols b.cols then some ⟨mergeLabels m a.cols b.cols, false⟩
    else none
  | .concat inner, s :: ss =>
    -- `Concat._meta` leaves inputs without columns out when it declares the labels; with join="inner" that is not
    -- the intersection any more: such a query is outside the fragment
    if (s :: ss).all (fun x => !x.ser) && (!inner || (s :: ss).all (fun x => !x.cols.isEmpty)) &&
        (s :: ss).any (fun x => !x.cols.isEmpty) then
      some ⟨concatCols false inner ((s :: ss).map (·.cols)), false⟩
    else none
  | _, _ => none

/-- the column of a Series value; the two defaults are never read for a value `schOp` accepted as a Series (one label,
    its column defined) -/
def FVal.col (I : Interp γ ι) (v : FVal γ) : γ := (v.fr.val (v.fr.cols.headD "")).getD I.nul

/-- an elementwise operation: every column on its own -/
def mapFrame (f : γ → γ) (F : Frame γ) : Frame γ :=
  ⟨F.cols, fun c => if F.cols.contains c then (F.val c).map f else none⟩

def srcFrame (I : Interp γ ι) (l : SrcLit) (cs : List Name) : Frame γ :=
  ⟨cs, fun c => if cs.contains c then I.data l.tid c else none⟩

def bin2 (g : γ → γ → γ) : Option γ → Option γ → Option γ
  | some x, some y => some (g x y)
  | _, _ => none

/-- two frames with the same labels, column by column -/
def binFrame (g : γ → γ → γ) (A B : Frame γ) : Frame γ :=
  ⟨A.cols, fun c => bin2 g (if A.cols.contains c then A.val c else none) (if B.cols.contains c then B.val c else none)⟩

/-- the one-column frame of a Series result (Binop of two Series) -/
def serFrame (name : Name) (x : γ) : Frame γ := ⟨[name], fun c => if [name].contains c then some x else none⟩

def assignFrame (kv : List (Name × γ)) (F : Frame γ) : Frame γ :=
  ⟨assignCols (kv.map (·.1)) F.cols, fun c =>
    if (assignCols (kv.map (·.1)) F.cols).contains c then
      (if (kv.map (·.1)).contains c then (kv.reverse.find? (fun e => e.1 == c)).map (·.2) else F.val c)
    else none⟩

def renameFrame (m : List (Name × Name)) (F : Frame γ) : Frame γ :=
  ⟨F.cols.map (renameFwd m), fun c' => match F.cols.find? (fun c => renameFwd m c == c') with
    | some c => F.val c
    | none => none⟩

def mergeFrame (I : Interp γ ι) (how : Nat) (m : MergeP) (A B : Frame γ) : Frame γ :=
  ⟨mergeLabels m A.cols B.cols, fun l =>
    match A.cols.find? (fun c => labelL m B.cols c == l) with
    | some c => (A.val c).map (I.joinL how (m.leftOn.map A.val) (m.rightOn.map B.val))
    | none => match (B.cols.filter (fun c => !commonKey m c)).find? (fun c => labelR m A.cols c == l) with
      | some c => (B.val c).map (I.joinR how (m.leftOn.map A.val) (m.rightOn.map B.val))
      | none => none⟩

/-- the stacked column of label `c`, whether or not it is a label of the result -/
def concatRaw (I : Interp γ ι) (cols : List Name) (Fs : List (Frame γ)) : Frame γ :=
  ⟨cols, fun c => I.stack (Fs.map (fun F => if F.cols.contains c then F.val c else none))⟩

def concatFrame (I : Interp γ ι) (inner : Bool) (Fs : List (Frame γ)) : Frame γ :=
  (concatRaw I (concatCols false inner (Fs.map (·.cols))) Fs).select (concatCols false inner (Fs.map (·.cols)))

/-- the frame a node computes from the values of its operands (used when `schOp` accepts the node) -/
def frameOp (I : Interp γ ι) : Op → List (FVal γ) → Frame γ
  | .src l, _ => srcFrame I l (l.cols.getD l.full)
  | .proj sel, [F] => F.fr.select sel.toList
  | .elem op, [F] => mapFrame (I.un op) F.fr
  | .bink op k, [F] => mapFrame (I.bink op k) F.fr
  | .bin op, [A, B] =>
    if A.ser then serFrame (if A.sch.name = B.sch.name then A.sch.name else "") (I.bin op (A.col I) (B.col I))
    else binFrame (I.bin op) A.fr B.fr
  | .assign keys, F :: vs => assignFrame (keys.zip (vs.map (FVal.col I))) F.fr
  | .rename m, [F] => renameFrame m F.fr
  | .filter, [F, P] => mapFrame (I.mask (P.col I)) F.fr
  | .merge how m, [A, B] => mergeFrame I how m A.fr B.fr
  | .concat inner, Fs => concatFrame I inner (Fs.map (·.fr))
  | _, _ => ⟨[], fun _ => none⟩

/-- value of a node: defined exactly when its labels are (`schOp`); the labels are those of `schOp`, the columns
    those of `frameOp` (the selection only normalises: no column outside the labels) -/
def semOp (I : Interp γ ι) (o : Op) (vs : List (FVal γ)) : Option (FVal γ) :=
  match schOp o (vs.map FVal.sch) with
  | some s => some ⟨(frameOp I o vs).select s.cols, s.ser⟩
  | none => none

theorem forall2_eq {α : Type} {vs ws : List α} (h : Forall2 Eq vs ws) : vs = ws := by
  induction h with
  | nil => rfl
  | cons h _ ih => rw [h, ih]

/-- **the denotation of the fragment**: partial, values compared by equality -/
def fragP (I : Interp γ ι) : PSem (FVal γ) where
  psem := fun c l vs => semOp I (opOf c l) vs
  eqv := Eq
  refl := fun _ => rfl
  symm := Eq.symm
  trans := Eq.trans
  congr := by
    intro c l vs ws v h hv
    rw [forall2_eq h]
    exact ⟨v, hv, rfl⟩

/-- the same on labels only: `expr.columns`, `expr.ndim` -/
def schP : PSem Schema where
  psem := fun c l ss => schOp (opOf c l) ss
  eqv := Eq
  refl := fun _ => rfl
  symm := Eq.symm
  trans := Eq.trans
  congr := by
    intro c l vs ws v h hv
    rw [forall2_eq h]
    exact ⟨v, hv, rfl⟩

/-- `(e.columns, e.ndim == 1)`; `none` for an ill-formed expression (the real property raises) -/
def schemaOf (e : Expr) : Option Schema := denoteP schP e

/-! ## 4. the rules -/

/-- `_projection_columns` and `ndim == 1` of one dependent -/
def depOf (q : Expr) : Dep :=
  match schemaOf q with
  | some s => ⟨s.cols, s.ser⟩
  | none => ⟨[], false⟩

/-- what `determine_column_projection` reads from `dependents[c._name]` -/
def depsOf (d : Deps) (c : Expr) : List Dep := (d.of c).map depOf

def parentOf : Sel → Parent
  | .many cs => .list cs
  | .one c => .scalar c

/-- `isinstance(parent, Projection)` with `c` as its frame: the `columns` operand -/
def projOver (p c : Expr) : Option Sel :=
  match p.op, p.args with
  | .proj sel, [x] => if x == c then some sel else none
  | _, _ => none

/-- `x[s]` -/
def proj (s : Sel) (x : Expr) : Expr := mk (.proj s) [x]

/-- the parent's projection re-applied, or dropped -/
def reproj (keep : Bool) (sel : Sel) (e : Expr) : Expr := if keep then proj sel e else e

/-- an operand wrapped into a projection, or left untouched -/
def selOpt (o : Option Sel) (x : Expr) : Expr :=
  match o with
  | some s => proj s x
  | none => x

mutual
/-- `e.substitute(old, new)` -/
def subst (old new : Expr) : Expr → Expr
  | .node c l as => if Expr.node c l as == old then new else .node c l (substL old new as)
def substL (old new : Expr) : List Expr → List Expr
  | [] => []
  | a :: t => subst old new a :: substL old new t
end

mutual
/-- the predicate tree `rewrite_filters` sees: `And` / `Or` nodes, everything else is a component -/
def toT : Expr → Pred.T Expr
  | .node c l as =>
    match opOf c l, toTs as with
    | .bin 0, [a, b] => .and a b
    | .bin 1, [a, b] => .or a b
    | _, _ => .atom (.node c l as)
def toTs : List Expr → List (Pred.T Expr)
  | [] => []
  | a :: t => toT a :: toTs t
end

def ofT : Pred.T Expr → Expr
  | .atom e => e
  | .and a b => mk (.bin opAnd) [ofT a, ofT b]
  | .or a b => mk (.bin opOr) [ofT a, ofT b]
  | .not a => ofT a

/-- `isinstance(predicate, Or)` and `rewrite_filters(predicate)._name != predicate._name` -/
def orRewrite (q : Expr) : Option Expr :=
  match q.op with
  | .bin 1 =>
    let t := toT q
    let r := Pred.rewriteFilters t
    if r != t then some (ofT r) else none
  | _ => none

/-- BlockwiseIO._simplify_up (FromPandas: `_absorb_projections`) -/
def upSrc (l : SrcLit) (c p : Expr) (d : Deps) : Option Expr :=
  match projOver p c, schemaOf c with
  | some sel, some s =>
    if s.ser then none
    else match ioAbsorb s.cols (parentOf sel) (depsOf d c) with
      | some rw => match rw.childs with
        | [some (.many proposed)] => some (reproj rw.keep sel (mk (.src { l with cols := some proposed }) []))
        | _ => none
      | none => none
  | _, _ => none

/-- Blockwise._simplify_up with `_projection_passthrough`, Unaryop._simplify_up: `plain_column_projection` -/
def upElem (op : Nat) (x c p : Expr) (d : Deps) : Option Expr :=
  match projOver p c, schemaOf x with
  | some sel, some sx =>
    if sx.ser then none
    else match plain sx.cols (parentOf sel) (depsOf d c) with
      | some rw => match rw.childs with
        | [some cu] => some (reproj rw.keep sel (mk (.elem op) [proj cu x]))
        | _ => none
      | none => none
  | _, _ => none

/-- Binop._simplify_up, right operand a python scalar -/
def upBinK (op k : Nat) (x c p : Expr) (d : Deps) : Option Expr :=
  match projOver p c, schemaOf x with
  | some sel, some sx =>
    if sx.ser then none
    else match binop sx.cols (some sx.cols) none (parentOf sel) (depsOf d c) with
      | some rw => match rw.childs with
        | [l, _] => some (proj sel (mk (.bink op k) [selOpt l x]))
        | _ => none
      | none => none
  | _, _ => none

/-- Binop._simplify_up, two expression operands -/
def upBin (op : Nat) (a b c p : Expr) (d : Deps) : Option Expr :=
  match projOver p c, schemaOf a, schemaOf b, schemaOf c with
  | some sel, some sa, some sb, some sc =>
    if sc.ser then none
    else match binop sc.cols (if sa.ser then none else some sa.cols) (if sb.ser then none else some sb.cols)
        (parentOf sel) (depsOf d c) with
      | some rw => match rw.childs with
        | [l, r] => some (proj sel (mk (.bin op) [selOpt l a, selOpt r b]))
        | _ => none
      | none => none
  | _, _, _, _ => none

/-- Assign._simplify_up -/
def upAssign (keys : List Name) (x : Expr) (vals : List Expr) (c p : Expr) (d : Deps) : Option Expr :=
  match projOver p c, schemaOf x with
  | some sel, some sx =>
    match assign sx.cols keys (parentOf sel) (depsOf d c) with
    | some rw =>
      if rw.gone then some (proj sel x)
      else match rw.childs, rw.keys with
        | [some cs], some newKeys =>
          let kv := (keys.zip vals).filter (fun e => newKeys.contains e.1)
          some (proj sel (mk (.assign (kv.map (·.1))) (proj cs x :: kv.map (·.2))))
        | _, _ => none
    | none => none
  | _, _ => none

/-- RenameFrame._simplify_up (dict mapping) -/
def upRename (m : List (Name × Name)) (x c p : Expr) (d : Deps) : Option Expr :=
  match projOver p c, schemaOf x with
  | some sel, some sx =>
    match rename sx.cols m (parentOf sel) (depsOf d c) with
    | some rw => match rw.childs with
      | [some cs] => some (proj sel (mk (.rename m) [proj cs x]))
      | _ => none
    | none => none
  | _, _ => none

/-- the frame of a Filter is a class with `_filter_passthrough` (Filter) or its own
    `_filter_passthrough_available` (Merge): the guard of the Projection branch may hold — outside the fragment -/
def passesFilters (x : Expr) : Bool :=
  match x.op with
  | .filter => true
  | .merge _ _ => true
  | _ => false

/-- Filter._simplify_up, Projection branch (the guard `self.frame._filter_passthrough_available` is false for
    every frame class of the fragment but Filter and Merge) -/
def upFilterProj (x q c p : Expr) (d : Deps) : Option Expr :=
  match projOver p c, schemaOf x with
  | some sel, some sx =>
    if passesFilters x then none
    else match filterRule false sx.cols (parentOf sel) (depsOf d c) with
      | some rw => match rw.childs with
        | [some cu] => some (reproj rw.keep sel (mk .filter [proj cu x, q]))
        | _ => none
      | none => none
  | _, _ => none

/-- Filter._simplify_up: OR factoring (any parent), then the Projection branch -/
def upFilter (x q c p : Expr) (d : Deps) : Option Expr :=
  match orRewrite q with
  | some q' => some (subst c (mk .filter [x, q']) p)
  | none => upFilterProj x q c p d

/-- Merge._simplify_up, Projection branch -/
def upMerge (how : Nat) (m : MergeP) (a b c p : Expr) (d : Deps) : Option Expr :=
  match projOver p c, schemaOf a, schemaOf b with
  | some sel, some sa, some sb =>
    match merge m sa.cols sb.cols (parentOf sel) (depsOf d c) with
    | some rw => match rw.childs with
      | [some pl, some pr] => some (proj sel (mk (.merge how m) [proj pl a, proj pr b]))
      | _ => none
    | none => none
  | _, _, _ => none

def allSchemas : List Expr → Option (List Schema)
  | [] => some []
  | x :: t => match schemaOf x, allSchemas t with
    | some s, some ss => some (s :: ss)
    | _, _ => none

def zipSel : List (Option Sel) → List Expr → List Expr
  | o :: os, x :: xs => selOpt o x :: zipSel os xs
  | _, _ => []

/-- Concat._simplify_up (axis=0, frames) -/
def upConcat (inner : Bool) (xs : List Expr) (c p : Expr) (d : Deps) : Option Expr :=
  match projOver p c, allSchemas xs with
  | some sel, some ss =>
    if ss.any (·.ser) then none
    else match concat false inner (ss.map (·.cols)) (parentOf sel) (depsOf d c) with
      | some rw => some (reproj rw.keep sel (mk (.concat inner) (zipSel rw.childs xs)))
      | none => none
  | _, _ => none

/-- `child._simplify_up(parent, dependents)` -/
def fragUp (c p : Expr) (d : Deps) : Option Expr :=
  match c.op, c.args with
  | .src l, [] => upSrc l c p d
  | .elem op, [x] => upElem op x c p d
  | .bink op k, [x] => upBinK op k x c p d
  | .bin op, [a, b] => upBin op a b c p d
  | .assign keys, x :: vals => upAssign keys x vals c p d
  | .rename m, [x] => upRename m x c p d
  | .filter, [x, q] => upFilter x q c p d
  | .merge how m, [a, b] => upMerge how m a b c p d
  | .concat inner, xs => upConcat inner xs c p d
  | _, _ => none

/-- Projection._simplify_down -/
def downProj (sel : Sel) (x e : Expr) : Option Expr :=
  match schemaOf x, schemaOf e with
  | some sx, some se =>
    let inner := match x.op, x.args with
      | .proj a, [_] => some a
      | _, _ => none
    match projDown sx.cols (se.ser == sx.ser) sel inner with
    | .ident => some x
    | .squash b => match x.args with
      | [y] => some (proj b y)
      | _ => none
    | _ => none
  | _, _ => none

def colsOfAll : List Expr → List Name
  | [] => []
  | v :: t => (match schemaOf v with | some s => s.cols | none => []) ++ colsOfAll t

/-- Assign._simplify_down: nested Assigns become one, unless a value reads a column the inner one creates -/
def downAssign (keys : List Name) (x : Expr) (vals : List Expr) : Option Expr :=
  match x.op, x.args with
  | .assign keys0, x0 :: vals0 =>
    if (colsOfAll vals).any (keys0.contains ·) then none
    else some (mk (.assign (keys0 ++ keys)) (x0 :: (vals0 ++ vals)))
  | _, _ => none

/-- `e._simplify_down()` -/
def fragDown (e : Expr) : Option Expr :=
  match e.op, e.args with
  | .proj sel, [x] => downProj sel x e
  | .assign keys, x :: vals => downAssign keys x vals
  | _, _ => none

/-- **the rule system of the fragment** (logical simplification only) -/
def fragRules : Rules where
  down := fragDown
  up := fragUp
  tuneDown := fun _ => none
  tuneUp := fun _ _ => none
  lower := fun _ => none
  fuse := id

/-! ## 5. a concrete interpretation: columns are lists of integers (for the examples; booleans are 0 / 1) -/

def padZip (f : Int → Int → Int) : List Int → List Int → List Int
  | [], bs => bs.map (f 0)
  | a :: as, [] => f a 0 :: padZip f as []
  | a :: as, b :: bs => f a b :: padZip f as bs

def b2i (b : Bool) : Int := if b then 1 else 0

def maskL : Nat → List Int → List Int → List Int
  | _, _, [] => []
  | i, m, x :: xs => if m.getD i 0 != 0 then x :: maskL (i + 1) m xs else maskL (i + 1) m xs

/-- rows of an inner join on the first key column: positions (i, j) with equal keys -/
def joinPairs (l r : List Int) : List (Nat × Nat) :=
  (List.range l.length).flatMap (fun i => ((List.range r.length).filter (fun j => l.getD i 0 == r.getD j 0)).map (fun j => (i, j)))

def firstKey (ks : List (Option (List Int))) : List Int :=
  match ks with
  | some k :: _ => k
  | _ => []

/-- integer columns; `un 0` = abs, `un 1` = neg; `bink 0 k` = `+k`, `bink 1 k` = `> k`, `bink 2 k` = `< k`;
    `bin 0` = and, `bin 1` = or, `bin 2` = `+`; joins are inner joins on the first key; a missing column stacks as
    nothing -/
def listI (tables : Nat → Name → Option (List Int)) : Interp (List Int) Nat where
  data := tables
  nul := []
  un := fun op x => match op with
    | 0 => x.map (fun v => if v < 0 then -v else v)
    | _ => x.map (fun v => -v)
  bink := fun op k x => match op with
    | 0 => x.map (· + k)
    | 1 => x.map (fun v => b2i (decide (v > (k : Int))))
    | _ => x.map (fun v => b2i (decide (v < (k : Int))))
  bin := fun op x y => match op with
    | 0 => padZip (fun a b => b2i (a != 0 && b != 0)) x y
    | 1 => padZip (fun a b => b2i (a != 0 || b != 0)) x y
    | _ => padZip (· + ·) x y
  mask := fun m x => maskL 0 m x
  joinL := fun _ lk rk x => (joinPairs (firstKey lk) (firstKey rk)).map (fun ij => x.getD ij.1 0)
  joinR := fun _ lk rk x => (joinPairs (firstKey lk) (firstKey rk)).map (fun ij => x.getD ij.2 0)
  stack := fun blocks => if blocks.all Option.isNone then none else some (blocks.flatMap (fun b => b.getD []))
  bit := fun m i => m.getD i 0 != 0

end Dx.Frag

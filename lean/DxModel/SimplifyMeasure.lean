/-
  SimplifyMeasure.lean — the SIMPLIFY stage as a rewrite system on expression trees, and the measure
  that every modelled rule shape strictly decreases (property C19).

  What is modelled is the *shape* of what the `_simplify_up` / `_simplify_down` methods of /repo
  produce (dask_expr/_expr.py, _merge.py, _concat.py, _shuffle.py, _reductions.py, _groupby.py,
  io/io.py, io/parquet.py), not their column arithmetic (that is Dx.Cols / Dx.Pred):

    (a) a projection moves below an operator            Cols.Rw: per input a (narrower) Projection or
        (`plain_column_projection`, Merge, Assign, …)   nothing, inputs/keys dropped, parent kept or not
    (b) a filter moves below an operator                Filter pushdown (`_filter_simplification`,
                                                        Merge sides), predicate substituted
    (c) stacked nodes are squashed                      Projection/Projection, Filter/Filter,
                                                        Assign/Assign, Rename, Repartition, Head/Head, …
    (d) a node is removed / absorbed                    identity projection, IO `columns`, `_partitions`,
                                                        parquet filters, Len/Lengths through elemwise
    (e) Head / Tail / Partitions move below blockwise operators

  A tree node carries only its kind and the number of columns of its result (`w`, the only datum
  the termination argument needs: a pushed projection is *narrower* than the input it is put on).

  Measure: the lexicographic quadruple  msr t = (potF t, flow t, potP t, potB t)
    potF  Σ over Filter nodes of the number of operator nodes below them (frame side)   "filters sink"
    flow  Σ over operator nodes of (own width) + (width+1 of every input), over Filter nodes of
          (width+1 of frame and predicate)                                                  "less data flows"
    potP  Σ over Projection nodes of the number of nodes below them                        "projections sink"
    potB  Σ over Head/Tail/Partitions/Len nodes of the number of nodes below them          "selections sink"
  Definitions, the induction principle of the tree type and decidability of tree equality; the theorems
  about the measure are in Lemmas/SimplifyMeasure.lean and Props/C19.lean.
-/
namespace Dx.SM

/-- expression trees, abstracted to node kind + number of columns.
    `op`    any other operator (also IO leaves: no kids)
    `proj`  Projection / Index
    `filt`  Filter (frame, predicate)
    `blind` Head, Tail, Partitions, Len, Lengths (one expression operand; their own input width does
            not matter to them: they pass through projections) -/
inductive Tr where
  | op (w : Nat) (kids : List Tr)
  | proj (w : Nat) (x : Tr)
  | filt (w : Nat) (x p : Tr)
  | blind (w : Nat) (x : Tr)
deriving Repr, Inhabited

namespace Tr

/-- number of columns of the node's result (`len(expr.columns)`) -/
def w : Tr → Nat
  | op w _ => w
  | proj w _ => w
  | filt w _ _ => w
  | blind w _ => w

/-- induction over trees with the hypothesis for every operand of an operator (the recursor of the nested type
    with the list motive "for every member") -/
theorem ind {P : Tr → Prop}
    (op : ∀ w ks, (∀ k ∈ ks, P k) → P (op w ks))
    (proj : ∀ w x, P x → P (proj w x))
    (filt : ∀ w x p, P x → P p → P (filt w x p))
    (blind : ∀ w x, P x → P (blind w x)) (t : Tr) : P t :=
  Tr.rec (motive_1 := P) (motive_2 := fun ks => ∀ k ∈ ks, P k) op proj filt blind
    (fun _ h => nomatch h) (fun _ _ hk hks => List.forall_mem_cons.2 ⟨hk, hks⟩) t

mutual
def beq : Tr → Tr → Bool
  | op w ks, op w' ks' => w == w' && beqL ks ks'
  | proj w x, proj w' x' => w == w' && beq x x'
  | filt w x p, filt w' x' p' => w == w' && beq x x' && beq p p'
  | blind w x, blind w' x' => w == w' && beq x x'
  | _, _ => false
def beqL : List Tr → List Tr → Bool
  | [], [] => true
  | a :: t, a' :: t' => beq a a' && beqL t t'
  | _, _ => false
end

theorem beqL_eq_of {as : List Tr} (ih : ∀ a ∈ as, ∀ b, beq a b = true → a = b) :
    ∀ bs, beqL as bs = true → as = bs := by
  induction as with
  | nil => intro bs h; cases bs with | nil => rfl | cons _ _ => cases h
  | cons a as ihas =>
    intro bs h
    cases bs with
    | nil => cases h
    | cons b bs =>
      simp only [beqL, Bool.and_eq_true] at h
      rw [ih a (List.mem_cons_self ..) b h.1, ihas (fun x hx => ih x (List.mem_cons_of_mem _ hx)) bs h.2]

theorem beq_eq_true (a : Tr) : ∀ b, beq a b = true → a = b := by
  induction a using Tr.ind with
    (intro b h; cases b <;> simp only [beq, Bool.and_eq_true, beq_iff_eq, Bool.false_eq_true] at h)
  | op w ks ih => rw [h.1, beqL_eq_of ih _ h.2]
  | proj w x ih => rw [h.1, ih _ h.2]
  | filt w x p ihx ihp => rw [h.1.1, ihx _ h.1.2, ihp _ h.2]
  | blind w x ih => rw [h.1, ih _ h.2]

theorem beqL_eq_true : ∀ a b : List Tr, beqL a b = true → a = b :=
  fun _ => beqL_eq_of fun a _ => beq_eq_true a

theorem beqL_refl_of : ∀ {as : List Tr}, (∀ a ∈ as, beq a a = true) → beqL as as = true
  | [], _ => rfl
  | a :: as, ih => by
    simp only [beqL, ih a (List.mem_cons_self ..), beqL_refl_of fun x hx => ih x (List.mem_cons_of_mem _ hx),
      Bool.and_self]

theorem beq_refl (a : Tr) : beq a a = true := by
  induction a using Tr.ind with
  | op w ks ih => simp only [beq, beq_self_eq_true, beqL_refl_of ih, Bool.and_self]
  | proj w x ih => simp only [beq, beq_self_eq_true, ih, Bool.and_self]
  | filt w x p ihx ihp => simp only [beq, beq_self_eq_true, ihx, ihp, Bool.and_self]
  | blind w x ih => simp only [beq, beq_self_eq_true, ih, Bool.and_self]

theorem beqL_refl : ∀ a : List Tr, beqL a a = true :=
  fun _ => beqL_refl_of fun a _ => beq_refl a

/-- structural equality is decidable ("same `_name`", C08) -/
instance : DecidableEq Tr := fun a b =>
  if h : beq a b = true then isTrue (beq_eq_true a b h)
  else isFalse (fun e => h (e ▸ beq_refl a))

end Tr

open Tr

/-! ### the components of the measure -/

mutual
/-- operator nodes of the tree; Projection, Filter and Head-like nodes are transparent (they are the
    nodes that move), a Filter's predicate is not counted -/
def fs : Tr → Nat
  | .op _ ks => 1 + fsL ks
  | .proj _ x => fs x
  | .filt _ x _ => fs x
  | .blind _ x => fs x
def fsL : List Tr → Nat
  | [] => 0
  | k :: ks => fs k + fsL ks
end

mutual
/-- nodes of the tree, Head-like nodes not counted (they are pushed into several inputs at once) -/
def cnt : Tr → Nat
  | .op _ ks => 1 + cntL ks
  | .proj _ x => 1 + cnt x
  | .filt _ x p => 1 + cnt x + cnt p
  | .blind _ x => cnt x
def cntL : List Tr → Nat
  | [] => 0
  | k :: ks => cnt k + cntL ks
end

mutual
/-- potential of the filters: for every Filter node the operator nodes of its frame operand -/
def potF : Tr → Nat
  | .op _ ks => potFL ks
  | .proj _ x => potF x
  | .filt _ x p => fs x + potF x + potF p
  | .blind _ x => potF x
def potFL : List Tr → Nat
  | [] => 0
  | k :: ks => potF k + potFL ks
end

mutual
/-- column flow: every operator pays its own width and `width + 1` for each input, a Filter pays for its
    frame and its predicate; Projections and Head-like nodes pay nothing -/
def flow : Tr → Nat
  | .op w ks => w + flowL ks
  | .proj _ x => flow x
  | .filt _ x p => (x.w + 1) + (p.w + 1) + flow x + flow p
  | .blind _ x => flow x
def flowL : List Tr → Nat
  | [] => 0
  | k :: ks => (k.w + 1) + flow k + flowL ks
end

mutual
/-- potential of the projections: for every Projection node the nodes below it -/
def potP : Tr → Nat
  | .op _ ks => potPL ks
  | .proj _ x => cnt x + potP x
  | .filt _ x p => potP x + potP p
  | .blind _ x => potP x
def potPL : List Tr → Nat
  | [] => 0
  | k :: ks => potP k + potPL ks
end

mutual
/-- potential of the Head-like nodes: for every such node the nodes below it -/
def potB : Tr → Nat
  | .op _ ks => potBL ks
  | .proj _ x => potB x
  | .filt _ x p => potB x + potB p
  | .blind _ x => cnt x + potB x
def potBL : List Tr → Nat
  | [] => 0
  | k :: ks => potB k + potBL ks
end

def msr (t : Tr) : Nat × Nat × Nat × Nat := (potF t, flow t, potP t, potB t)

/-- lexicographic order on the quadruples (`a` is smaller than `b`) -/
def ltQ (a b : Nat × Nat × Nat × Nat) : Bool :=
  a.1 < b.1 || (a.1 == b.1 && (a.2.1 < b.2.1 || (a.2.1 == b.2.1 &&
    (a.2.2.1 < b.2.2.1 || (a.2.2.1 == b.2.2.1 && a.2.2.2 < b.2.2.2)))))

/-- the order the theorems are about: `Prod.Lex` of `<` four times -/
def LtQ : Nat × Nat × Nat × Nat → Nat × Nat × Nat × Nat → Prop :=
  Prod.Lex (· < ·) (Prod.Lex (· < ·) (Prod.Lex (· < ·) (· < ·)))

/-! ### list relations used by the rule shapes -/

/-- (a) what a projection pushdown does to the inputs of an operator: an input is left alone, wrapped
    in a Projection that is not wider than the input, or dropped (Assign keys, `FromScalars`, Concat
    axis=1).  The flag says whether something really got smaller (a strictly narrower Projection or a
    dropped input) — without it the real rules return `None` ("don't add unnecessary Projections"). -/
inductive Nar : Bool → List Tr → List Tr → Prop
  | nil : Nar false [] []
  | same {b ks ks'} (k : Tr) : Nar b ks ks' → Nar b (k :: ks) (k :: ks')
  | wrapEq {b ks ks'} (k : Tr) (d : Nat) : d ≤ k.w → Nar b ks ks' → Nar b (k :: ks) (.proj d k :: ks')
  | wrap {b ks ks'} (k : Tr) (d : Nat) : d < k.w → Nar b ks ks' → Nar true (k :: ks) (.proj d k :: ks')
  | drop {b ks ks'} (k : Tr) : Nar b ks ks' → Nar true (k :: ks) ks'

/-- at most one input wrapped in a Projection of at most its width (a Series selected by its name) -/
inductive Wrap1 : List Tr → List Tr → Prop
  | refl (ks : List Tr) : Wrap1 ks ks
  | here (k : Tr) (d : Nat) (ks : List Tr) : d ≤ k.w → Wrap1 (k :: ks) (.proj d k :: ks)
  | there {ks ks'} (k : Tr) : Wrap1 ks ks' → Wrap1 (k :: ks) (k :: ks')

/-- (e) Head / Tail / Partitions pushed into the non-broadcast inputs of a blockwise operator -/
inductive BPush : List Tr → List Tr → Prop
  | nil : BPush [] []
  | same {ks ks'} (k : Tr) : BPush ks ks' → BPush (k :: ks) (k :: ks')
  | push {ks ks'} (k : Tr) (wk : Nat) : wk ≤ k.w → BPush ks ks' → BPush (k :: ks) (.blind wk k :: ks')

/-- (b) the predicate of a filter that crosses the operator `o` into its input `x`:
    `predicate.substitute(o, x)`, `substitute(Projection(o, name), x)` (ToFrame, ResetIndex of a Series),
    `substitute(Projection(o, name), Index(x))` (ResetIndex), at any number of places (also none:
    AsType keeps the predicate on the cast frame); everything else is rebuilt as it was (widths of rebuilt
    nodes may change).  Lists of operands are related by peeling (`opNil` / `opCons`). -/
inductive PSub (o x : Tr) : Tr → Tr → Prop
  | refl (t : Tr) : PSub o x t t
  | self : PSub o x o x
  | projSelf (c : Nat) : PSub o x (.proj c o) x
  | projProj (c c' : Nat) : PSub o x (.proj c o) (.proj c' x)
  | proj {t t'} (c c' : Nat) : PSub o x t t' → PSub o x (.proj c t) (.proj c' t')
  | filt {a a' p p'} (w w' : Nat) : PSub o x a a' → PSub o x p p' → PSub o x (.filt w a p) (.filt w' a' p')
  | blind {t t'} (w w' : Nat) : PSub o x t t' → PSub o x (.blind w t) (.blind w' t')
  | opNil (w w' : Nat) : PSub o x (.op w []) (.op w' [])
  | opCons {k k' ks ks'} (w w' : Nat) : PSub o x k k' → PSub o x (.op w ks) (.op w' ks') →
      PSub o x (.op w (k :: ks)) (.op w' (k' :: ks'))

/-- (b) the inputs of the operator `o` after a Filter with predicate `p` crossed it: `c` inputs got their own
    Filter (Merge: one side, or both sides when the predicate only reads the join keys); `s` is the filter
    potential of the `c` substituted copies of the predicate -/
inductive FPush (o p : Tr) : Nat → Nat → List Tr → List Tr → Prop
  | nil : FPush o p 0 0 [] []
  | same {c s ks ks'} (k : Tr) : FPush o p c s ks ks' → FPush o p c s (k :: ks) (k :: ks')
  | push {c s ks ks'} (k : Tr) (wk : Nat) (pk : Tr) : wk ≤ k.w → PSub o k p pk → FPush o p c s ks ks' →
      FPush o p (c + 1) (s + potF pk) (k :: ks) (.filt wk k pk :: ks')

/-- an operand that did or did not receive a Head-like node -/
def MaybeBlind (t t' : Tr) : Prop := t' = t ∨ ∃ wb, wb ≤ t.w ∧ t' = .blind wb t

/-! ### the rewrite relation: one rule firing somewhere in the tree -/

inductive Step : Tr → Tr → Prop
  /- (a) projections move down -/
  /-- an operator puts (narrower) Projections on its inputs / drops inputs; its parent is untouched.
      `Projection(Op(x))` → `Projection(Op'(x[cols]))` (`keep = true` of Cols.Rw) is this shape below a `proj`;
      `GroupbyAggregation._simplify_down` is this shape without a Projection parent -/
  | narrow {w w' ks ks'} : Nar true ks ks' → w' ≤ w → Step (.op w ks) (.op w' ks')
  /-- … and the parent Projection is dropped (`keep = false`) -/
  | projThrough {c w w' ks ks'} : Nar true ks ks' → w' ≤ c → w' ≤ w → Step (.proj c (.op w ks)) (.op w' ks')
  /-- a Projection that does not narrow (a Series selected by its name, a Projection absorbed by the operator:
      IO `columns`, `ResetIndex(drop=True)`) sinks below the operator or vanishes in it -/
  | projSink {c w w' ks ks'} : Wrap1 ks ks' → w' ≤ c → w' ≤ w → Step (.proj c (.op w ks)) (.op w' ks')
  /-- an IO node reads fewer columns (parent Projection kept: this shape below a `proj`) -/
  | leafNarrow {w w'} : w' < w → Step (.op w []) (.op w' [])
  /-- `Filter._simplify_up(Projection)`: the frame of the Filter is narrowed, the predicate operand is not touched -/
  | projFilterKeep {w w' d x p} : d < x.w → w' ≤ w → Step (.filt w x p) (.filt w' (.proj d x) p)
  | projFilter {c w w' d x p} : d ≤ x.w → w' ≤ c → Step (.proj c (.filt w x p)) (.filt w' (.proj d x) p)
  /- (c), (d) squashing and removal -/
  | projSquash {c d x} : Step (.proj c (.proj d x)) (.proj c x)
  | projId {c x} : x.w ≤ c → Step (.proj c x) x
  /-- an operator absorbs an operand that is an operator (Assign/Assign, RenameFrame, Repartition; a Shuffle
      below a reduction is dropped): the operand's inputs (or some of them) take its place -/
  | opSquash {w1 w1' w2 pre post ks2 ks2'} : List.Sublist ks2' ks2 → w1' ≤ w1 →
      Step (.op w1 (pre ++ .op w2 ks2 :: post)) (.op w1' (pre ++ ks2' ++ post))
  /-- an operator is replaced by one of its operands (Assign/AsType with nothing left to do,
      `Repartition(Head(x), 1)` → `Head(x)`) -/
  | unwrap {w ks k} : k ∈ ks → k.w ≤ w → Step (.op w ks) k
  /- (b) filters move down -/
  /-- `Filter(Op(xs), p)` → `Op(…, Filter(x, p[Op(xs) := x]), …)`.  With one copy of the predicate nothing else is asked;
      with two (both join inputs) the copies together must not carry more filter potential than the predicate did
      (true when the predicate's own Filter nodes all sit inside the substituted operator, e.g. any predicate built
      from the joined frame; without this the potential of nested filters could be doubled) -/
  | filtPush {w wo wo' ks ks' p c s} : FPush (.op wo ks) p c s ks ks' → 0 < c → (c ≤ 1 ∨ s ≤ potF p) → wo' ≤ w →
      Step (.filt w (.op wo ks) p) (.op wo' ks')
  /-- Filter/Filter: `self.frame[self.predicate & parent.predicate.substitute(self, self.frame)]` -/
  | filtSquash {w w' w2 wa x p q q'} : PSub (.filt w2 x p) x q q' → w' ≤ w →
      Step (.filt w (.filt w2 x p) q) (.filt w' x (.op wa [p, q']))
  /-- parquet: the predicate becomes the reader's `filters` operand -/
  | filtAbsorb {w wo wo' p} : wo' ≤ w → Step (.filt w (.op wo []) p) (.op wo' [])
  /- (e) Head / Tail / Partitions / Len / Lengths -/
  /-- also with no input receiving the node: `Partitions` absorbed by `_partitions`, `Head(SortValues)` → `NFirst`,
      `Len(IO)` → `Literal` -/
  | blindPush {w wo wo' ks ks'} : BPush ks ks' → wo' ≤ w → wo' ≤ wo → Step (.blind w (.op wo ks)) (.op wo' ks')
  | blindProj {w c c' wb x} : c' ≤ w → Step (.blind w (.proj c x)) (.proj c' (.blind wb x))
  | blindFilt {w wf wf' x x' p p'} : MaybeBlind x x' → MaybeBlind p p' → wf' ≤ w →
      Step (.blind w (.filt wf x p)) (.filt wf' x' p')
  | blindSquash {w w' w2 x} : w' ≤ w → Step (.blind w (.blind w2 x)) (.blind w' x)
  /-- `Len(Elemwise(x, …))` → `Len(x)`, `Lengths` likewise, `Len(Shuffle(x))` → `Len(x)` -/
  | lenPassOp {w w' wo ks k} : k ∈ ks → w' ≤ w → Step (.blind w (.op wo ks)) (.blind w' k)
  | lenPassProj {w w' c x} : w' ≤ w → Step (.blind w (.proj c x)) (.blind w' x)
  /- the rule fires anywhere in the tree -/
  | opKid {w pre post t t'} : Step t t' → Step (.op w (pre ++ t :: post)) (.op w (pre ++ t' :: post))
  | projKid {c t t'} : Step t t' → Step (.proj c t) (.proj c t')
  | filtFrame {w p t t'} : Step t t' → Step (.filt w t p) (.filt w t' p)
  | filtPred {w x t t'} : Step t t' → Step (.filt w x t) (.filt w x t')
  | blindKid {w t t'} : Step t t' → Step (.blind w t) (.blind w t')

/-- what every step does to the components (the induction invariant of the termination proof):
    the result is not wider, has no more operator nodes, and the measure decreases lexicographically —
    with `cnt` not growing once the first two components are unchanged (it feeds `potP`/`potB` of the context) -/
structure Good (t t' : Tr) : Prop where
  w_le : t'.w ≤ t.w
  fs_le : fs t' ≤ fs t
  dec : potF t' < potF t ∨ (potF t' ≤ potF t ∧ flow t' < flow t) ∨
        (potF t' ≤ potF t ∧ flow t' ≤ flow t ∧ cnt t' ≤ cnt t ∧
          (potP t' < potP t ∨ (potP t' ≤ potP t ∧ potB t' < potB t)))

/-! ### executable recogniser of the rule shapes (what the driver answers for a traced firing)

  `stepB before after = true → Step before after` is proven (Lemmas/SimplifyMeasure.lean); the recogniser is
  greedy (not complete): the rule is looked for at the root and below exactly one changed operand. -/

/-- `Nar`: `some b` when related with strictness flag `b` -/
def narB : List Tr → List Tr → Option Bool
  | [], [] => some false
  | [], _ :: _ => none
  | _ :: ks, [] => (narB ks []).map (fun _ => true)
  | k :: ks, k' :: rest =>
    if k' = k then narB ks rest
    else match k' with
      | .proj d y =>
        if y = k ∧ d ≤ k.w then (narB ks rest).map (fun b => b || decide (d < k.w))
        else (narB ks (k' :: rest)).map (fun _ => true)
      | _ => (narB ks (k' :: rest)).map (fun _ => true)

def wrap1B : List Tr → List Tr → Bool
  | [], [] => true
  | k :: ks, k' :: ks' =>
    if k' = k then wrap1B ks ks'
    else match k' with
      | .proj d y => decide (y = k ∧ d ≤ k.w ∧ ks' = ks)
      | _ => false
  | _, _ => false

def bpushB : List Tr → List Tr → Bool
  | [], [] => true
  | k :: ks, k' :: ks' =>
    (decide (k' = k) || (match k' with
      | .blind wk y => decide (y = k ∧ wk ≤ k.w)
      | _ => false)) && bpushB ks ks'
  | _, _ => false

/-- is `t` a Projection of `o` -/
def isProjOf (o : Tr) : Tr → Bool
  | .proj _ y => decide (y = o)
  | _ => false

mutual
def psubB (o x : Tr) : Tr → Tr → Bool
  | t, t' =>
    decide (t = t') || decide (t = o ∧ t' = x) || (isProjOf o t && (decide (t' = x) || isProjOf x t')) ||
    (match t, t' with
      | .op _ ks, .op _ ks' => psubLB o x ks ks'
      | .proj _ a, .proj _ a' => psubB o x a a'
      | .filt _ a p, .filt _ a' p' => psubB o x a a' && psubB o x p p'
      | .blind _ a, .blind _ a' => psubB o x a a'
      | _, _ => false)
def psubLB (o x : Tr) : List Tr → List Tr → Bool
  | [], [] => true
  | k :: ks, k' :: ks' => psubB o x k k' && psubLB o x ks ks'
  | _, _ => false
end

/-- `FPush`: number of inputs that received the filter, filter potential of their predicates -/
def fpushB (o p : Tr) : List Tr → List Tr → Option (Nat × Nat)
  | [], [] => some (0, 0)
  | k :: ks, k' :: ks' =>
    if k' = k then fpushB o p ks ks'
    else match k' with
      | .filt wk y pk =>
        if y = k ∧ wk ≤ k.w ∧ psubB o k p pk = true then
          (fpushB o p ks ks').map (fun (cs : Nat × Nat) => (cs.1 + 1, cs.2 + potF pk))
        else none
      | _ => none
  | _, _ => none

def maybeBlindB (t t' : Tr) : Bool :=
  decide (t' = t) || (match t' with
    | .blind wb y => decide (y = t ∧ wb ≤ t.w)
    | _ => false)

/-- `opSquash` at some position of the operand list -/
def squashAt : List Tr → List Tr → Bool
  | [], _ => false
  | k :: post, l' =>
    (match k with
      | .op _ ks2 =>
        decide (post.length ≤ l'.length ∧ l'.drop (l'.length - post.length) = post) &&
        (l'.take (l'.length - post.length)).isSublist ks2
      | _ => false) ||
    (match l' with
      | k' :: rest' => decide (k' = k) && squashAt post rest'
      | [] => false)

/-- names of the rule shapes -/
inductive Rule where
  | narrow | projThrough | projSink | leafNarrow | projFilterKeep | projFilter | projSquash | projId
  | opSquash | unwrap | filtPush | filtSquash | filtAbsorb | blindPush | blindProj | blindFilt
  | blindSquash | lenPass
deriving DecidableEq, Repr

/-- the rule shape that rewrites `t` to `t'` at the root, if one does -/
def rootRule (t t' : Tr) : Option Rule :=
  match t, t' with
  | .op w ks, .op w' ks' =>
    if narB ks ks' = some true ∧ w' ≤ w then some .narrow
    else if ks = [] ∧ ks' = [] ∧ w' < w then some .leafNarrow
    else if w' ≤ w ∧ squashAt ks ks' = true then some .opSquash
    else if t' ∈ ks ∧ w' ≤ w then some .unwrap
    else none
  | .op w ks, _ => if t' ∈ ks ∧ t'.w ≤ w then some .unwrap else none
  | .proj c (.op w ks), .op w' ks' =>
    if narB ks ks' = some true ∧ w' ≤ c ∧ w' ≤ w then some .projThrough
    else if wrap1B ks ks' = true ∧ w' ≤ c ∧ w' ≤ w then some .projSink
    else if t' = .op w ks ∧ w ≤ c then some .projId
    else none
  | .proj c (.filt w x p), .filt w' (.proj d x') p' =>
    if x' = x ∧ p' = p ∧ d ≤ x.w ∧ w' ≤ c then some .projFilter
    else if t' = .filt w x p ∧ w ≤ c then some .projId
    else none
  | .proj c (.proj d x), .proj c' x' =>
    if c' = c ∧ x' = x then some .projSquash
    else if t' = .proj d x ∧ d ≤ c then some .projId
    else none
  | .proj c x, _ => if t' = x ∧ x.w ≤ c then some .projId else none
  | .filt w (.op wo ks) p, .op wo' ks' =>
    match fpushB (.op wo ks) p ks ks' with
    | some (n, s) => if 0 < n ∧ (n ≤ 1 ∨ s ≤ potF p) ∧ wo' ≤ w then some .filtPush
                else if ks = [] ∧ ks' = [] ∧ wo' ≤ w then some .filtAbsorb else none
    | none => none
  | .filt w (.filt w2 x p) q, .filt w' x' (.op _ [p', q']) =>
    if x' = x ∧ p' = p ∧ psubB (.filt w2 x p) x q q' = true ∧ w' ≤ w then some .filtSquash else none
  | .filt w x p, .filt w' (.proj d x') p' =>
    if x' = x ∧ p' = p ∧ d < x.w ∧ w' ≤ w then some .projFilterKeep else none
  | .blind w (.op wo ks), .op wo' ks' =>
    if bpushB ks ks' = true ∧ wo' ≤ w ∧ wo' ≤ wo then some .blindPush else none
  | .blind w (.op _ ks), .blind w' k => if k ∈ ks ∧ w' ≤ w then some .lenPass else none
  | .blind w (.proj _ x), .proj c' (.blind _ x') => if x' = x ∧ c' ≤ w then some .blindProj else none
  | .blind w (.proj _ x), .blind w' x' => if x' = x ∧ w' ≤ w then some .lenPass else none
  | .blind w (.filt _ x p), .filt wf' x' p' =>
    if maybeBlindB x x' = true ∧ maybeBlindB p p' = true ∧ wf' ≤ w then some .blindFilt else none
  | .blind w (.blind _ x), .blind w' x' => if x' = x ∧ w' ≤ w then some .blindSquash else none
  | _, _ => none

mutual
/-- a rule shape at the root, or below exactly one changed operand of an unchanged node -/
def stepB : Tr → Tr → Bool
  | t, t' =>
    (rootRule t t').isSome ||
    (match t, t' with
      | .op w ks, .op w' ks' => decide (w = w') && stepLB ks ks'
      | .proj c x, .proj c' x' => decide (c = c') && stepB x x'
      | .filt w x p, .filt w' x' p' =>
        decide (w = w') && ((decide (p = p') && stepB x x') || (decide (x = x') && stepB p p'))
      | .blind w x, .blind w' x' => decide (w = w') && stepB x x'
      | _, _ => false)
def stepLB : List Tr → List Tr → Bool
  | k :: ks, k' :: ks' => if k = k' then stepLB ks ks' else stepB k k' && decide (ks = ks')
  | _, _ => false
end

/-- (informational, not a rule shape) an operator wraps inputs in Projections none of which is narrower than
    the input, at the root or one level below: a redundant firing — `Projection._simplify_down` removes the
    Projection again (identity) or squashes it into the one below -/
def noopInsertB (t t' : Tr) : Bool :=
  match t, t' with
  | .op w ks, .op w' ks' => decide (w = w') && decide (ks ≠ ks') && narB ks ks' == some false
  | .proj c (.op w ks), .proj c' (.op w' ks') =>
    decide (c = c' ∧ w = w') && decide (ks ≠ ks') && narB ks ks' == some false
  | _, _ => false

mutual
/-- the rule that fired and how deep below the root (informational: the driver reports it) -/
def stepWhy : Tr → Tr → Option (Rule × Nat)
  | t, t' =>
    match rootRule t t' with
    | some r => some (r, 0)
    | none =>
      (match t, t' with
        | .op w ks, .op w' ks' => if w = w' then stepWhyL ks ks' else none
        | .proj c x, .proj c' x' => if c = c' then stepWhy x x' else none
        | .filt w x p, .filt w' x' p' =>
          if w = w' then (if p = p' then stepWhy x x' else if x = x' then stepWhy p p' else none) else none
        | .blind w x, .blind w' x' => if w = w' then stepWhy x x' else none
        | _, _ => none).map (fun (rd : Rule × Nat) => (rd.1, rd.2 + 1))
def stepWhyL : List Tr → List Tr → Option (Rule × Nat)
  | k :: ks, k' :: ks' => if k = k' then stepWhyL ks ks' else if ks = ks' then stepWhy k k' else none
  | _, _ => none
end

end Dx.SM

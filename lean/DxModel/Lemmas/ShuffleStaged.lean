/-
  Lemmas/ShuffleStaged.lean — `run (stagedTask p)` computes the stage recursion `runStages` of
  ShuffleStagedSem.lean, stage by stage; final regrouping when `nout ≠ nin`.
-/
import DxModel.Lemmas.ShuffleStagedSem
namespace Dx
open Shuffle

theorem stageArithOK_iff {nin stages nsplits : Nat} :
    stageArithOK nin stages nsplits = true ↔ 1 ≤ stages ∧ 2 ≤ nsplits ∧ nin ≤ nsplits ^ stages := by
  simp only [stageArithOK, Bool.and_eq_true, decide_eq_true_eq, and_assoc]

/-! ### names and requested partitions of a stage -/

theorem lastEq_of_lt (p : Params) (t : Nat) (h : t + 1 < p.stages) : lastEq p t = false := by
  rw [lastEq, beq_false_of_ne (Nat.ne_of_lt h), Bool.false_and]

theorem lastEq_of_ne (p : Params) (hne : p.nout ≠ p.nin) (t : Nat) : lastEq p t = false := by
  rw [lastEq, beq_false_of_ne hne, Bool.and_false]

theorem stageName_nonlast (p : Params) (t : Nat) (h : lastEq p t = false) : stageName p t = .stage t := by
  simp only [stageName, h, Bool.false_eq_true, if_false]

theorem stageName_last (p : Params) (t : Nat) (h : lastEq p t = true) : stageName p t = .self := by
  simp only [stageName, h, if_true]

theorem partsOut_nonlast (p : Params) (t : Nat) (h : lastEq p t = false) :
    partsOut p t = List.range (ninputs p) := by
  simp only [partsOut, h, Bool.false_eq_true, if_false]

theorem partsOut_length_nonlast (p : Params) (t : Nat) (h : lastEq p t = false) :
    (partsOut p t).length = ninputs p := by
  rw [partsOut_nonlast p t h, List.length_range]

theorem partsOut_getElem_nonlast (p : Params) (t : Nat) (h : lastEq p t = false) (j : Nat)
    (hj : j < (partsOut p t).length) : (partsOut p t)[j] = j := by
  simp only [partsOut_nonlast p t h, List.getElem_range]

theorem stageOf_stageName (p : Params) (t : Nat) (ht : t < p.stages) :
    stageOf p (stageName p t) = some t := by
  cases h : lastEq p t with
  | true =>
    have e : p.stages - 1 = t := Nat.sub_eq_of_eq_add (eq_of_beq (Bool.and_eq_true_iff.mp h).1).symm
    rw [stageName_last p t h, stageOf, e, if_pos ⟨Nat.zero_lt_of_lt ht, h⟩]
  | false =>
    rw [stageName_nonlast p t h, stageOf, if_pos ⟨ht, by rw [h]; rfl⟩]

/-- the key a `group` task of stage `t` reads: the `let inputKey` inside `stagedTask`
    (Layers/Shuffle.lean), to which `staged_group_def` connects it -/
def inputKey (p : Params) (t : Nat) (inp : List Nat) : Key :=
  if t = 0 then (if num p.nsplits inp < p.nin then .dep (num p.nsplits inp) else .empty (stageName p t) inp)
  else .out (stageName p (t - 1)) (num p.nsplits inp)

theorem requested_of (p : Params) (t q i : Nat) (hq : q ∈ partsOut p t) (hi : i < p.nsplits) :
    requested p t ((digits p.nsplits p.stages q).set t i) = true := by
  simp only [requested, List.any_eq_true, List.mem_range, beq_iff_eq]
  exact ⟨q, hq, i, hi, rfl⟩

theorem staged_group_def (p : Params) (t : Nat) (ht : t < p.stages) (inp : List Nat)
    (hreq : requested p t inp = true) :
    stagedTask p (.group (stageName p t) inp) =
      some (.shuffleGroup (inputKey p t inp) (stageFilter p t) t p.nsplits p.nin p.nout) := by
  simp only [stagedTask, stageOf_stageName p t ht, hreq, if_true, inputKey]

theorem staged_empty_def (p : Params) (ht : 0 < p.stages) (inp : List Nat)
    (hreq : requested p 0 inp = true) (hn : ¬ num p.nsplits inp < p.nin) :
    stagedTask p (.empty (stageName p 0) inp) = some (.const []) := by
  simp only [stagedTask, stageOf_stageName p 0 ht, hreq, hn, not_false_eq_true, and_self, if_true]

theorem staged_split_def (p : Params) (t : Nat) (ht : t < p.stages) (q i : Nat)
    (hq : q ∈ partsOut p t) (hi : i < p.nsplits) :
    stagedTask p (.split (stageName p t) ((digits p.nsplits p.stages q).getD t 0)
        ((digits p.nsplits p.stages q).set t i)) =
      some (.getitem (.group (stageName p t) ((digits p.nsplits p.stages q).set t i))
        ((digits p.nsplits p.stages q).getD t 0)) := by
  simp only [stagedTask, stageOf_stageName p t ht]
  rw [if_pos]
  simp only [List.any_eq_true, List.mem_range, beq_iff_eq, Bool.and_eq_true]
  exact ⟨q, hq, rfl, i, hi, rfl⟩

theorem staged_out_def (p : Params) (t : Nat) (ht : t < p.stages) (j : Nat)
    (hj : j < (partsOut p t).length) :
    stagedTask p (.out (stageName p t) j) =
      some (.concat ((List.range p.nsplits).map (fun i =>
        Key.split (stageName p t) ((digits p.nsplits p.stages (partsOut p t)[j]).getD t 0)
          ((digits p.nsplits p.stages (partsOut p t)[j]).set t i))) p.ignoreIndex) := by
  simp only [stagedTask, stageOf_stageName p t ht, hj, dite_true]

theorem stageFilter_mem (p : Params) (t q : Nat) (hq : q ∈ partsOut p t) :
    ∀ l, stageFilter p t = some l → (digits p.nsplits p.stages q).getD t 0 ∈ l := by
  intro l hl
  simp only [stageFilter, Option.ite_none_right_eq_some, Bool.and_eq_true, Option.some.injEq] at hl
  obtain ⟨⟨hlast, _⟩, rfl⟩ := hl
  simp only [partsOut, hlast, if_true] at hq
  exact List.mem_map.mpr ⟨q, hq, rfl⟩

/-- one stage of the layer = one `stageStep` -/
theorem run_stage_step (I : Interp) (p : Params) (rows : Nat → List Row) (t : Nat) (ht : t < p.stages)
    (hk : 0 < p.nsplits) (j : Nat) (hj : j < (partsOut p t).length)
    (cur : List Nat → List Row) (fuel : Nat)
    (hprev : ∀ i, i < p.nsplits →
      run I (stagedTask p) (inputs rows) fuel
          (inputKey p t ((digits p.nsplits p.stages (partsOut p t)[j]).set t i)) =
        .frame (cur ((digits p.nsplits p.stages (partsOut p t)[j]).set t i))) :
    run I (stagedTask p) (inputs rows) (fuel+3) (.out (stageName p t) j) =
      .frame (stageStep p.nsplits (sdig p) t cur (digits p.nsplits p.stages (partsOut p t)[j])) := by
  have hq : (partsOut p t)[j] ∈ partsOut p t := List.getElem_mem hj
  rw [run_defined I _ _ (fuel+2) _ _ (staged_out_def p t ht j hj)]
  simp only [evalTsk, List.map_map]
  unfold stageStep
  apply concatV_map_frames
  intro i hi
  have hi' : i < p.nsplits := List.mem_range.mp hi
  simp only [Function.comp]
  rw [run_defined I _ _ (fuel+1) _ _ (staged_split_def p t ht _ i hq hi')]
  simp only [evalTsk]
  rw [run_defined I _ _ fuel _ _ (staged_group_def p t ht _ (requested_of p t _ i hq hi'))]
  simp only [evalTsk, hprev i hi']
  rw [lookupG_spec _ _ _ _ _ _ _ (stageFilter_mem p t _ hq)]
  · rfl
  · rw [digits_getD _ _ _ _ ht]; exact Nat.mod_lt _ hk

/-! ### all stages -/

/-- Every stage of the layer computes the stage recursion over digit tuples.  A `group` task of
    stage 0 reads a real input or an `empty` key, one of a later stage the output of the stage before.
    Fuel: each stage is three tasks deep (`out` → `split` → `group`), and one more step evaluates the
    `dep` / `empty` leaf under stage 0, hence `3 * (t + 1) + 1`; `run_staged_ne` adds two for `rgroup` and
    the final `shuffleGroupGet`. -/
theorem run_stage (I : Interp) (p : Params) (rows : Nat → List Row) (hk : 0 < p.nsplits) :
    ∀ t, t < p.stages → ∀ j (hj : j < (partsOut p t).length) (f : Nat),
      run I (stagedTask p) (inputs rows) (f + (3 * (t + 1) + 1)) (.out (stageName p t) j) =
        .frame (runStages p.nsplits (sdig p) (cur0 p rows) (t+1)
          (digits p.nsplits p.stages (partsOut p t)[j])) := by
  intro t
  induction t with
  | zero =>
    intro ht j hj f
    refine run_stage_step I p rows 0 ht hk j hj (cur0 p rows) (f+1) fun i hi => ?_
    simp only [inputKey, if_true, cur0]
    by_cases hn : num p.nsplits ((digits p.nsplits p.stages (partsOut p 0)[j]).set 0 i) < p.nin
    · rw [if_pos hn, if_pos hn]
      exact run_input I (stagedTask p) _ _ _ rfl rfl _
    · rw [if_neg hn, if_neg hn, run_defined I _ _ f _ _
        (staged_empty_def p ht _ (requested_of p 0 _ i (List.getElem_mem hj) hi) hn)]
      rfl
  | succ t ih =>
    intro ht j hj f
    have hnl : lastEq p t = false := lastEq_of_lt p t ht
    refine run_stage_step I p rows (t+1) ht hk j hj
      (runStages p.nsplits (sdig p) (cur0 p rows) (t+1)) (f + (3 * (t + 1) + 1)) fun i hi => ?_
    obtain ⟨hlen, hval⟩ := set_digits_valid p.nsplits p.stages (partsOut p (t+1))[j] (t+1) i hk hi
    have hj' : num p.nsplits ((digits p.nsplits p.stages (partsOut p (t+1))[j]).set (t+1) i) <
        (partsOut p t).length := by
      rw [partsOut_length_nonlast p t hnl]; exact num_lt p.nsplits _ p.stages hlen hval
    have := ih (Nat.lt_of_succ_lt ht) _ hj' f
    rw [partsOut_getElem_nonlast p t hnl _ hj', stageName_nonlast p t hnl,
      digits_num p.nsplits hk _ p.stages hlen hval] at this
    simpa only [inputKey, Nat.add_one_ne_zero, if_false, Nat.add_sub_cancel,
      stageName_nonlast p t hnl] using this

/-- `nout = nin`: the last stage writes the self-named outputs -/
theorem run_staged_eq (I : Interp) (p : Params) (rows : Nat → List Row) (hk : 0 < p.nsplits)
    (hs : 1 ≤ p.stages) (heq : p.nout = p.nin) (j : Nat) (hj : j < p.parts.length) (f : Nat) :
    run I (stagedTask p) (inputs rows) (f + (3 * p.stages + 1)) (.out .self j) =
      .frame (runStages p.nsplits (sdig p) (cur0 p rows) p.stages (digits p.nsplits p.stages p.parts[j])) := by
  obtain ⟨s, hs⟩ := Nat.exists_eq_add_of_le' hs
  have hl : lastEq p s = true := by
    rw [lastEq, hs, heq, beq_self_eq_true, beq_self_eq_true]; rfl
  have hpo : partsOut p s = p.parts := by simp only [partsOut, hl, if_true]
  have := run_stage I p rows hk s (hs ▸ Nat.lt_succ_self s) j (hpo ▸ hj) f
  rw [stageName_last p s hl, ← hs] at this
  simpa only [hpo] using this

/-- `nout ≠ nin`: all stages are named `stage-s`, the outputs regroup partition `o % nin` -/
theorem run_staged_ne (I : Interp) (p : Params) (rows : Nat → List Row) (hk : 0 < p.nsplits)
    (hs : 1 ≤ p.stages) (hne : p.nout ≠ p.nin) (hnin : 0 < p.nin) (hle : p.nin ≤ p.nsplits ^ p.stages)
    (j : Nat) (hj : j < p.parts.length) (f : Nat) :
    run I (stagedTask p) (inputs rows) (f + (3 * p.stages + 3)) (.out .self j) =
      .frame ((runStages p.nsplits (sdig p) (cur0 p rows) p.stages
        (digits p.nsplits p.stages (p.parts[j] % p.nin))).filter (fun r => r.tgt == p.parts[j])) := by
  obtain ⟨s, hs'⟩ := Nat.exists_eq_add_of_le' hs
  have e : p.stages - 1 = s := Nat.sub_eq_of_eq_add hs'
  have hnl := lastEq_of_ne p hne s
  have hso : stageOf p .self = none := by
    rw [stageOf, lastEq_of_ne p hne, if_neg (fun h => Bool.false_ne_true h.2)]
  have hmod : p.parts[j] % p.nin < p.nin := Nat.mod_lt _ hnin
  have hout : stagedTask p (.out .self j) =
      some (.shuffleGroupGet (.rgroup (.stage s) (p.parts[j] % p.nin)) p.parts[j]) := by
    simp only [stagedTask, hso, ne_eq, hne, not_false_eq_true, and_self, if_true, hj, dite_true, e]
  have hrg : stagedTask p (.rgroup (.stage s) (p.parts[j] % p.nin)) =
      some (.shuffleGroup2 (.out (.stage s) (p.parts[j] % p.nin)) p.nout) := by
    simp only [stagedTask, ne_eq, hne, not_false_eq_true, hs, hmod, and_self, if_true, e]
  have hj' : p.parts[j] % p.nin < (partsOut p s).length := by
    rw [partsOut_length_nonlast p _ hnl]; exact Nat.lt_of_lt_of_le hmod hle
  have := run_stage I p rows hk s (hs' ▸ Nat.lt_succ_self s) _ hj' f
  rw [partsOut_getElem_nonlast p _ hnl _ hj', stageName_nonlast p _ hnl, ← hs'] at this
  show run I (stagedTask p) (inputs rows) (f + (3 * p.stages + 1) + 1 + 1) _ = _
  rw [run_defined I _ _ _ _ _ hout]
  simp only [evalTsk]
  rw [run_defined I _ _ _ _ _ hrg]
  simp only [evalTsk, this]
  rfl

end Dx

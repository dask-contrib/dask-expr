/-
  Lemmas/FragPred.lean — the OR-factoring rule of Filter in the fragment: `parent.substitute(self, Filter(frame,
  rewrite_filters(predicate)))` denotes what the parent denoted.  From `C03_or_factoring` (the rewritten predicate has
  the same truth value for every valuation of its components) and the laws `MaskLaws` of the interpretation.
-/
import DxModel.Lemmas.FragRules
import DxModel.Props.C03
namespace Dx.Frag
open Dx Dx.Cols Dx.Pred

variable {γ ι : Type}

/-! ### substitution of an equivalent sub-expression -/

mutual
theorem subst_ref {V : Type} (S : Sem V) (old new : Expr) (h : Ref S new old) : ∀ e : Expr, Ref S (subst old new e) e
  | .node c l as => by
    rw [subst]
    by_cases he : (Expr.node c l as == old) = true
    · rw [if_pos he, eq_of_beq he]
      exact h
    · rw [if_neg he]
      exact Ref.rebuild S c l (substL_ref S old new h as)
theorem substL_ref {V : Type} (S : Sem V) (old new : Expr) (h : Ref S new old) :
    ∀ as : List Expr, Forall2 (Ref S) (substL old new as) as
  | [] => .nil
  | a :: t => .cons (subst_ref S old new h a) (substL_ref S old new h t)
end

/-! ### predicate trees -/

/-- what the interpretation must satisfy for OR-factoring: `&` and `|` act row by row on the truth values, and a mask
    is determined by its truth values -/
structure MaskLaws (I : Interp γ ι) : Prop where
  bit_and : ∀ a b i, I.bit (I.bin 0 a b) i = (I.bit a i && I.bit b i)
  bit_or : ∀ a b i, I.bit (I.bin 1 a b) i = (I.bit a i || I.bit b i)
  mask_ext : ∀ m m', (∀ i, I.bit m i = I.bit m' i) → I.mask m = I.mask m'

/-- every component of the tree satisfies `P`, and there is no negation node: `toT` makes none and `ofT` cannot
    rebuild one -/
def Good {α : Type} (P : α → Prop) : T α → Prop
  | .atom a => P a
  | .and a b => Good P a ∧ Good P b
  | .or a b => Good P a ∧ Good P b
  | .not _ => False

/-! `rewriteFilters` only recombines components of its input with `.and` and `.or`, so it keeps `Good` trees `Good`. -/

section
variable {α : Type} (P : α → Prop)

theorem good_getComponents (k : Kind) (t : T α) (h : Good P t) : ∀ x ∈ getComponents k t, Good P x := by
  induction t with
  | atom a => exact List.forall_mem_singleton.mpr h
  | not a => cases h
  | or a b iha ihb =>
    rw [getComponents]
    by_cases hk : k = .or
    · rw [if_pos hk]
      exact List.forall_mem_append.mpr ⟨iha h.1, ihb h.2⟩
    · rw [if_neg hk]
      exact List.forall_mem_singleton.mpr h
  | and a b iha ihb =>
    rw [getComponents]
    by_cases hk : k = .and
    · rw [if_pos hk]
      exact List.forall_mem_append.mpr ⟨iha h.1, ihb h.2⟩
    · rw [if_neg hk]
      exact List.forall_mem_singleton.mpr h

theorem good_mkAnd (rs : List (T α)) (r : T α) (h : ∀ x ∈ r :: rs, Good P x) : Good P (mkAnd r rs) := by
  induction rs generalizing r with
  | nil => exact h r List.mem_cons_self
  | cons c t ih =>
    simp only [List.forall_mem_cons] at h
    exact ih (.and r c) (List.forall_mem_cons.mpr ⟨⟨h.1, h.2.1⟩, h.2.2⟩)

theorem good_mkOr (rs : List (T α)) (r : T α) (h : ∀ x ∈ r :: rs, Good P x) : Good P (mkOr r rs) := by
  induction rs generalizing r with
  | nil => exact h r List.mem_cons_self
  | cons c t ih =>
    simp only [List.forall_mem_cons] at h
    exact ih (.or r c) (List.forall_mem_cons.mpr ⟨⟨h.1, h.2.1⟩, h.2.2⟩)

variable [DecidableEq α]

theorem good_keepComponents (repl : List (T α)) (comps : List (List (T α))) (rs : List (T α))
    (hc : ∀ comp ∈ comps, ∀ x ∈ comp, Good P x) (h : keepComponents repl comps = some rs) : ∀ r ∈ rs, Good P r := by
  induction comps generalizing rs with
  | nil =>
    cases h
    exact List.forall_mem_nil _
  | cons comp rest ih =>
    unfold keepComponents at h
    split at h
    · cases h
    · rename_i k ks hk
      split at h
      · cases h
      · rename_i rs' hrest
        cases h
        obtain ⟨hcomp, hc'⟩ := List.forall_mem_cons.mp hc
        exact List.forall_mem_cons.mpr
          ⟨good_mkAnd P ks k (hk ▸ fun x hx => hcomp x (List.mem_filter.mp hx).1), ih rs' hc' hrest⟩

theorem good_replaceCommonOr (first : T α) (rest : List (T α)) (r : T α)
    (hg : ∀ x ∈ first :: rest, Good P x) (h : replaceCommonOr first rest = some r) : Good P r := by
  have hcomps : ∀ comp ∈ (first :: rest).map (fun c => convertMapping (getComponents .and c)), ∀ x ∈ comp, Good P x :=
    List.forall_mem_map.mpr fun c hc x hx => good_getComponents P .and c (hg c hc) x ((mem_convertMapping _ x).mp hx)
  rw [replaceCommonOr] at h
  split at h
  · cases h
  · rename_i r0 rs hrepl
    have hout : Good P (mkAnd r0 rs) :=
      good_mkAnd P rs r0 (hrepl ▸ fun x hx => hcomps _ List.mem_cons_self x (List.mem_filter.mp hx).1)
    split at h
    · cases h
      exact hout
    · cases h
    · rename_i c cs hkeep
      cases h
      exact ⟨hout, good_mkOr P cs c (good_keepComponents P _ _ _ hcomps hkeep)⟩

theorem good_rewriteFilters (t : T α) (h : Good P t) : Good P (rewriteFilters t) := by
  unfold rewriteFilters
  split
  · exact h
  · exact h
  · rename_i f rest _ hg
    split
    · exact h
    · rename_i r hr
      exact good_replaceCommonOr P f rest r (hg ▸ good_getComponents P .or t h) hr

end

/-! ### what predicate expressions denote -/

/-- a defined Series expression -/
def SerDef (I : Interp γ ι) (a : Expr) : Prop := ∃ v, den I a = some v ∧ v.ser = true

/-- truth value of a predicate component at a row -/
def bitOf (I : Interp γ ι) (a : Expr) (i : ι) : Bool :=
  match den I a with
  | some v => I.bit (v.col I) i
  | none => false

theorem col_serFrame (I : Interp γ ι) (n : Name) (x : γ) (b : Bool) : FVal.col I ⟨serFrame n x, b⟩ = x := by
  simp [FVal.col, serFrame]

theorem semOp_bin_series (I : Interp γ ι) (op : Nat) (A B : FVal γ) (hA : A.ser = true) (hB : B.ser = true) :
    semOp I (.bin op) [A, B] =
      some ⟨serFrame (if A.sch.name = B.sch.name then A.sch.name else "") (I.bin op (A.col I) (B.col I)), true⟩ := by
  have hs : schOp (.bin op) ([A, B].map FVal.sch) = some _ := if_pos ((Bool.and_eq_true A.ser B.ser).mpr ⟨hA, hB⟩)
  have hf : frameOp I (.bin op) [A, B] = _ := if_pos hA
  rw [semOp_eq hs (by rw [hf]; rfl) (by rw [hf]; exact normal_serFrame _ _), hf]

theorem semOp_bin_ser {I : Interp γ ι} {op : Nat} {A B v : FVal γ} (h : semOp I (.bin op) [A, B] = some v)
    (hv : v.ser = true) : A.ser = true ∧ B.ser = true := by
  obtain ⟨s, hs, hvs⟩ := semOp_some h
  rcases schOp_bin_some hs with ⟨hA, hB, _⟩ | ⟨_, _, _, he⟩
  · exact ⟨hA, hB⟩
  · rw [hvs, he] at hv
    cases hv

theorem den_mk_bin_bits (I : Interp γ ι) {op : Nat} {g : Bool → Bool → Bool}
    (hg : ∀ x y i, I.bit (I.bin op x y) i = g (I.bit x i) (I.bit y i)) {a b : Expr} {fa fb : ι → Bool}
    (ha : ∃ v, den I a = some v ∧ v.ser = true ∧ ∀ i, I.bit (v.col I) i = fa i)
    (hb : ∃ v, den I b = some v ∧ v.ser = true ∧ ∀ i, I.bit (v.col I) i = fb i) :
    ∃ v, den I (mk (.bin op) [a, b]) = some v ∧ v.ser = true ∧ ∀ i, I.bit (v.col I) i = g (fa i) (fb i) := by
  obtain ⟨va, hva, hsa, hba⟩ := ha
  obtain ⟨vb, hvb, hsb, hbb⟩ := hb
  refine ⟨_, by rw [den_mk2, hva, hvb, Option.bind_some, Option.bind_some]; exact semOp_bin_series I op va vb hsa hsb, rfl, fun i => ?_⟩
  rw [col_serFrame, hg, hba, hbb]

theorem ofT_den (I : Interp γ ι) (hI : MaskLaws I) (t : T Expr) (h : Good (SerDef I) t) :
    ∃ v, den I (ofT t) = some v ∧ v.ser = true ∧ ∀ i, I.bit (v.col I) i = eval2 (fun a => bitOf I a i) t := by
  induction t with
  | atom a =>
    obtain ⟨v, hv, hs⟩ := h
    exact ⟨v, hv, hs, fun i => by rw [eval2, bitOf, hv]⟩
  | not a => cases h
  | and a b iha ihb => exact den_mk_bin_bits I hI.bit_and (iha h.1) (ihb h.2)
  | or a b iha ihb => exact den_mk_bin_bits I hI.bit_or (iha h.1) (ihb h.2)

theorem toTs_eq_map : ∀ as : List Expr, toTs as = as.map toT
  | [] => rfl
  | a :: t => congrArg (toT a :: ·) (toTs_eq_map t)

/-- what `toT` has to say about a defined Series expression -/
def ToTOk (I : Interp γ ι) (e : Expr) : Prop :=
  ∀ v, den I e = some v → v.ser = true →
    Good (SerDef I) (toT e) ∧ ∀ i, I.bit (v.col I) i = eval2 (fun a => bitOf I a i) (toT e)

theorem toT_bin_ok (I : Interp γ ι) {op c l : Nat} {g : Bool → Bool → Bool}
    (hg : ∀ x y i, I.bit (I.bin op x y) i = g (I.bit x i) (I.bit y i)) (hop : opOf c l = .bin op) {as : List Expr}
    {ta tb : T Expr} (hts : toTs as = [ta, tb]) {v : FVal γ} (hv : den I (.node c l as) = some v) (hs : v.ser = true)
    (hL : ∀ a ∈ as, ToTOk I a) :
    (Good (SerDef I) ta ∧ Good (SerDef I) tb) ∧ ∀ i, I.bit (v.col I) i =
      g (eval2 (fun a => bitOf I a i) ta) (eval2 (fun a => bitOf I a i) tb) := by
  rw [toTs_eq_map] at hts
  obtain ⟨a, t, rfl, rfl, ht⟩ := List.map_eq_cons_iff.mp hts
  obtain ⟨b, u, rfl, rfl, hu⟩ := List.map_eq_cons_iff.mp ht
  obtain rfl := List.map_eq_nil_iff.mp hu
  obtain ⟨va, vb, hva, hvb, hv'⟩ := den_binary (e := .node c l [a, b]) hop rfl hv
  obtain ⟨hsa, hsb⟩ := semOp_bin_ser hv' hs
  rw [semOp_bin_series I op va vb hsa hsb] at hv'
  cases hv'
  obtain ⟨ga, ba⟩ := hL a List.mem_cons_self va hva hsa
  obtain ⟨gb, bb⟩ := hL b (List.mem_cons_of_mem a List.mem_cons_self) vb hvb hsb
  exact ⟨⟨ga, gb⟩, fun i => by rw [col_serFrame, hg, ba, bb]⟩

mutual
theorem toT_den (I : Interp γ ι) (hI : MaskLaws I) : ∀ e : Expr, ToTOk I e
  | .node c l as => by
    intro v hv hs
    rw [toT]
    split
    · rename_i hop hts
      exact toT_bin_ok I hI.bit_and hop hts hv hs (toT_denL I hI as)
    · rename_i hop hts
      exact toT_bin_ok I hI.bit_or hop hts hv hs (toT_denL I hI as)
    · exact ⟨⟨v, hv, hs⟩, fun i => by rw [eval2, bitOf, hv]⟩
theorem toT_denL (I : Interp γ ι) (hI : MaskLaws I) : ∀ as : List Expr, ∀ a, a ∈ as → ToTOk I a
  | [] => List.forall_mem_nil _
  | x :: t => List.forall_mem_cons.mpr ⟨toT_den I hI x, toT_denL I hI t⟩
end

/-- the OR-factored predicate is a defined Series selecting the same rows -/
theorem orRewrite_sound (I : Interp γ ι) (hI : MaskLaws I) {q q' : Expr} (h : orRewrite q = some q') {vq : FVal γ}
    (hq : den I q = some vq) (hs : vq.ser = true) :
    ∃ vq', den I q' = some vq' ∧ vq'.ser = true ∧ I.mask (vq'.col I) = I.mask (vq.col I) := by
  rw [orRewrite] at h
  split at h
  · obtain ⟨_, rfl⟩ := ite_some h
    obtain ⟨hg, hb⟩ := toT_den I hI q vq hq hs
    obtain ⟨v', hv', hs', hb'⟩ := ofT_den I hI _ (good_rewriteFilters _ _ hg)
    exact ⟨v', hv', hs', hI.mask_ext _ _ fun i => by rw [hb', hb, C03_or_factoring]⟩
  · cases h

/-- Filter, OR-factoring branch: the parent with the filter replaced by `Filter(frame, rewritten)` -/
theorem upFilterOr_sound (I : Interp γ ι) (hI : MaskLaws I) {x q q' c p : Expr} (hc : c.op = .filter) (ha : c.args = [x, q])
    (h : orRewrite q = some q') : ∀ v, den I p = some v → den I (subst c (mk .filter [x, q']) p) = some v := by
  have hRef : Ref (fragP I).toSem (mk .filter [x, q']) c := by
    rw [ref_iff]
    intro v hv'
    obtain ⟨vx, vq, hvx, hvq, hv'⟩ := den_binary hc ha hv'
    obtain ⟨hqs, rfl⟩ := semOp_filter_some hv'
    obtain ⟨vq', hvq', hqs', hm⟩ := orRewrite_sound I hI h hvq hqs
    rw [den_mk2, hvx, hvq', Option.bind_some, Option.bind_some, semOp_filter I vx vq' hqs', hm]
  exact (ref_iff I _ _).mp (subst_ref (fragP I).toSem c (mk .filter [x, q']) hRef p)

end Dx.Frag

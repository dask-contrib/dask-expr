/-
  Lemmas/LayerTable.lean — a look-up of the rows of Generated/LayerClasses.lean in a table of `(name, hash)` pairs,
  with its soundness; Props/C09.lean evaluates it on the committed table.
-/
import DxModel.Generated.LayerClasses
namespace Dx

/-- Every covered row of `cs` has its `(name, srcHash)` in `hs`, in any order.  `rest` is a cursor into `hs`: the
    entry after the last match is tried first (harness/extractors_layers.py prints both tables in one order), then
    all of `hs`.  The kernel compares two string literals byte by byte; the cursor keeps that to one comparison per
    row, and `C09_layer_known_unmodelled_exact` tests `covered` before any name for the same reason. -/
def hashesOK (hs : List (String × String)) : List Generated.LayerClass → List (String × String) → Bool
  | [], _ => true
  | c :: cs, rest =>
    if c.covered then
      match rest with
      | e :: rest' =>
        if e.2 == c.srcHash && e.1 == c.name then hashesOK hs cs rest'
        else hs.contains (c.name, c.srcHash) && hashesOK hs cs rest
      | [] => hs.contains (c.name, c.srcHash) && hashesOK hs cs []
    else hashesOK hs cs rest

theorem hashesOK_sound (hs : List (String × String)) : ∀ (cs : List Generated.LayerClass) (rest : List (String × String)),
    (∀ e ∈ rest, e ∈ hs) → hashesOK hs cs rest = true → ∀ c ∈ cs, c.covered = true → (c.name, c.srcHash) ∈ hs := by
  intro cs
  induction cs with
  | nil => intro _ _ _ c hc; cases hc
  | cons c0 cs ih =>
    intro rest hrest h c hc hcov
    unfold hashesOK at h
    by_cases h0 : c0.covered = true
    · rw [if_pos h0] at h
      have key : (c0.name, c0.srcHash) ∈ hs ∧ ∃ rest', (∀ e ∈ rest', e ∈ hs) ∧ hashesOK hs cs rest' = true := by
        cases rest with
        | nil =>
          simp only [Bool.and_eq_true, List.contains_iff_mem] at h
          exact ⟨h.1, [], hrest, h.2⟩
        | cons e rest' =>
          simp only at h
          split at h
          · next he =>
            simp only [Bool.and_eq_true, beq_iff_eq] at he
            have : e = (c0.name, c0.srcHash) := Prod.ext he.2 he.1
            exact ⟨this ▸ hrest e (List.mem_cons_self ..), rest', fun x hx => hrest x (List.mem_cons_of_mem _ hx), h⟩
          · simp only [Bool.and_eq_true, List.contains_iff_mem] at h
            exact ⟨h.1, _, hrest, h.2⟩
      obtain ⟨h1, rest', hr', h2⟩ := key
      rcases List.mem_cons.mp hc with rfl | hc
      · exact h1
      · exact ih rest' hr' h2 c hc hcov
    · rw [if_neg h0] at h
      rcases List.mem_cons.mp hc with rfl | hc
      · exact absurd hcov h0
      · exact ih rest hrest h c hc hcov

end Dx

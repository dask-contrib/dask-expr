/-
  Lemmas/FusionPass.lean — the second half of `_fusion_pass` (group search): every group the search
  returns is `GroupOK`, for every iteration order `ord` of the dependency sets.
-/
import DxModel.Lemmas.FusionWalk
import DxModel.FusionCheck
namespace Dx.Fusion
open Dx

/-- What the search guarantees about a group `G` found in plan `dag` with root `planRoot`. -/
structure GroupOK (dag : Dag) (planRoot : Nat) (G : List Nat) : Prop where
  nonempty : G ≠ []
  nodup : G.Nodup
  /-- every member is a valid blockwise operation … -/
  blockwise : ∀ g ∈ G, isBw dag g = true
  /-- … of the plan -/
  reach : ∀ g ∈ G, Reach dag planRoot g
  /-- every dependent (blockwise or not) of a non-first member is a member -/
  closed : ∀ g ∈ G.tail, ∀ c, Reach dag planRoot c → g ∈ depsOf dag c → c ∈ G
  /-- a non-first member is an operand of a member … -/
  parent : ∀ g ∈ G.tail, ∃ c ∈ G, g ∈ depsOf dag c
  /-- … and has the first member's partition count or is broadcast to a consuming member -/
  npart : ∀ g ∈ G.tail, npartOf dag g = npartOf dag (G.headD 0) ∨
      ∃ c ∈ G, g ∈ depsOf dag c ∧ bcastN dag c g = true

/-- the iteration order only rearranges (or drops, or repeats) the elements of the set -/
def OrdOK (ord : Nat → List Nat → List Nat) : Prop := ∀ n l x, x ∈ ord n l → x ∈ l

/-! ### the `for dep_name in dependencies[next._name]` loop -/

/-- invariant rule of the loop: `P` is kept when a dependency that fits is pushed on the stack and when a
    dependency is put aside as a new root -/
theorem tryDeps_inv (dag : Dag) (m : Maps) (root nx : Nat) (group : List Nat)
    (P : List Nat × List Nat → Prop) (ds0 : List Nat)
    (hpush : ∀ d stack roots, d ∈ ds0 → P (stack, roots) →
      (npartOf dag d == npartOf dag root || bcastN dag nx d) = true →
      (∀ c ∈ m.dependents.val d, c ∈ stack ∨ c ∈ group) → P (d :: stack, roots))
    (hroot : ∀ d stack roots, d ∈ ds0 → P (stack, roots) → P (stack, d :: roots)) :
    ∀ (ds : List Nat), (∀ d ∈ ds, d ∈ ds0) → ∀ (s : List Nat × List Nat), P s →
      P (tryDeps dag m root nx group ds s) := by
  intro ds
  induction ds with
  | nil => intro _ s h; exact h
  | cons d ds ih =>
    intro hsub s h
    obtain ⟨stack, roots⟩ := s
    have hd := hsub d List.mem_cons_self
    have hsub' : ∀ x ∈ ds, x ∈ ds0 := fun x hx => hsub x (List.mem_cons_of_mem _ hx)
    simp only [tryDeps]
    by_cases hc : ((npartOf dag d == npartOf dag root || bcastN dag nx d) &&
        (m.dependents.val d).all (fun c => decide (c ∈ stack) || decide (c ∈ group))) = true
    · rw [if_pos hc]
      rw [Bool.and_eq_true, List.all_eq_true] at hc
      exact ih hsub' _ (hpush d stack roots hd h hc.1 fun c hcd => by simpa using hc.2 c hcd)
    · rw [if_neg hc]
      by_cases hr : (!(m.dependencies.val d).isEmpty && !decide (d ∈ roots)) = true
      · rw [if_pos hr]
        exact ih hsub' _ (hroot d stack roots hd h)
      · rw [if_neg hr]
        exact ih hsub' _ h

/-! ### the inner `while stack:` loop -/

/-- `x` may sit in the group of `root`: all its recorded dependents are in `S`, it is an operand of
    an element of `S`, and its partition count fits -/
structure Fits (dag : Dag) (m : Maps) (root : Nat) (S : List Nat) (x : Nat) : Prop where
  closed : ∀ c ∈ m.dependents.val x, c ∈ S
  parent : ∃ c ∈ S, x ∈ depsOf dag c
  npart : npartOf dag x = npartOf dag root ∨ ∃ c ∈ S, x ∈ depsOf dag c ∧ bcastN dag c x = true

theorem Fits.mono {dag : Dag} {m : Maps} {root : Nat} {S S' : List Nat} {x : Nat}
    (h : Fits dag m root S x) (hs : ∀ y ∈ S, y ∈ S') : Fits dag m root S' x := by
  refine ⟨fun c hc => hs c (h.closed c hc), ?_, ?_⟩
  · obtain ⟨c, hc, hx⟩ := h.parent
    exact ⟨c, hs c hc, hx⟩
  · rcases h.npart with h1 | ⟨c, hc, hx, hb⟩
    · exact Or.inl h1
    · exact Or.inr ⟨c, hs c hc, hx, hb⟩

/-- What holds while the inner `while stack:` loop searches the group of `root`: `seen` is the group as a set;
    stack and group hold visited blockwise nodes, each of them `root` or fitting into stack ∪ group;
    `root` is the first node moved from the stack into the group (`start`, `head`); new roots are visited
    blockwise nodes. -/
structure DInv (dag : Dag) (m : Maps) (root : Nat) (st group seen roots : List Nat) : Prop where
  seen_group : ∀ x, x ∈ seen ↔ x ∈ group
  nodup : group.Nodup
  member : ∀ x, x ∈ st ∨ x ∈ group → isBw dag x = true ∧ x ∈ m.seen
  fits : ∀ x, x ∈ st ∨ x ∈ group → x = root ∨ Fits dag m root (st ++ group) x
  start : group = [] → st = [root]
  head : group ≠ [] → group.head? = some root
  roots_member : ∀ r ∈ roots, isBw dag r = true ∧ r ∈ m.seen

section steps
variable {dag : Dag} {m : Maps} {root nx : Nat} {st group seen roots : List Nat}

/-- popping a member keeps the invariant -/
theorem DInv.skip (h : DInv dag m root (nx :: st) group seen roots) (hs : nx ∈ seen) :
    DInv dag m root st group seen roots := by
  have hg : nx ∈ group := (h.seen_group nx).mp hs
  have hsub : ∀ y ∈ (nx :: st) ++ group, y ∈ st ++ group := by
    intro y hy
    rcases List.mem_append.mp hy with hy | hy
    · rcases List.mem_cons.mp hy with rfl | hy
      · exact List.mem_append_right _ hg
      · exact List.mem_append_left _ hy
    · exact List.mem_append_right _ hy
  exact ⟨h.seen_group, h.nodup, fun x hx => h.member x (hx.imp_left (List.mem_cons_of_mem _)),
    fun x hx => (h.fits x (hx.imp_left (List.mem_cons_of_mem _))).imp_right fun h1 => h1.mono hsub,
    fun hge => absurd (hge ▸ hg) List.not_mem_nil, h.head, h.roots_member⟩

/-- the popped node becomes the last member -/
theorem DInv.move (h : DInv dag m root (nx :: st) group seen roots) (hs : nx ∉ seen) :
    DInv dag m root st (group ++ [nx]) (nx :: seen) roots := by
  have hng : nx ∉ group := fun hg => hs ((h.seen_group nx).mpr hg)
  have hold : ∀ x, x ∈ st ∨ x ∈ group ++ [nx] → x ∈ nx :: st ∨ x ∈ group := by
    intro x hx
    rcases hx with hx | hx
    · exact Or.inl (List.mem_cons_of_mem _ hx)
    · rcases List.mem_append.mp hx with hx | hx
      · exact Or.inr hx
      · exact Or.inl (List.mem_singleton.mp hx ▸ List.mem_cons_self)
  have hsub : ∀ y ∈ (nx :: st) ++ group, y ∈ st ++ (group ++ [nx]) := by
    intro y hy
    rcases List.mem_append.mp hy with hy | hy
    · rcases List.mem_cons.mp hy with rfl | hy
      · exact List.mem_append_right _ (List.mem_append_right _ List.mem_cons_self)
      · exact List.mem_append_left _ hy
    · exact List.mem_append_right _ (List.mem_append_left _ hy)
  refine ⟨fun x => ?_, ?_, fun x hx => h.member x (hold x hx),
    fun x hx => (h.fits x (hold x hx)).imp_right fun h1 => h1.mono hsub,
    fun hge => absurd hge (List.append_ne_nil_of_right_ne_nil _ (List.cons_ne_nil _ _)), fun _ => ?_, h.roots_member⟩
  · rw [List.mem_cons, List.mem_append, List.mem_singleton, h.seen_group x]
    exact Or.comm
  · exact nodup_snoc h.nodup hng
  · cases hgr : group with
    | nil => exact congrArg some (List.cons.inj (h.start hgr)).1
    | cons a t =>
      have := h.head (hgr ▸ List.cons_ne_nil a t)
      rw [hgr] at this
      exact this

/-- a node that fits is pushed on the stack -/
theorem DInv.push (h : DInv dag m root st group seen roots) (hG : group ≠ []) {d : Nat}
    (hd : isBw dag d = true ∧ d ∈ m.seen) (hf : Fits dag m root ((d :: st) ++ group) d) :
    DInv dag m root (d :: st) group seen roots := by
  have hsub : ∀ y ∈ st ++ group, y ∈ (d :: st) ++ group := fun y hy => List.mem_cons_of_mem _ hy
  refine ⟨h.seen_group, h.nodup, fun x hx => ?_, fun x hx => ?_, fun hge => absurd hge hG, h.head, h.roots_member⟩
  · rcases hx with hx | hx
    · rcases List.mem_cons.mp hx with rfl | hx
      · exact hd
      · exact h.member x (Or.inl hx)
    · exact h.member x (Or.inr hx)
  · have hold := fun hx => (h.fits x hx).imp_right fun h1 => h1.mono hsub
    rcases hx with hx | hx
    · rcases List.mem_cons.mp hx with rfl | hx
      · exact Or.inr hf
      · exact hold (Or.inl hx)
    · exact hold (Or.inr hx)

end steps

theorem dfs_inv (dag : Dag) (planRoot : Nat) (m : Maps) (hm : WInv dag planRoot [] m)
    (ord : Nat → List Nat → List Nat) (hord : OrdOK ord) (root : Nat) :
    ∀ (fuel : Nat) (st group seen roots : List Nat) (s : Search),
      DInv dag m root st group seen roots →
      dfs dag m ord root fuel st group seen roots = some s →
      DInv dag m root [] s.group s.group s.roots := by
  have hdone : ∀ {group seen roots : List Nat}, DInv dag m root [] group seen roots →
      DInv dag m root [] group group roots :=
    fun h => ⟨fun _ => Iff.rfl, h.nodup, h.member, h.fits, h.start, h.head, h.roots_member⟩
  intro fuel
  induction fuel with
  | zero =>
    intro st group seen roots s h hd
    cases st with
    | nil => simp only [dfs] at hd; cases hd; exact hdone h
    | cons a t => simp [dfs] at hd
  | succ fuel ih =>
    intro st group seen roots s h hd
    cases st with
    | nil => simp only [dfs] at hd; cases hd; exact hdone h
    | cons nx st =>
      simp only [dfs] at hd
      by_cases hs : nx ∈ seen
      · simp only [hs, if_true] at hd
        exact ih st group seen roots s (h.skip hs) hd
      · simp only [hs, if_false] at hd
        have hnxm := h.member nx (Or.inl List.mem_cons_self)
        -- a recorded dependency of `nx` is a visited blockwise operand of `nx`
        have hdep : ∀ d ∈ ord nx (m.dependencies.val nx),
            (isBw dag d = true ∧ d ∈ m.seen) ∧ d ∈ depsOf dag nx := by
          intro d hd0
          obtain ⟨hdbw, hddep, _⟩ := hm.dependencies_sound nx d (hord _ _ _ hd0)
          exact ⟨⟨hdbw, (hm.closure nx hnxm.2 d hddep).resolve_right List.not_mem_nil⟩, hddep⟩
        have hnxG : nx ∈ group ++ [nx] := List.mem_append_right _ List.mem_cons_self
        refine ih _ _ _ _ s ?_ hd
        refine tryDeps_inv dag m root nx (group ++ [nx])
          (fun s => DInv dag m root s.1 (group ++ [nx]) (nx :: seen) s.2) (ord nx (m.dependencies.val nx))
          ?_ ?_ _ (fun _ h => h) (st, roots) (h.move hs)
        · intro d stack roots' hd0 hq hnp hcl
          obtain ⟨hdm, hddep⟩ := hdep d hd0
          refine hq.push (List.append_ne_nil_of_right_ne_nil _ (List.cons_ne_nil _ _)) hdm
            ⟨fun c hc => ?_, ⟨nx, List.mem_append_right _ hnxG, hddep⟩, ?_⟩
          · exact List.mem_append.mpr ((hcl c hc).imp_left (List.mem_cons_of_mem _))
          · rw [Bool.or_eq_true, beq_iff_eq] at hnp
            exact hnp.imp_right fun h1 => ⟨nx, List.mem_append_right _ hnxG, hddep, h1⟩
        · intro d stack roots' hd0 hq
          exact ⟨hq.seen_group, hq.nodup, hq.member, hq.fits, hq.start, hq.head, fun r hr =>
            (List.mem_cons.mp hr).elim (fun e => e ▸ (hdep d hd0).1) (hq.roots_member r)⟩

theorem DInv.groupOK {dag : Dag} {planRoot : Nat} {m : Maps} (hm : WInv dag planRoot [] m)
    {root : Nat} {G seen roots : List Nat} (h : DInv dag m root [] G seen roots) (hne : G ≠ []) :
    GroupOK dag planRoot G := by
  obtain ⟨r, tail, rfl⟩ := List.exists_cons_of_ne_nil hne
  obtain rfl : r = root := Option.some.inj (h.head hne)
  have hnd := List.nodup_cons.mp h.nodup
  -- a member other than the root fits, and the stack is empty
  have htail : ∀ g ∈ tail, Fits dag m r (r :: tail) g := fun g hg =>
    (h.fits g (Or.inr (List.mem_cons_of_mem _ hg))).elim (fun e => absurd (e ▸ hg) hnd.1) id
  have hbw : ∀ g ∈ r :: tail, isBw dag g = true ∧ g ∈ m.seen := fun g hg => h.member g (Or.inr hg)
  exact ⟨hne, h.nodup, fun g hg => (hbw g hg).1, fun g hg => seen_reach dag planRoot m hm g (hbw g hg).2,
    fun g hg c hc hdep => (htail g hg).closed c
      (hm.edges c (reach_seen dag planRoot m hm c hc) g hdep (hbw g (List.mem_cons_of_mem _ hg)).1),
    fun g hg => (htail g hg).parent, fun g hg => (htail g hg).npart⟩

/-! ### the `while roots:` loop and the pass -/

theorem findGroup_inv (dag : Dag) (planRoot : Nat) (m : Maps) (hm : WInv dag planRoot [] m)
    (ord : Nat → List Nat → List Nat) (hord : OrdOK ord) (dfsFuel : Nat) :
    ∀ (fuel : Nat) (roots : List Nat) (s : Search),
      (∀ r ∈ roots, isBw dag r = true ∧ r ∈ m.seen) →
      findGroup dag m ord dfsFuel fuel roots = some (some s) →
      GroupOK dag planRoot s.group ∧ 2 ≤ s.group.length := by
  intro fuel
  induction fuel with
  | zero =>
    intro roots s _ hf
    cases roots <;> simp [findGroup] at hf
  | succ fuel ih =>
    intro roots s hr hf
    cases roots with
    | nil => simp [findGroup] at hf
    | cons r rs =>
      simp only [findGroup] at hf
      cases hd : dfs dag m ord r dfsFuel [r] [] [] rs with
      | none => simp [hd] at hf
      | some s' =>
        simp only [hd] at hf
        have hinit : DInv dag m r [r] [] [] rs :=
          ⟨fun _ => Iff.rfl, List.nodup_nil,
            fun x hx => hx.elim (fun hx => List.mem_singleton.mp hx ▸ hr r List.mem_cons_self) (fun hx => nomatch hx),
            fun x hx => hx.elim (fun hx => Or.inl (List.mem_singleton.mp hx)) (fun hx => nomatch hx),
            fun _ => rfl, fun h => absurd rfl h, fun x hx => hr x (List.mem_cons_of_mem _ hx)⟩
        have hfin := dfs_inv dag planRoot m hm ord hord r dfsFuel _ _ _ _ s' hinit hd
        by_cases hl : s'.group.length > 1
        · simp only [hl, if_true, Option.some.injEq] at hf
          subst hf
          exact ⟨hfin.groupOK hm (List.ne_nil_of_length_pos (Nat.lt_trans Nat.zero_lt_one hl)), hl⟩
        · simp only [hl, if_false] at hf
          exact ih _ s hfin.roots_member hf

theorem rootsOf_member (dag : Dag) (planRoot : Nat) (m : Maps) (hm : WInv dag planRoot [] m) :
    ∀ r ∈ (rootsOf dag m).reverse, isBw dag r = true ∧ r ∈ m.seen := by
  intro r hr
  obtain ⟨hb, hs⟩ := hm.keys_bw r (List.mem_filter.mp (List.mem_reverse.mp hr)).1
  exact ⟨hb, hs.resolve_right (fun h => nomatch h)⟩

/-- what a successful pass returns -/
theorem fusionPass_some (ord : Nat → List Nat → List Nat) (dag : Dag) (root : Nat)
    (r : PassResult) (G : List Nat) (h : fusionPass ord dag root = some r) (hg : r.group = some G) :
    ∃ m s, globalMaps dag root = some m ∧
      findGroup dag m ord (walkFuel dag) (loopFuel dag) (rootsOf dag m).reverse = some (some s) ∧
      s.group = G ∧
      r.dag = substitute dag (G.headD 0) (fusedNode dag G).name ++ [fusedNode dag G] ∧
      r.root = (if root = G.headD 0 then (fusedNode dag G).name else root) := by
  unfold fusionPass at h
  cases hm : globalMaps dag root with
  | none => simp only [hm] at h; cases h
  | some m =>
    simp only [hm] at h
    cases hf : findGroup dag m ord (walkFuel dag) (loopFuel dag) (rootsOf dag m).reverse with
    | none => simp only [hf] at h; cases h
    | some o =>
      simp only [hf] at h
      cases o with
      | none => cases h; cases hg
      | some s => cases h; cases hg; exact ⟨m, s, rfl, hf, rfl, rfl, rfl⟩

/-- … and of a pass that found no group -/
theorem fusionPass_none_group (ord : Nat → List Nat → List Nat) (dag : Dag) (root : Nat) (r : PassResult)
    (h : fusionPass ord dag root = some r) (hg : r.group = none) : r.dag = dag ∧ r.root = root := by
  unfold fusionPass at h
  cases hm : globalMaps dag root with
  | none => simp only [hm] at h; cases h
  | some m =>
    simp only [hm] at h
    cases hf : findGroup dag m ord (walkFuel dag) (loopFuel dag) (rootsOf dag m).reverse with
    | none => simp only [hf] at h; cases h
    | some o =>
      simp only [hf] at h
      cases o with
      | none => cases h; exact ⟨rfl, rfl⟩
      | some s => cases h; cases hg

theorem fusionPass_groupOK (ord : Nat → List Nat → List Nat) (hord : OrdOK ord) (dag : Dag) (root : Nat)
    (r : PassResult) (G : List Nat) (h : fusionPass ord dag root = some r) (hg : r.group = some G) :
    GroupOK dag root G ∧ 2 ≤ G.length := by
  obtain ⟨m, s, hm, hf, hs, _, _⟩ := fusionPass_some ord dag root r G h hg
  have hw := globalMaps_inv dag root m hm
  have := findGroup_inv dag root m hw ord hord _ _ _ s (rootsOf_member dag root m hw) hf
  rw [hs] at this
  exact this

/-! ### soundness of the executable group checker -/

theorem nodupB_spec : ∀ (l : List Nat), nodupB l = true → l.Nodup := by
  intro l
  induction l with
  | nil => intro _; exact List.nodup_nil
  | cons a t ih =>
    intro h
    simp only [nodupB, Bool.and_eq_true, Bool.not_eq_true', decide_eq_false_iff_not] at h
    exact List.nodup_cons.mpr ⟨h.1, ih h.2⟩

theorem groupOKb_sound (dag : Dag) (root : Nat) (G : List Nat) (h : groupOKb dag root G = true) :
    GroupOK dag root G := by
  unfold groupOKb at h
  cases hm : globalMaps dag root with
  | none => simp [hm] at h
  | some m =>
    have hw := globalMaps_inv dag root m hm
    simp only [hm, Bool.and_eq_true, Bool.not_eq_true', List.all_eq_true, decide_eq_true_eq,
      Bool.or_eq_true, beq_iff_eq, List.any_eq_true] at h
    obtain ⟨⟨⟨hne, hnd⟩, hmem⟩, htail⟩ := h
    refine ⟨?_, nodupB_spec G hnd, fun g hg => (hmem g hg).1, ?_, ?_, ?_, ?_⟩
    · intro h0; rw [h0] at hne; cases hne
    · exact fun g hg => seen_reach dag root m hw g (hmem g hg).2
    · exact fun g hg c hc hdep => (htail g hg).1.1 c
        (hw.edges c (reach_seen dag root m hw c hc) g hdep (hmem g (List.mem_of_mem_tail hg)).1)
    · exact fun g hg => (htail g hg).1.2
    · exact fun g hg => (htail g hg).2

end Dx.Fusion

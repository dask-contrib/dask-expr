/-
  Lemmas/GroupJoin.lean — group aggregation and joins commute with a key-consistent split.
-/
import DxModel.Layers.GroupJoin
import DxModel.Lemmas.ShufflePerm
namespace Dx
open GJ

theorem filter_comm' {α} (p q : α → Bool) (l : List α) : (l.filter p).filter q = (l.filter q).filter p := by
  rw [List.filter_filter, List.filter_filter]
  apply List.filter_congr
  intro x _
  exact Bool.and_comm _ _

theorem keysOf_filter {κ} [DecidableEq κ] (p : κ → Bool) (l : List κ) :
    keysOf (l.filter p) = (keysOf l).filter p := by
  induction l with
  | nil => rfl
  | cons k t ih =>
    cases hp : p k with
    | true =>
      simp only [List.filter_cons, hp, if_true, keysOf, ih]
      rw [filter_comm']
    | false =>
      simp only [List.filter_cons, hp, keysOf, ih, Bool.false_eq_true, if_false]
      rw [List.filter_filter]
      apply List.filter_congr
      intro x _
      by_cases hx : x = k
      · subst hx; simp [hp]
      · simp [hx]

/-- among the rows with key `k`, a further test of the key that `k` passes drops none -/
theorem beq_and_eq_beq {κ} [DecidableEq κ] (P : κ → Bool) {k : κ} (hk : P k = true) (x : κ) :
    (x == k && P x) = (x == k) := by
  cases hx : x == k
  · rfl
  · rw [eq_of_beq hx, hk]
    rfl

theorem groupApply_filter {κ β} [DecidableEq κ] (key : Row → κ) (f : κ → List Row → List β)
    (p : κ → Bool) (l : List Row) :
    groupApply key f (l.filter (fun r => p (key r))) =
      ((keysOf (l.map key)).filter p).flatMap (fun k => f k (l.filter (fun r => key r == k))) := by
  unfold groupApply
  have hm : (l.filter (fun r => p (key r))).map key = (l.map key).filter p := List.filter_map.symm
  rw [hm, keysOf_filter]
  exact flatMap_congr' _ _ _ fun k hk => congrArg (f k) (List.filter_filter.trans
    (List.filter_congr fun r _ => beq_and_eq_beq p (List.mem_filter.mp hk).2 (key r)))

/-- splitting the rows by a function of the key, aggregating each piece group-wise and
    concatenating gives the groups of the whole frame, in some order -/
theorem groupApply_split {κ β} [DecidableEq κ] (key : Row → κ) (f : κ → List Row → List β)
    (tgt : κ → Nat) (n : Nat) (hn : ∀ k, tgt k < n) (l : List Row) :
    ((List.range n).flatMap (fun o => groupApply key f (l.filter (fun r => tgt (key r) == o)))).Perm
      (groupApply key f l) := by
  -- the groups of piece `o` are the groups of the whole frame whose key goes to `o`, so the keys are split, not the rows
  refine .trans (.of_eq ?_) (List.Perm.flatMap_right _ (split_perm (keysOf (l.map key)) tgt n (fun k _ => hn k)))
  rw [List.flatMap_assoc]
  exact flatMap_congr' _ _ _ fun o _ => groupApply_filter key f (fun k => tgt k == o) l

/-- the rows with key `k` lie in piece `tgt k` of a split by `tgt` of the key -/
theorem filter_piece_key {κ} [DecidableEq κ] (key : Row → κ) (tgt : κ → Nat) (k : κ) (R : List Row) :
    (R.filter (fun r => tgt (key r) == tgt k)).filter (fun r => key r == k) = R.filter (fun r => key r == k) :=
  List.filter_filter.trans
    (List.filter_congr fun r _ => beq_and_eq_beq (fun x => tgt x == tgt k) (beq_self_eq_true _) (key r))

/-- A loop over the left rows whose body needs of the right side only the piece the left row itself
    falls in commutes with a split of both sides by one function of the key. -/
theorem flatMap_split_perm {κ β} (keyL keyR : Row → κ) (tgt : κ → Nat) (n : Nat) (hn : ∀ k, tgt k < n)
    (F : Row → List Row → List β) (L R : List Row)
    (hF : ∀ l, F l (R.filter (fun r => tgt (keyR r) == tgt (keyL l))) = F l R) :
    ((List.range n).flatMap (fun o =>
        (L.filter (fun l => tgt (keyL l) == o)).flatMap (fun l => F l (R.filter (fun r => tgt (keyR r) == o))))).Perm
      (L.flatMap (fun l => F l R)) := by
  refine .trans (.of_eq ?_)
    (List.Perm.flatMap_right (fun l => F l R) (split_perm L (fun l => tgt (keyL l)) n (fun l _ => hn _)))
  rw [List.flatMap_assoc]
  refine flatMap_congr' _ _ _ fun o _ => flatMap_congr' _ _ _ fun l hl => ?_
  rw [← eq_of_beq (List.mem_filter.mp hl).2]
  exact hF l

/-- partition-wise inner join of two frames split by the same function of the key -/
theorem joinInner_split {κ} [DecidableEq κ] (keyL keyR : Row → κ) (tgt : κ → Nat) (n : Nat)
    (hn : ∀ k, tgt k < n) (L R : List Row) :
    ((List.range n).flatMap (fun o =>
        joinInner keyL keyR (L.filter (fun l => tgt (keyL l) == o)) (R.filter (fun r => tgt (keyR r) == o)))).Perm
      (joinInner keyL keyR L R) :=
  flatMap_split_perm keyL keyR tgt n hn (fun l m => (m.filter (fun r => keyR r == keyL l)).map (fun r => (l, r))) L R
    (fun l => congrArg (List.map fun r => (l, r)) (filter_piece_key keyR tgt (keyL l) R))

theorem joinLeft_split {κ} [DecidableEq κ] (keyL keyR : Row → κ) (tgt : κ → Nat) (n : Nat)
    (hn : ∀ k, tgt k < n) (L R : List Row) :
    ((List.range n).flatMap (fun o =>
        joinLeft keyL keyR (L.filter (fun l => tgt (keyL l) == o)) (R.filter (fun r => tgt (keyR r) == o)))).Perm
      (joinLeft keyL keyR L R) :=
  flatMap_split_perm keyL keyR tgt n hn (fun l m => padLeft l (m.filter (fun r => keyR r == keyL l))) L R
    (fun l => congrArg (padLeft l) (filter_piece_key keyR tgt (keyL l) R))

/-- broadcast join: the small side is replicated to every partition of the large side -/
theorem joinInner_broadcast {κ} [DecidableEq κ] (keyL keyR : Row → κ) (parts : List (List Row)) (R : List Row) :
    parts.flatMap (fun Li => joinInner keyL keyR Li R) = joinInner keyL keyR parts.flatten R := by
  unfold joinInner
  rw [List.flatten_eq_flatMap, List.flatMap_assoc]
  rfl

end Dx

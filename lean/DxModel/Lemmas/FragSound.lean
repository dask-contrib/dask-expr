/-
  Lemmas/FragSound.lean — every rule of the fragment's rule system (`fragRules`, DxModel/Fragment.lean) is sound for the
  fragment's denotation: its output is defined, with the same value, whenever the expression it replaces is.
  Also: the concrete list interpretation satisfies the laws the OR-factoring rule needs.
-/
import DxModel.Lemmas.FragRules
import DxModel.Lemmas.FragPred
import DxModel.Lemmas.FragAssign
import DxModel.Lemmas.FragConcat
import DxModel.Lemmas.FragMerge
namespace Dx.Frag
open Dx Dx.Cols

variable {γ ι : Type}

/-- `child._simplify_up(parent, dependents)`, for ANY dependents map -/
theorem fragUp_sound (I : Interp γ ι) (hI : MaskLaws I) {c p o : Expr} {d : Deps} (h : fragUp c p d = some o) :
    ∀ v, den I p = some v → den I o = some v := by
  unfold fragUp at h
  -- one goal per arm of `fragUp`, in its order; each names the operands the arm binds, then `c.op = …`, `c.args = …`
  split at h
  · rename_i l hop hargs; exact upSrc_sound I hop hargs h
  · rename_i op x hop hargs; exact upElem_sound I hop hargs h
  · rename_i op k x hop hargs; exact upBinK_sound I hop hargs h
  · rename_i op a b hop hargs; exact upBin_sound I hop hargs h
  · rename_i keys x vals hop hargs; exact upAssign_sound I hop hargs h
  · rename_i m x hop hargs; exact upRename_sound I hop hargs h
  · rename_i x q hop hargs
    unfold upFilter at h
    cases hor : orRewrite q with
    | some q' =>
      rw [hor] at h
      cases h
      exact upFilterOr_sound I hI hop hargs hor
    | none =>
      rw [hor] at h
      exact upFilterProj_sound I hop hargs h
  · rename_i how m a b hop hargs; exact upMerge_sound I hop hargs h
  · rename_i inner hop; exact upConcat_sound I hop rfl h
  · cases h

/-- `e._simplify_down()` -/
theorem fragDown_sound (I : Interp γ ι) {e o : Expr} (h : fragDown e = some o) :
    ∀ v, den I e = some v → den I o = some v := by
  unfold fragDown at h
  split at h
  · rename_i sel x hop hargs; exact downProj_sound I hop hargs h
  · rename_i keys x vals hop hargs; exact downAssign_sound I hop hargs h
  · cases h

/-! ### the list interpretation -/

theorem padZip_getD (f : Int → Int → Int) (hf : f 0 0 = 0) : ∀ (x y : List Int) (i : Nat),
    (padZip f x y).getD i 0 = f (x.getD i 0) (y.getD i 0)
  | [], [], _ => hf.symm
  | [], _ :: _, 0 => rfl
  | [], _ :: bs, i + 1 => padZip_getD f hf [] bs i
  | _ :: _, [], 0 => rfl
  | _ :: as, [], i + 1 => padZip_getD f hf as [] i
  | _ :: _, _ :: _, 0 => rfl
  | _ :: as, _ :: bs, i + 1 => padZip_getD f hf as bs i

theorem maskL_ext (m m' : List Int) (h : ∀ i, (m.getD i 0 != 0) = (m'.getD i 0 != 0)) :
    ∀ (x : List Int) (k : Nat), maskL k m x = maskL k m' x
  | [], _ => rfl
  | a :: as, k => by
    simp only [maskL, h k, maskL_ext m m' h as (k + 1)]

theorem b2i_ne (b : Bool) : (b2i b != 0) = b := by cases b <;> rfl

theorem listI_laws (tables : Nat → Name → Option (List Int)) : MaskLaws (listI tables) where
  bit_and := by
    intro a b i
    show ((padZip (fun a b => b2i (a != 0 && b != 0)) a b).getD i 0 != 0) = _
    rw [padZip_getD _ (by decide), b2i_ne]
    rfl
  bit_or := by
    intro a b i
    show ((padZip (fun a b => b2i (a != 0 || b != 0)) a b).getD i 0 != 0) = _
    rw [padZip_getD _ (by decide), b2i_ne]
    rfl
  mask_ext := by
    intro m m' h
    funext x
    exact maskL_ext m m' h x 0

end Dx.Frag

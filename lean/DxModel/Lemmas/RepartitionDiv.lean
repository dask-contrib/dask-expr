/-
  Lemmas/RepartitionDiv.lean — `DivInv` (truthful divisions), read by partition number, and its preservation
  when consecutive partitions are merged, dropped or cut (`divInv_coarsen`; RepartitionToFewer is the instance
  "whole range"); soundness of the plan validator `planOK` (C13_div_validator) through interval filters on the
  sorted rows; the link between the emitted graph and its plan.
-/
import DxModel.Lemmas.Repartition
namespace Dx.Repartition
open Dx

/-! ### list facts -/

theorem getD_of_getElem? {α} {d : List α} {i : Nat} {v a : α} (h : d[i]? = some v) : d.getD i a = v := by
  rw [List.getD_eq_getElem?_getD, h]; rfl

theorem getElem?_getD {α} {d : List α} {i : Nat} (a : α) (h : i < d.length) : d[i]? = some (d.getD i a) := by
  rw [List.getD_eq_getElem?_getD, List.getElem?_eq_getElem h]; rfl

theorem getD_eq_of_getElem? {α} {d d' : List α} {i j : Nat} (a : α) (h : d'[j]? = d[i]?) :
    d'.getD j a = d.getD i a := by
  rw [List.getD_eq_getElem?_getD, List.getD_eq_getElem?_getD, h]

theorem pairwise_getD {α} {R : α → α → Prop} {l : List α} (h : l.Pairwise R) (a : α) {i j : Nat} (hij : i < j)
    (hj : j < l.length) : R (l.getD i a) (l.getD j a) :=
  pairwise_getElem? h hij (getElem?_getD a (Nat.lt_trans hij hj)) (getElem?_getD a hj)

theorem pairwise_of_getD {α} {R : α → α → Prop} {l : List α} (a : α)
    (h : ∀ i j, i < j → j < l.length → R (l.getD i a) (l.getD j a)) : l.Pairwise R :=
  pairwise_of_getElem? fun i j _ _ hij hx hy =>
    getD_of_getElem? (a := a) hx ▸ getD_of_getElem? (a := a) hy ▸ h i j hij (List.getElem?_eq_some_iff.mp hy).1

theorem pairwise_of_map_sublist {f : Row → Int} {l l' : List Row}
    (hs : (l'.map f).Sublist (l.map f)) (hp : l.Pairwise (fun r s => f r ≤ f s)) :
    l'.Pairwise (fun r s => f r ≤ f s) :=
  List.pairwise_map.mp ((List.pairwise_map.mpr hp).sublist hs)

theorem flatMap_range'_sublist {β} (f : Nat → List β) {s c n : Nat} (h : s + c ≤ n) :
    ((List.range' s c).flatMap f).Sublist ((List.range n).flatMap f) := by
  have e : List.range n = List.range' 0 s ++ (List.range' s c ++ List.range' (s + c) (n - (s + c))) := by
    have := List.range'_append_1 (s := 0) (m := s) (n := c + (n - (s + c)))
    rw [Nat.zero_add] at this
    rw [List.range'_append_1, this, List.range_eq_range']
    rw [← Nat.add_assoc, Nat.add_sub_cancel' h]
  rw [e, List.flatMap_append, List.flatMap_append]
  exact (List.sublist_append_left _ _).trans (List.sublist_append_right _ _)

theorem flatMap_single {β} (F : Nat → List β) : ∀ n i, i < n → (∀ k, k < n → k ≠ i → F k = []) →
    (List.range n).flatMap F = F i := by
  intro n
  induction n with
  | zero => intro i hi; exact absurd hi (Nat.not_lt_zero i)
  | succ n ih =>
    intro i hi h
    rw [flatMap_range_succ]
    by_cases hin : i = n
    · subst hin
      rw [List.flatMap_eq_nil_iff.mpr fun k hk => h k (Nat.lt_succ_of_lt (List.mem_range.mp hk))
        (Nat.ne_of_lt (List.mem_range.mp hk))]
      rfl
    · rw [ih i (Nat.lt_of_le_of_ne (Nat.le_of_lt_succ hi) hin) (fun k hk hki => h k (Nat.lt_succ_of_lt hk) hki),
        h n (Nat.lt_succ_self n) (Ne.symm hin), List.append_nil]

theorem filterMap_flatMap {α β γ} (g : α → Option β) (f : β → List γ) : ∀ l : List α,
    (l.filterMap g).flatMap f = l.flatMap (fun x => (g x).elim [] f)
  | [] => rfl
  | x :: t => by
    rw [List.filterMap_cons, List.flatMap_cons, ← filterMap_flatMap g f t]
    cases g x <;> rfl

/-! ### sorted division lists -/

theorem sorted_getElem? {d : List Int} (hs : d.Pairwise (· ≤ ·)) {i j : Nat} {x y : Int} (hij : i ≤ j)
    (hx : d[i]? = some x) (hy : d[j]? = some y) : x ≤ y := by
  rcases Nat.lt_or_eq_of_le hij with h | rfl
  · exact pairwise_getElem? hs h hx hy
  · exact Int.le_of_eq (Option.some.inj (hx.symm.trans hy))

theorem isSorted_cons {a b : Int} {t : List Int} : isSorted (a :: b :: t) = true ↔ a ≤ b ∧ isSorted (b :: t) = true := by
  simp [isSorted]

theorem isSorted_pairwise (d : List Int) (h : isSorted d = true) : d.Pairwise (· ≤ ·) :=
  pairwise_of_adjacent (R := (· ≤ ·)) (fun _ _ _ => Int.le_trans) (P := fun l => isSorted l = true)
    (fun _ _ _ => isSorted_cons.mp) d h

/-- Divisions are truthful: `d` is sorted, has one more entry than there are partitions, every row of
    partition `i` has its index in `[d[i], d[i+1])` (the last partition is right-inclusive), and the rows
    of a partition are sorted by index. -/
structure DivInv (d : List Int) (n : Nat) (parts : Nat → List Row) : Prop where
  len : d.length = n + 1
  sorted : d.Pairwise (· ≤ ·)
  bounds : ∀ i lo hi, d[i]? = some lo → d[i+1]? = some hi → ∀ r ∈ parts i,
      lo ≤ r.idx ∧ (r.idx < hi ∨ (i + 2 = d.length ∧ r.idx = hi))
  rowsSorted : ∀ i, i < n → (parts i).Pairwise (fun r s => r.idx ≤ s.idx)

/-! ### `DivInv` by partition number

  `DivInv` speaks of divisions through `d[i]? = some lo`; below, the divisions are read with `getD`, so that
  the bounds of partition `i` are a statement about `i < n` alone. -/

theorem divInv_intro {d : List Int} {n : Nat} {parts : Nat → List Row} (hlen : d.length = n + 1)
    (hs : d.Pairwise (· ≤ ·))
    (hb : ∀ i, i < n → ∀ r ∈ parts i, d.getD i 0 ≤ r.idx ∧
      (r.idx < d.getD (i+1) 0 ∨ (i + 1 = n ∧ r.idx = d.getD (i+1) 0)))
    (hrs : ∀ i, i < n → (parts i).Pairwise (fun r s => r.idx ≤ s.idx)) : DivInv d n parts := by
  refine ⟨hlen, hs, ?_, hrs⟩
  intro i lo hi hlo hhi r hr
  have h1 := (List.getElem?_eq_some_iff.mp hhi).1
  rw [hlen] at h1
  have ⟨h2, h3⟩ := hb i (Nat.lt_of_succ_lt_succ h1) r hr
  rw [getD_of_getElem? hlo] at h2
  rw [getD_of_getElem? hhi] at h3
  exact ⟨h2, h3.imp id (fun ⟨a, b⟩ => ⟨by rw [hlen, ← a], b⟩)⟩

theorem divInv_bound {d : List Int} {n : Nat} {parts : Nat → List Row} (h : DivInv d n parts) {i : Nat}
    (hi : i < n) {r : Row} (hr : r ∈ parts i) :
    d.getD i 0 ≤ r.idx ∧ (r.idx < d.getD (i+1) 0 ∨ (i + 1 = n ∧ r.idx = d.getD (i+1) 0)) := by
  have hl := h.len
  have ⟨h1, h2⟩ := h.bounds i _ _ (getElem?_getD 0 (by rw [hl]; exact Nat.lt_succ_of_lt hi))
    (getElem?_getD 0 (by rw [hl]; exact Nat.succ_lt_succ hi)) r hr
  exact ⟨h1, h2.imp id (fun ⟨a, b⟩ => ⟨by rw [hl] at a; exact Nat.succ.inj a, b⟩)⟩

theorem divInv_mono {d : List Int} {n : Nat} {parts : Nat → List Row} (h : DivInv d n parts) {i j : Nat}
    (hij : i ≤ j) (hj : j ≤ n) : d.getD i 0 ≤ d.getD j 0 :=
  have hl : j < d.length := by rw [h.len]; exact Nat.lt_succ_of_le hj
  sorted_getElem? h.sorted hij (getElem?_getD 0 (Nat.lt_of_le_of_lt hij hl)) (getElem?_getD 0 hl)

/-- rows of an earlier partition come before rows of a later one -/
theorem divInv_cross {d : List Int} {n : Nat} {parts : Nat → List Row} (hinv : DivInv d n parts)
    {i j : Nat} (hij : i < j) (hj : j < n) {r s : Row} (hr : r ∈ parts i) (hs : s ∈ parts j) : r.idx ≤ s.idx :=
  Int.le_trans ((divInv_bound hinv (Nat.lt_trans hij hj) hr).2.elim Int.le_of_lt fun h => Int.le_of_eq h.2)
    (Int.le_trans (divInv_mono hinv (Nat.succ_le_of_lt hij) (Nat.le_of_lt hj)) (divInv_bound hinv hj hs).1)

/-! ### the rows, globally -/

def allRows (n : Nat) (parts : Nat → List Row) : List Row := (List.range n).flatMap parts

theorem allRows_sorted {d : List Int} {n : Nat} {parts : Nat → List Row} (hinv : DivInv d n parts) :
    (allRows n parts).Pairwise (fun r s => r.idx ≤ s.idx) :=
  List.pairwise_flatMap.mpr ⟨fun i hi => hinv.rowsSorted i (List.mem_range.mp hi),
    List.pairwise_lt_range.imp_of_mem fun _ hj hij _ hr _ hs => divInv_cross hinv hij (List.mem_range.mp hj) hr hs⟩

/-! ### `DivInv` when consecutive partitions are merged, dropped or cut -/

/-- Output `j` carries a sub-sequence of the index labels of the input partitions `pos j … pos (j+1) - 1`,
    in their order, and the new divisions are the old ones read at the positions `pos`: the divisions stay
    truthful.  (Row-local operators: `pos = id`; selections: the partitions after `pos j` are dropped; head,
    tail: one output; merging consecutive partitions: the whole range.) -/
theorem divInv_coarsen {d : List Int} {n : Nat} {parts : Nat → List Row} (hinv : DivInv d n parts)
    {d' : List Int} {m : Nat} {out : Nat → List Row} (pos : Nat → Nat) (hlen : d'.length = m + 1)
    (hpos : ∀ i j, i < j → j ≤ m → pos i < pos j) (hn : pos m ≤ n)
    (hd' : ∀ j, j ≤ m → d'.getD j 0 = d.getD (pos j) 0)
    (hsub : ∀ j, j < m → ((out j).map (·.idx)).Sublist
      (((List.range' (pos j) (pos (j+1) - pos j)).flatMap parts).map (·.idx))) :
    DivInv d' m out := by
  have hle : ∀ j, j ≤ m → pos j ≤ n := fun j hj =>
    (Nat.lt_or_eq_of_le hj).elim (fun h => Nat.le_trans (Nat.le_of_lt (hpos j m h (Nat.le_refl m))) hn)
      (fun h => h ▸ hn)
  refine divInv_intro hlen (pairwise_of_getD 0 ?_) ?_ ?_
  · intro i j hij hj
    rw [hlen] at hj
    have hj := Nat.le_of_lt_succ hj
    rw [hd' i (Nat.le_trans (Nat.le_of_lt hij) hj), hd' j hj]
    exact divInv_mono hinv (Nat.le_of_lt (hpos i j hij hj)) (hle j hj)
  · intro j hj r hr
    have hse := hpos j (j+1) (Nat.lt_succ_self j) hj
    have hen := hle (j+1) hj
    obtain ⟨r', hr', hrr⟩ := List.mem_map.mp ((hsub j hj).subset (List.mem_map_of_mem hr))
    obtain ⟨k, hk, hrk⟩ := List.mem_flatMap.mp hr'
    rw [List.mem_range'_1, Nat.add_sub_cancel' (Nat.le_of_lt hse)] at hk
    have hkn : k < n := Nat.lt_of_lt_of_le hk.2 hen
    have ⟨h1, h2⟩ := divInv_bound hinv hkn hrk
    rw [hd' j (Nat.le_of_lt hj), hd' (j+1) hj, ← hrr]
    refine ⟨Int.le_trans (divInv_mono hinv hk.1 (Nat.le_of_lt hkn)) h1, ?_⟩
    have hhi := divInv_mono hinv (Nat.succ_le_of_lt hk.2) hen
    rcases h2 with h2 | ⟨h2, h3⟩
    · exact Or.inl (Int.lt_of_lt_of_le h2 hhi)
    · -- `k` is the last input partition, so `j` is the last output: a further output would start after `n`
      have e : pos (j+1) = k + 1 := Nat.le_antisymm (h2 ▸ hen) (Nat.succ_le_of_lt hk.2)
      rw [e]
      refine Or.inr ⟨?_, h3⟩
      rcases Nat.lt_or_eq_of_le hj with hlt | heq
      · exact absurd (Nat.lt_of_lt_of_le (hpos (j+1) m hlt (Nat.le_refl m)) hn)
          (by rw [e, h2]; exact Nat.lt_irrefl n)
      · exact heq
  · intro j hj
    have hse := hpos j (j+1) (Nat.lt_succ_self j) hj
    exact pairwise_of_map_sublist
      ((hsub j hj).trans ((flatMap_range'_sublist parts
        (by rw [Nat.add_sub_cancel' (Nat.le_of_lt hse)]; exact hle (j+1) hj)).map _)) (allRows_sorted hinv)

/-! ### rows in doubled coordinates -/

/-- Row selected by the half-open interval `[l, h)` on *doubled* coordinates (`l ≤ 2·idx < h`).  Doubling turns a
    right-inclusive end `hi` into the exclusive end `2·hi + 1`, so that slices with and without `incl`, and the last
    partition's closed range, are all half-open intervals and can be chained and intersected alike. -/
def inIv (l h : Int) (r : Row) : Bool := decide (l ≤ 2 * r.idx) && decide (2 * r.idx < h)

theorem inIv_iff {l h : Int} {r : Row} : inIv l h r = true ↔ l ≤ 2 * r.idx ∧ 2 * r.idx < h := by
  simp [inIv]

/-- `+1` on the doubled right end of the last partition (right-inclusive) -/
def lastBit (len i : Nat) : Int := if i + 2 = len then 1 else 0

/-- The doubled interval `[2·lo, 2·hi (+1))` on plain coordinates: `[lo, hi)`, with `hi` itself when `p` holds.
    `p` is "last partition" for divisions and `incl` for `boundary_slice`. -/
theorem inIv_two_iff {p : Prop} [Decidable p] {lo hi : Int} {r : Row} :
    inIv (2 * lo) (2 * hi + (if p then 1 else 0)) r = true ↔ lo ≤ r.idx ∧ (r.idx < hi ∨ (p ∧ r.idx = hi)) := by
  have h2 : (0 : Int) < 2 := by decide
  rw [inIv_iff, Int.mul_le_mul_left h2]
  by_cases h : p
  · rw [if_pos h, Int.lt_add_one_iff, Int.mul_le_mul_left h2, Int.le_iff_lt_or_eq (a := r.idx)]
    simp only [h, true_and]
  · rw [if_neg h, Int.add_zero, Int.mul_lt_mul_left h2]
    simp only [h, false_and, or_false]

theorem inIv_lastBit_iff {len i : Nat} {lo hi : Int} {r : Row} :
    inIv (2 * lo) (2 * hi + lastBit len i) r = true ↔ lo ≤ r.idx ∧ (r.idx < hi ∨ (i + 2 = len ∧ r.idx = hi)) :=
  inIv_two_iff

/-- partitions own disjoint index ranges -/
theorem divInv_disjoint {d : List Int} {n : Nat} {parts : Nat → List Row} (hinv : DivInv d n parts)
    {i k : Nat} {lo hi : Int} (hlo : d[i]? = some lo) (hhi : d[i+1]? = some hi) (hk : k < n) (hki : k ≠ i)
    {r : Row} (hr : r ∈ parts k) : inIv (2 * lo) (2 * hi + lastBit d.length i) r = false := by
  have hin : i < n := Nat.lt_of_succ_lt_succ (hinv.len ▸ lt_of_getElem? hhi : i + 1 < n + 1)
  have ⟨h1, h2⟩ := divInv_bound hinv hk hr
  apply Bool.eq_false_iff.mpr
  intro hb
  have ⟨hb1, hb2⟩ := inIv_lastBit_iff.mp hb
  rw [← getD_of_getElem? (a := 0) hlo] at hb1
  rw [← getD_of_getElem? (a := 0) hhi, hinv.len] at hb2
  rcases Nat.lt_or_gt_of_ne hki with hlt | hgt
  · -- r.idx < d[k+1] ≤ d[i] = lo
    have hm := divInv_mono hinv (show k + 1 ≤ i from hlt) (Nat.le_of_lt hin)
    exact h2.elim (fun h => Int.lt_irrefl _ (Int.lt_of_lt_of_le h (Int.le_trans hm hb1)))
      (fun h => Nat.not_le_of_lt hin (h.1 ▸ hlt))
  · -- hi = d[i+1] ≤ d[k] ≤ r.idx
    have hm := divInv_mono hinv (show i + 1 ≤ k from hgt) (Nat.le_of_lt hk)
    exact hb2.elim (fun h => Int.lt_irrefl _ (Int.lt_of_lt_of_le h (Int.le_trans hm h1)))
      (fun h => Nat.not_le_of_lt hk (Nat.succ.inj h.1 ▸ hgt))

theorem part_eq_filter {d : List Int} {n : Nat} {parts : Nat → List Row} (hinv : DivInv d n parts)
    {i : Nat} {lo hi : Int} (hlo : d[i]? = some lo) (hhi : d[i+1]? = some hi) :
    parts i = (allRows n parts).filter (inIv (2 * lo) (2 * hi + lastBit d.length i)) := by
  have hin : i < n := Nat.lt_of_succ_lt_succ (hinv.len ▸ lt_of_getElem? hhi : i + 1 < n + 1)
  unfold allRows
  rw [List.filter_flatMap]
  rw [flatMap_single (fun k => (parts k).filter (inIv (2 * lo) (2 * hi + lastBit d.length i))) n i hin]
  · symm
    exact List.filter_eq_self.mpr (fun r hr => inIv_lastBit_iff.mpr (hinv.bounds i lo hi hlo hhi r hr))
  · intro k hk hki
    apply List.filter_eq_nil_iff.mpr
    intro r hr
    rw [divInv_disjoint hinv hlo hhi hk hki hr]
    simp

theorem allRows_in_range {d : List Int} {n : Nat} {parts : Nat → List Row} (hinv : DivInv d n parts)
    {a0 an : Int} (h0 : d.head? = some a0) (hn : d.getLast? = some an) :
    (allRows n parts).filter (inIv (2 * a0) (2 * an + 1)) = allRows n parts := by
  apply List.filter_eq_self.mpr
  intro r hr
  obtain ⟨i, hi, hri⟩ := List.mem_flatMap.mp hr
  have hin := List.mem_range.mp hi
  have ⟨h1, h2⟩ := divInv_bound hinv hin hri
  rw [List.head?_eq_getElem?] at h0
  rw [List.getLast?_eq_getElem?, hinv.len] at hn
  rw [← getD_of_getElem? (a := 0) h0, ← getD_of_getElem? (a := 0) hn]
  have hle : r.idx ≤ d.getD n 0 := Int.le_trans (h2.elim Int.le_of_lt fun h => Int.le_of_eq h.2)
    (divInv_mono hinv (Nat.succ_le_of_lt hin) (Nat.le_refl n))
  exact (inIv_two_iff (p := True)).mpr ⟨Int.le_trans (divInv_mono hinv (Nat.zero_le i) (Nat.le_of_lt hin)) h1,
    (Int.le_iff_lt_or_eq.mp hle).imp_right fun h => ⟨trivial, h⟩⟩

/-! ### interval filters on a sorted list -/

theorem filter_iv_empty (L : List Row) {l h : Int} (hlh : h ≤ l) : L.filter (inIv l h) = [] := by
  apply List.filter_eq_nil_iff.mpr
  intro r _ hr
  have := inIv_iff.mp hr
  exact absurd (Int.lt_of_le_of_lt this.1 this.2) (Int.not_lt.mpr hlh)

theorem filter_iv_split : ∀ (L : List Row), L.Pairwise (fun r s => r.idx ≤ s.idx) → ∀ (l c h : Int), l ≤ c → c ≤ h →
    L.filter (inIv l c) ++ L.filter (inIv c h) = L.filter (inIv l h) := by
  intro L
  induction L with
  | nil => intros; rfl
  | cons r t ih =>
    intro hs l c h hlc hch
    have ⟨hrt, ht⟩ := List.pairwise_cons.mp hs
    simp only [List.filter_cons, ← ih ht l c h hlc hch]
    by_cases hc : 2 * r.idx < c
    · -- `r` lies below the cut: it can only be in the left part
      have e1 : inIv c h r = false := by unfold inIv; rw [decide_eq_false (Int.not_le.mpr hc), Bool.false_and]
      have e2 : inIv l h r = inIv l c r := by
        unfold inIv; rw [decide_eq_true hc, decide_eq_true (Int.lt_of_lt_of_le hc hch)]
      rw [e1, e2]
      cases inIv l c r <;> rfl
    · -- `r` and everything after it lie above the cut: the left part is empty from here on
      have hc' : c ≤ 2 * r.idx := Int.not_lt.mp hc
      have hout : ∀ s : Row, r.idx ≤ s.idx → inIv l c s = false := fun s hs' => by
        unfold inIv
        rw [decide_eq_false (Int.not_lt.mpr (Int.le_trans hc' (Int.mul_le_mul_of_nonneg_left hs' (by decide)))),
          Bool.and_false]
      have e2 : inIv l h r = inIv c h r := by
        unfold inIv; rw [decide_eq_true (Int.le_trans hlc hc'), decide_eq_true hc']
      rw [hout r (Int.le_refl _), e2,
        List.filter_eq_nil_iff.mpr fun s hs' => Bool.eq_false_iff.mp (hout s (hrt s hs'))]
      cases inIv c h r <;> rfl

/-! ### slices as interval filters -/

theorem effIv_eq {a : List Int} {s : Slice} {lo hi : Int} (hlo : a[s.i]? = some lo) (hhi : a[s.i + 1]? = some hi) :
    effIv a s = some (max (2 * s.lo) (2 * lo),
      min (2 * s.hi + (if s.incl then 1 else 0)) (2 * hi + lastBit a.length s.i)) := by
  unfold effIv lastBit
  rw [hlo, hhi]

/-- a right-open slice inside the range of its input partition selects its own interval -/
theorem effIv_inner {a : List Int} {s : Slice} {lo hi : Int} (hlo : a[s.i]? = some lo) (hhi : a[s.i + 1]? = some hi)
    (h1 : lo ≤ s.lo) (h2 : s.hi ≤ hi) (hincl : s.incl = false) : effIv a s = some (2 * s.lo, 2 * s.hi) := by
  rw [effIv_eq hlo hhi, hincl, if_neg Bool.false_ne_true, Int.add_zero, Int.max_eq_left (by omega), Int.min_eq_left]
  unfold lastBit
  split <;> omega

/-- a right-closed slice of the last input partition ending at the last division -/
theorem effIv_last {a : List Int} {s : Slice} {lo : Int} (hlo : a[s.i]? = some lo) (hhi : a[s.i + 1]? = some s.hi)
    (hend : s.i + 2 = a.length) (h1 : lo ≤ s.lo) (hincl : s.incl = true) :
    effIv a s = some (2 * s.lo, 2 * s.hi + 1) := by
  rw [effIv_eq hlo hhi, hincl, Int.max_eq_left (by omega), lastBit, if_pos hend, if_pos rfl, Int.min_self]

theorem effIv_some {a : List Int} {s : Slice} {l h : Int} (he : effIv a s = some (l, h)) :
    ∃ lo hi, a[s.i]? = some lo ∧ a[s.i + 1]? = some hi ∧
      l = max (2 * s.lo) (2 * lo) ∧
      h = min (2 * s.hi + (if s.incl then 1 else 0)) (2 * hi + lastBit a.length s.i) := by
  unfold effIv at he
  split at he
  · rename_i lo hi hlo hhi
    cases he
    exact ⟨lo, hi, hlo, hhi, rfl, rfl⟩
  · cases he

/-- `boundary_slice` on doubled coordinates: an inclusive right end `hi` is the exclusive end `2·hi + 1` -/
theorem boundarySlice_eq_filter (rows : List Row) (lo hi : Int) (incl : Bool) :
    boundarySliceSpec rows lo hi incl = rows.filter (inIv (2 * lo) (2 * hi + (if incl then 1 else 0))) := by
  apply List.filter_congr
  intro r _
  rw [Bool.eq_iff_iff, inIv_two_iff]
  simp only [Bool.and_eq_true, Bool.or_eq_true, decide_eq_true_eq]

theorem inIv_inter (l₁ h₁ l₂ h₂ : Int) (r : Row) :
    (inIv l₁ h₁ r && inIv l₂ h₂ r) = inIv (max l₁ l₂) (min h₁ h₂) r := by
  rw [Bool.eq_iff_iff, Bool.and_eq_true, inIv_iff, inIv_iff, inIv_iff, Int.max_le, Int.lt_min]
  exact ⟨fun ⟨⟨a, b⟩, c, d⟩ => ⟨⟨a, c⟩, b, d⟩, fun ⟨⟨a, c⟩, b, d⟩ => ⟨⟨a, b⟩, c, d⟩⟩

theorem runSlice_eq_filter {a : List Int} {n : Nat} {parts : Nat → List Row} (hinv : DivInv a n parts)
    {s : Slice} {l h : Int} (he : effIv a s = some (l, h)) :
    runSlice parts s = (allRows n parts).filter (inIv l h) := by
  obtain ⟨lo, hi, hlo, hhi, rfl, rfl⟩ := effIv_some he
  unfold runSlice
  rw [boundarySlice_eq_filter, part_eq_filter hinv hlo hhi, List.filter_filter]
  exact List.filter_congr fun r _ => inIv_inter _ _ _ _ r

/-- soundness of `chain`: the slices, run in order, produce exactly the rows of the chained interval -/
theorem chain_sound {a : List Int} {n : Nat} {parts : Nat → List Row} (hinv : DivInv a n parts) :
    ∀ (ss : List Slice) (cur stop : Int), chain a cur ss = some stop →
      cur ≤ stop ∧ ss.flatMap (runSlice parts) = (allRows n parts).filter (inIv cur stop) := by
  intro ss
  induction ss with
  | nil =>
    intro cur stop h
    simp [chain] at h
    subst h
    exact ⟨Int.le_refl _, by rw [filter_iv_empty _ (Int.le_refl _)]; rfl⟩
  | cons s t ih =>
    intro cur stop h
    unfold chain at h
    split at h
    · cases h
    · rename_i l hh he
      have hrun := runSlice_eq_filter hinv he
      by_cases hlt : l < hh
      · simp only [hlt, if_true] at h
        by_cases hlc : l = cur
        · simp only [hlc, if_true] at h
          subst hlc
          have ⟨h1, h2⟩ := ih hh stop h
          refine ⟨Int.le_trans (Int.le_of_lt hlt) h1, ?_⟩
          rw [List.flatMap_cons, hrun, h2]
          exact filter_iv_split _ (allRows_sorted hinv) l hh stop (Int.le_of_lt hlt) h1
        · simp [hlc] at h
      · simp only [hlt, if_false] at h
        have ⟨h1, h2⟩ := ih cur stop h
        refine ⟨h1, ?_⟩
        rw [List.flatMap_cons, hrun, filter_iv_empty _ (Int.not_lt.mp hlt), h2]
        rfl

/-! ### bounds of the outputs -/

theorem boundsOK_spec (a b : List Int) : ∀ (plan : Plan) (j0 : Nat), boundsOK a b j0 plan = true →
    ∀ j ss, plan[j]? = some ss → ∃ lo hi, b[j0 + j]? = some lo ∧ b[j0 + j + 1]? = some hi ∧
      withinB a (2 * lo) (2 * hi + lastBit b.length (j0 + j)) ss = true := by
  intro plan
  induction plan with
  | nil => intro j0 _ j ss h; simp at h
  | cons ss0 t ih =>
    intro j0 h j ss hj
    simp only [boundsOK, Bool.and_eq_true] at h
    cases j with
    | zero =>
      simp at hj
      subst hj
      have h1 := h.1
      split at h1
      · rename_i lo hi hlo hhi
        exact ⟨lo, hi, hlo, hhi, h1⟩
      · cases h1
    | succ j =>
      simp at hj
      have := ih (j0 + 1) h.2 j ss hj
      have e1 : j0 + 1 + j = j0 + (j + 1) := by rw [Nat.add_assoc, Nat.add_comm 1 j]
      rw [e1] at this
      exact this

theorem withinB_of {a : List Int} {lo hi : Int} {ss : List Slice}
    (h : ∀ s ∈ ss, ∃ l r, effIv a s = some (l, r) ∧ lo ≤ l ∧ r ≤ hi) : withinB a lo hi ss = true := by
  unfold withinB
  rw [List.all_eq_true]
  intro s hs
  obtain ⟨l, r, he, h1, h2⟩ := h s hs
  simp only [he, Bool.or_eq_true, Bool.and_eq_true, decide_eq_true_eq]
  exact Or.inr ⟨h1, h2⟩

theorem withinB_row {a : List Int} {n : Nat} {parts : Nat → List Row} (hinv : DivInv a n parts)
    {lo hi : Int} {ss : List Slice} (hw : withinB a lo hi ss = true) {r : Row} (hr : r ∈ runOut parts ss) :
    inIv lo hi r = true := by
  unfold runOut at hr
  obtain ⟨s, hs, hrs⟩ := List.mem_flatMap.mp hr
  unfold withinB at hw
  have hsw := List.all_eq_true.mp hw s hs
  split at hsw
  · rename_i l h he
    simp only [Bool.or_eq_true, Bool.not_eq_true', decide_eq_false_iff_not, Bool.and_eq_true,
      decide_eq_true_eq] at hsw
    rw [runSlice_eq_filter hinv he] at hrs
    have ⟨h1, h2⟩ := inIv_iff.mp (List.mem_filter.mp hrs).2
    rw [inIv_iff]
    rcases hsw with hsw | ⟨hsw1, hsw2⟩
    · exact absurd (Int.lt_of_le_of_lt h1 h2) hsw
    · exact ⟨Int.le_trans hsw1 h1, Int.lt_of_lt_of_le h2 hsw2⟩
  · cases hsw

/-! ### soundness of the validator -/

theorem runPlan_concat (plan : Plan) (parts : Nat → List Row) :
    (List.range plan.length).flatMap (runPlan plan parts) = plan.flatMap (runOut parts) := by
  have := flatMap_getElem? (runOut parts) plan
  rw [← this]
  apply flatMap_congr'
  intro j _
  unfold runPlan
  cases plan[j]? <;> rfl

theorem planOK_sound (a b : List Int) (plan : Plan) (n : Nat) (parts : Nat → List Row)
    (hok : planOK a b plan = true) (hinv : DivInv a n parts) :
    (List.range plan.length).flatMap (runPlan plan parts) = (List.range n).flatMap parts ∧
    DivInv b plan.length (runPlan plan parts) := by
  unfold planOK at hok
  simp only [Bool.and_eq_true, decide_eq_true_eq] at hok
  obtain ⟨⟨⟨hsb, hlen⟩, hchain⟩, hbounds⟩ := hok
  split at hchain
  · rename_i a0 an h0 hn
    rw [beq_iff_eq] at hchain
    have ⟨_, hfl⟩ := chain_sound hinv plan.flatten (2 * a0) (2 * an + 1) hchain
    have hall : plan.flatMap (runOut parts) = allRows n parts := by
      rw [← allRows_in_range hinv h0 hn, ← hfl, List.flatten_eq_flatMap, List.flatMap_assoc]
      rfl
    have hcat := runPlan_concat plan parts
    refine ⟨by rw [hcat, hall]; rfl, ?_⟩
    refine ⟨hlen.symm, isSorted_pairwise b hsb, ?_, ?_⟩
    · intro j lo hi hlo hhi r hr
      unfold runPlan at hr
      split at hr
      · rename_i ss hp
        obtain ⟨lo', hi', h1, h2, hw⟩ := boundsOK_spec a b plan 0 hbounds j ss hp
        rw [Nat.zero_add] at h1 h2 hw
        obtain rfl : lo = lo' := Option.some.inj (hlo.symm.trans h1)
        obtain rfl : hi = hi' := Option.some.inj (hhi.symm.trans h2)
        exact inIv_lastBit_iff.mp (withinB_row hinv hw hr)
      · cases hr
    · intro j hj
      obtain ⟨ss, hp⟩ := getElem?_of_lt hj
      unfold runPlan
      rw [hp]
      refine List.Pairwise.sublist ?_ (allRows_sorted hinv)
      rw [← hall, List.flatMap_def]
      exact List.sublist_flatten_of_mem (List.mem_map_of_mem (List.mem_of_getElem? hp))
  · cases hchain

/-! ### the emitted graph computes its plan -/

theorem run_div_out (I : Interp) (st : DivState) (parts : Nat → List Row) (hc : closedOK st = true)
    (j : Nat) (hj : j < st.outs.length) :
    run I (divTask st) (inputs parts) 2 (.out j) = .frame (runPlan (planOf st) parts j) := by
  have hdep : ∀ n i, run I (divTask st) (inputs parts) n (.dep i) = .frame (parts i) :=
    fun n i => run_input I _ _ (Key.dep i) _ rfl rfl n
  obtain ⟨tmp, htmp⟩ := getElem?_of_lt hj
  -- every piece an output refers to exists (`closedOK`) and evaluates to its slice
  have hpiece : ∀ k ∈ tmp, run I (divTask st) (inputs parts) 1 (.piece k) =
      .frame ((st.pieces[k]?).elim [] (runSlice parts)) := by
    intro k hk
    obtain ⟨s, hs⟩ := getElem?_of_lt (of_decide_eq_true
      (List.all_eq_true.mp (List.all_eq_true.mp hc tmp (List.mem_of_getElem? htmp)) k hk))
    rw [hs, run_succ]
    simp only [divTask, hs, evalTsk, hdep]
    rfl
  unfold runPlan planOf
  rw [List.getElem?_map, htmp, run_succ]
  cases tmp with
  | nil => simp only [divTask, htmp, evalTsk, hdep, Option.map_some, List.isEmpty_nil, if_true, runOut,
      List.flatMap_cons, List.flatMap_nil, List.append_nil, runSlice]
  | cons k t =>
    simp only [Option.map_some, List.isEmpty_cons, Bool.false_eq_true, if_false, runOut, filterMap_flatMap]
    cases t with
    | nil =>
      simp only [divTask, htmp, evalTsk, List.flatMap_cons, List.flatMap_nil, List.append_nil]
      exact hpiece k (List.mem_singleton_self k)
    | cons k2 t2 =>
      simp only [divTask, htmp]
      exact eval_concat I _ (k :: k2 :: t2) Key.piece _ hpiece false

/-! ### truthful divisions of RepartitionToFewer -/

theorem fewer_divisions_truthful (din : List Int) (bs : List Nat) (nin : Nat) (parts : Nat → List Row)
    (hb : boundariesOK bs nin = true) (hs : strictMono bs = true) (hinv : DivInv din nin parts) :
    ∃ d, fewerDivisions din bs = some d ∧ DivInv d (bs.length - 1) (fewerSem bs parts) := by
  have ⟨h0, hl, hm⟩ := boundariesOK_iff.mp hb
  have hle := mono_le_last bs nin hm hl
  obtain ⟨d, hd⟩ := fewerDivisions_some din bs (fun x hx => hinv.len ▸ Nat.lt_succ_of_le (hle x hx))
  have ⟨hdlen, hdspec⟩ := fewerDivisions_spec din bs d hd
  have hpw := strictMono_pairwise bs hs
  have hbl : bs.length = bs.length - 1 + 1 := by
    cases bs with
    | nil => cases h0
    | cons _ _ => rfl
  -- the boundaries are the positions at which the divisions are read; output `j` is its whole range
  refine ⟨d, hd, divInv_coarsen hinv (fun j => bs.getD j 0) (hdlen.trans hbl)
    (fun i j hij hj => pairwise_getD hpw 0 hij (hbl ▸ Nat.lt_succ_of_le hj)) ?_ ?_ ?_⟩
  · exact hle _ (List.mem_of_getElem? (getElem?_getD 0 (hbl ▸ Nat.lt_succ_self _)))
  · intro j hj
    have hjb := getElem?_getD 0 (hbl ▸ Nat.lt_succ_of_le hj : j < bs.length)
    exact getD_eq_of_getElem? 0 (hdspec j _ hjb)
  · intro j hj
    have hj0 : j < bs.length := hbl ▸ Nat.lt_succ_of_lt hj
    have hj1 : j + 1 < bs.length := hbl ▸ Nat.succ_lt_succ hj
    rw [fewerSem_eq (getElem?_getD 0 hj0) (getElem?_getD 0 hj1)]
    exact List.Sublist.refl _

end Dx.Repartition

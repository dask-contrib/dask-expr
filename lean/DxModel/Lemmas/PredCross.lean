/-
  Lemmas/PredCross.lean — the laws of the semantic categories of operators a filter may cross.
  They are hypotheses (structures), never axioms: each crossing theorem of Props/C03.lean holds for every
  interpretation of the operator that satisfies its category's law.
-/
import DxModel.Pred
namespace Dx.Pred

/-- the operator acts row by row: `op rows = rows.map f` (Elemwise family) -/
structure RowLocalLaw {ρ σ : Type} (op : List ρ → List σ) (f : ρ → σ) : Prop where
  map : ∀ rows, op rows = rows.map f

/-- the predicate, read on the operator's output, has the value the substituted predicate has on its input -/
structure ValuePreserving {ρ σ : Type} (f : ρ → σ) (predOut : σ → Bool) (predIn : ρ → Bool) : Prop where
  agree : ∀ r, predOut (f r) = predIn r

/-- the operator permutes the rows (shuffle, sort) -/
structure ReorderLaw {ρ : Type} (op : List ρ → List ρ) : Prop where
  perm : ∀ rows, (op rows).Perm rows

/-- the operator only re-cuts partitions -/
structure PartitionOnlyLaw {ρ : Type} (op : List (List ρ) → List (List ρ)) : Prop where
  concat : ∀ parts, (op parts).flatten = parts.flatten

/-- the operator keeps a row-locally decided subset -/
structure RowSelectLaw {ρ : Type} (op : List ρ → List ρ) (s : ρ → Bool) : Prop where
  sel : ∀ rows, op rows = rows.filter s

end Dx.Pred

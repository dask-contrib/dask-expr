/-
  Lemmas/Drivers.lean — soundness of the rewrite drivers for every rule system, every tree, every
  dependents map, every cache content and every amount of fuel.

  All statements are of the form "the returned expression may replace the input" (`Ref S out e`)
  for an arbitrary preorder semantics `S`; C01.lean instantiates them with a congruence and with the
  definedness refinement.
-/
import DxModel.Lemmas.DriversSem
import DxModel.Lemmas.ListBasics
namespace Dx

variable {V : Type}

theorem firstFire_some {up : Expr → Option Expr} {p : Expr} :
    ∀ {cs : List Expr} {c o : Expr}, firstFire up p cs = some (c, o) → up c = some o := by
  intro cs
  induction cs with
  | nil => intro _ _ h; simp [firstFire] at h
  | cons c' t ih =>
    intro c o h
    unfold firstFire at h
    split at h
    · next o' ho' =>
      split at h
      · cases h
        exact ho'
      · exact ih h
    · exact ih h

theorem Ref.ite_expr {S : Sem V} {c : Prop} [Decidable c] {a b : Res} {e : Expr} (ha : Ref S a.expr e)
    (hb : Ref S b.expr e) : Ref S (if c then a else b).expr e :=
  ite_of (Q := fun r : Res => Ref S r.expr e) ha hb

/-! ### collect_dependents -/

/-- every entry of the map is a real (operand, consumer) pair -/
def DepsTruthful (d : Deps) : Prop := ∀ c p, (c, p) ∈ d → c ∈ p.args

theorem collectLoop_truthful : ∀ n stack seen d, DepsTruthful d → DepsTruthful (collectLoop n stack seen d) := by
  intro n
  induction n with
  | zero => intro _ _ d h; exact h
  | succ n ih =>
    intro stack seen d h
    cases stack with
    | nil => exact h
    | cons node stack =>
      unfold collectLoop
      refine ite_of (ih _ _ _ h) (ih _ _ _ ?_)
      intro c p hm
      rcases List.mem_append.mp hm with hm | hm
      · exact h c p hm
      · obtain ⟨dep, hdep, heq⟩ := List.mem_map.mp hm
        cases heq
        exact hdep

/-! ### rewrite -/

/-- `out = rule(e)`, `if out is None: out = e` -/
theorem Ref.getD {S : Sem V} {f : Expr → Option Expr} (h : ∀ e o, f e = some o → Ref S o e) (e : Expr) :
    Ref S ((f e).getD e) e := by
  cases hd : f e with
  | none => exact Ref.refl S e
  | some o => exact h e o hd

theorem Ref.rebuild_map {S : Sem V} {f : Expr → Res} (h : ∀ a, Ref S (f a).expr a) (e : Expr) :
    Ref S (.node e.cls e.lit ((e.args.map f).map fun r => r.expr)) e := by
  refine Ref.rebuild' S e ?_
  rw [List.map_map]
  exact forall2_map_ref S _ _ h

theorem rewriteWith_sound (S : Sem V) (dn : Expr → Option Expr) (up : Expr → Expr → Option Expr)
    (hdn : ∀ e o, dn e = some o → Ref S o e) (hup : ∀ c p o, up c p = some o → Ref S o p) :
    ∀ n e, Ref S (rewriteWith dn up n e).expr e := by
  intro n
  induction n with
  | zero => exact Ref.refl S
  | succ n ih =>
    intro e
    unfold rewriteWith
    refine Ref.ite_expr (Ref.trans (ih _) (Ref.getD hdn e)) ?_
    cases hf : firstFire (fun c => up c e) e e.args with
    | some co => exact Ref.trans (ih co.2) (hup co.1 e co.2 (firstFire_some (up := fun c => up c e) hf))
    | none =>
      exact Ref.ite_expr (Ref.refl S e) (Ref.ite_expr (Ref.trans (ih _) (Ref.rebuild_map ih e)) (Ref.refl S e))

/-! ### simplify_once -/

theorem simplifyArgs_trace_mono (recur : Expr → SState → Expr × SState) (parent : Expr)
    (h : ∀ a s f, f ∈ s.trace → f ∈ (recur a s).2.trace) :
    ∀ as s f, f ∈ s.trace → f ∈ (simplifyArgs recur parent as s).2.trace := by
  intro as
  induction as with
  | nil => intro _ _ hf; exact hf
  | cons a t ih => intro s f hf; exact ih _ f (h a _ f hf)

/-- Case principle for `simplify_once` below the fuel check: the result is a cache hit, or the operands of `e2`
    simplified and `e2` rebuilt from them, where `e2` is `e1` (the node after `_simplify_down`) or the output of
    the first `_simplify_up` that fires on `e1`, recorded in the trace.  The result of `simplifyArgs` enters `miss` as a
    variable `r` with its equation, so that `Q` and the callers' induction hypotheses need not mention `simplifyArgs`. -/
theorem simplifyOnce_succ (R : Rules) (n : Nat) (e : Expr) (s : SState) (Q : Expr × SState → Prop)
    (hit : ∀ r, s.cache.lookup e = some r → Q (r, s))
    (miss : ∀ e1 e2 tr r, (e1 = (R.down e).getD e ∨ e1 = e) →
      (e2 = e1 ∧ tr = s.trace ∨ ∃ c, R.up c e1 s.deps = some e2 ∧ tr = s.trace ++ [⟨c, e1, s.deps, e2⟩]) →
      simplifyArgs (simplifyOnce R n) e2 e2.args { s with trace := tr } = r →
      Q (if (r.1 != e2.args) = true then .node e2.cls e2.lit r.1 else e2, r.2)) :
    Q (simplifyOnce R (n + 1) e s) := by
  unfold simplifyOnce
  split
  · next r hl => exact hit r hl
  · refine miss (if ((R.down e).getD e != e) = true then (R.down e).getD e else e) _ _ _
      (ite_of (Q := fun e1 => e1 = (R.down e).getD e ∨ e1 = e) (.inl rfl) (.inr rfl)) ?_ rfl
    cases hf : firstFire _ _ _ with
    | none => exact .inl ⟨rfl, rfl⟩
    | some co => exact .inr ⟨co.1, firstFire_some hf, rfl⟩

theorem simplifyOnce_trace_mono (R : Rules) :
    ∀ n e s f, f ∈ s.trace → f ∈ (simplifyOnce R n e s).2.trace := by
  intro n
  induction n with
  | zero => intro e s f hf; exact hf
  | succ n ih =>
    intro e s f hf
    refine simplifyOnce_succ R n e s (fun r => f ∈ r.2.trace) (fun _ _ => hf) ?_
    rintro e1 e2 tr _ _ h12 rfl
    refine simplifyArgs_trace_mono _ _ ih _ _ f ?_
    rcases h12 with ⟨_, rfl⟩ | ⟨c, _, rfl⟩
    · exact hf
    · exact List.mem_append_left _ hf

theorem CacheSound.cons (S : Sem V) {c : Cache} {k v : Expr} (h : CacheSound S c) (hv : Ref S v k) :
    CacheSound S ((k, v) :: c) := by
  intro k' v' hm
  cases hm with
  | head => exact hv
  | tail _ hm => exact h k' v' hm

theorem CacheSound.nil (S : Sem V) : CacheSound S [] := fun _ _ h => by cases h

theorem simplifyArgs_sound (S : Sem V) (P : Expr → Expr → Deps → Prop)
    (recur : Expr → SState → Expr × SState) (parent : Expr)
    (hmono : ∀ a s f, f ∈ s.trace → f ∈ (recur a s).2.trace)
    (hrec : ∀ a s, TraceGood P (recur a s).2.trace → CacheSound S s.cache →
              Ref S (recur a s).1 a ∧ CacheSound S (recur a s).2.cache) :
    ∀ as s, TraceGood P (simplifyArgs recur parent as s).2.trace → CacheSound S s.cache →
      Forall2 (Ref S) (simplifyArgs recur parent as s).1 as ∧
      CacheSound S (simplifyArgs recur parent as s).2.cache := by
  intro as
  induction as with
  | nil => intro s _ hc; exact ⟨.nil, hc⟩
  | cons a t ih =>
    intro s ht hc
    have hhead := hrec a { s with deps := s.deps ++ [(a, parent)] }
      (fun f hf => ht f (simplifyArgs_trace_mono recur parent hmono t _ f hf)) hc
    have htail := ih _ ht (CacheSound.cons S hhead.2 hhead.1)
    exact ⟨.cons hhead.1 htail.1, htail.2⟩

theorem simplifyOnce_sound (S : Sem V) (R : Rules) (P : Expr → Expr → Deps → Prop)
    (hR : RulesSoundUnder S R P) :
    ∀ n e s, TraceGood P (simplifyOnce R n e s).2.trace → CacheSound S s.cache →
      Ref S (simplifyOnce R n e s).1 e ∧ CacheSound S (simplifyOnce R n e s).2.cache := by
  intro n
  induction n with
  | zero => intro e s _ hc; exact ⟨Ref.refl S e, hc⟩
  | succ n ih =>
    intro e s ht hc
    refine simplifyOnce_succ R n e s
      (fun r => TraceGood P r.2.trace → Ref S r.1 e ∧ CacheSound S r.2.cache)
      (fun r hl _ => ⟨hc e r (lookup_mem hl), hc⟩) ?_ ht
    rintro e1 e2 tr _ he1 h12 rfl ht
    have h1 : Ref S e1 e := by
      rcases he1 with rfl | rfl
      · exact Ref.getD hR.down_ok e
      · exact Ref.refl S e1
    have hargs := simplifyArgs_sound S P (simplifyOnce R n) e2 (simplifyOnce_trace_mono R n) ih e2.args _ ht hc
    refine ⟨Ref.trans (Ref.ite (Ref.rebuild' S e2 hargs.1) (Ref.refl S e2)) ?_, hargs.2⟩
    rcases h12 with ⟨rfl, rfl⟩ | ⟨c, hup, rfl⟩
    · exact h1
    · -- the firing is in the final trace, so its dependents map satisfies `P`
      refine Ref.trans (hR.up_ok c _ s.deps e2 (ht ⟨c, _, s.deps, e2⟩ ?_) hup) h1
      exact simplifyArgs_trace_mono _ _ (simplifyOnce_trace_mono R n) _ _ _
        (List.mem_append_right _ List.mem_cons_self)

/-! ### simplify -/

/-- one iteration of `simplify`'s loop: it stops on the current expression (out of fuel, fixed point, or
    "does not converge") or goes on with the result of `simplify_once`; the trace is that of `simplify_once` -/
theorem simplifyLoop_succ (R : Rules) (m n : Nat) (e : Expr) (seen : List Expr) (tr : List Firing) {r : Expr × SState}
    (Q : Res × List Firing → Prop) (hr : simplifyOnce R m e ⟨collectDependents e, [], tr, false⟩ = r)
    (stop : ∀ st, Q (⟨e, st⟩, r.2.trace)) (go : Q (simplifyLoop R m n r.1 (r.1 :: seen) r.2.trace)) :
    Q (simplifyLoop R m (n + 1) e seen tr) := by
  rw [simplifyLoop, hr]
  exact ite_of (stop _) (ite_of (stop _) (ite_of (stop _) go))

theorem simplifyLoop_trace_mono (R : Rules) (m : Nat) :
    ∀ n e seen tr f, f ∈ tr → f ∈ (simplifyLoop R m n e seen tr).2 := by
  intro n
  induction n with
  | zero => intro _ _ _ _ hf; exact hf
  | succ n ih =>
    intro e seen tr f hf
    have h0 := simplifyOnce_trace_mono R m e ⟨collectDependents e, [], tr, false⟩ f hf
    exact simplifyLoop_succ R m n e seen tr (fun r => f ∈ r.2) rfl (fun _ => h0) (ih _ _ _ f h0)

theorem simplifyLoop_sound (S : Sem V) (R : Rules) (P : Expr → Expr → Deps → Prop)
    (hR : RulesSoundUnder S R P) (m : Nat) :
    ∀ n e seen tr, TraceGood P (simplifyLoop R m n e seen tr).2 →
      Ref S (simplifyLoop R m n e seen tr).1.expr e := by
  intro n
  induction n with
  | zero => intro e _ _ _; exact Ref.refl S e
  | succ n ih =>
    intro e seen tr ht
    refine simplifyLoop_succ R m n e seen tr (fun r => TraceGood P r.2 → Ref S r.1.expr e) rfl
      (fun _ _ => Ref.refl S e) ?_ ht
    intro ht
    have hgood : TraceGood P (simplifyOnce R m e ⟨collectDependents e, [], tr, false⟩).2.trace :=
      fun f hf => ht f (simplifyLoop_trace_mono R m n _ _ _ f hf)
    exact Ref.trans (ih _ _ _ ht) (simplifyOnce_sound S R P hR m e _ hgood (CacheSound.nil S)).1

theorem simplifyT_trace_mono (R : Rules) (fuel : Nat) (e : Expr) (tr : List Firing) (f : Firing)
    (hf : f ∈ tr) : f ∈ (simplifyT R fuel e tr).2 :=
  simplifyLoop_trace_mono R fuel fuel e [] tr f hf

theorem simplifyT_sound (S : Sem V) (R : Rules) (P : Expr → Expr → Deps → Prop)
    (hR : RulesSoundUnder S R P) (fuel : Nat) (e : Expr) (tr : List Firing)
    (ht : TraceGood P (simplifyT R fuel e tr).2) : Ref S (simplifyT R fuel e tr).1.expr e :=
  simplifyLoop_sound S R P hR fuel fuel e [] tr ht

/-! ### lowering -/

theorem lowerOnce_sound (S : Sem V) (R : Rules) (hl : ∀ e o, R.lower e = some o → Ref S o e) :
    ∀ n e, Ref S (lowerOnce R n e).expr e := by
  intro n
  induction n with
  | zero => intro e; exact Ref.refl S e
  | succ n ih =>
    intro e
    exact Ref.ite_expr (Ref.refl S e)
      (Ref.trans (Ref.ite (Ref.rebuild_map ih _) (Ref.refl S _)) (Ref.getD hl e))

theorem lowerLoop_sound (S : Sem V) (R : Rules) (hl : ∀ e o, R.lower e = some o → Ref S o e) (m : Nat) :
    ∀ n e, Ref S (lowerLoop R m n e).expr e := by
  intro n
  induction n with
  | zero => exact Ref.refl S
  | succ n ih =>
    intro e
    exact Ref.ite_expr (Ref.refl S e)
      (Ref.ite_expr (Ref.refl S e) (Ref.trans (ih _) (lowerOnce_sound S R hl m e)))

/-! ### the pipeline -/

/-- the six ways `optimize_until` returns: the input, or the result of one of the five stages, with the trace of
    the last `simplify` that ran -/
theorem optimizeUntilT_cases (R : Rules) (fuel : Nat) (stage : Stage) (e : Expr) {r1 r4 : Res × List Firing} {r2 r3 : Res}
    (Q : Res × List Firing → Prop)
    (h1 : simplifyT R fuel e [] = r1) (h2 : rewrite R fuel r1.1.expr = r2) (h3 : lowerCompletely R fuel r2.expr = r3)
    (h4 : simplifyT R fuel r3.expr r1.2 = r4)
    (q0 : Q (⟨e, .ok⟩, [])) (q1 : Q r1) (q2 : Q (r2, r1.2)) (q3 : Q (r3, r1.2)) (q4 : Q r4)
    (q5 : Q (⟨R.fuse r4.1.expr, .ok⟩, r4.2)) :
    Q (optimizeUntilT R fuel stage e) := by
  subst h1 h2 h3 h4
  exact ite_of q0 (ite_of q1 (ite_of q2 (ite_of q3 (ite_of q4 q5))))

theorem optimizeUntilT_sound (S : Sem V) (R : Rules) (P : Expr → Expr → Deps → Prop)
    (hR : RulesSoundUnder S R P) (fuel : Nat) (stage : Stage) (e : Expr)
    (ht : TraceGood P (optimizeUntilT R fuel stage e).2) :
    Ref S (optimizeUntilT R fuel stage e).1.expr e := by
  have s1 := simplifyT_sound S R P hR fuel e []
  have s2 := rewriteWith_sound S _ _ hR.tuneDown_ok hR.tuneUp_ok fuel
  have s3 := lowerLoop_sound S R hR.lower_ok fuel fuel
  -- the first simplify's trace is a prefix of the final one
  have s14 := fun g => Ref.trans (simplifyT_sound S R P hR fuel _ (simplifyT R fuel e []).2 g)
    (Ref.trans (s3 _) (Ref.trans (s2 _) (s1 fun f hf => g f (simplifyT_trace_mono R fuel _ _ f hf))))
  exact optimizeUntilT_cases R fuel stage e (fun r => TraceGood P r.2 → Ref S r.1.expr e) rfl rfl rfl rfl
    (fun _ => Ref.refl S e) s1 (fun g => Ref.trans (s2 _) (s1 g))
    (fun g => Ref.trans (s3 _) (Ref.trans (s2 _) (s1 g))) s14 (fun g => Ref.trans (hR.fuse_ok _) (s14 g)) ht
end Dx

/-
  Lemmas/ColsInst.lean — the operator structures of DxModel/Cols.lean (`KeyedOp`, `RelabelOp`, `AssignOp`, `BinOp`,
  `MergeOp`, `ConcatOp`, `ResetOp`, `SourceOp`, `AsTypeOp`, `DropOp`) are inhabited by real operators: for each
  structure a constructor from the column-level functions an operator is made of, with all laws PROVEN, so that no
  theorem of Props/C04.lean quantifies over an empty or degenerate class.  The concrete list-valued instances and the
  non-degeneracy examples are in Props/C04.lean (section 17).
-/
import DxModel.Cols
import DxModel.Lemmas.Cols
import DxModel.Lemmas.ColsRules
import DxModel.Lemmas.ColsSem
import DxModel.Lemmas.ColsMerge
namespace Dx.Cols

variable {γ : Type}

/-! ### single-input operators -/

/-- an operator that treats every column by `f`, given the key columns (elementwise operators: no keys; a filter on
    key columns; a sort by key columns …) -/
def KeyedOp.ofFun (keys : List Name) (f : List (Option γ) → γ → γ) : KeyedOp γ where
  keys := keys
  outCols := id
  op := fun F => ⟨F.cols, fun c => if F.cols.contains c then (F.val c).map (f (keys.map F.val)) else none⟩
  T := fun v _ x => x.map (f (keys.map v))
  fresh := fun _ => none
  T_keys := by
    intro v v' h
    have : keys.map v = keys.map v' := List.map_congr_left (fun k hk => h k (List.contains_iff_mem.mpr hk))
    funext c x
    rw [this]
  op_cols := fun _ => rfl
  op_val := fun _ _ hc => if_pos hc
  op_fresh := fun _ _ hc => if_neg (Bool.eq_false_iff.mp hc)

/-- relabelling by any label function: an output label carries the first input column mapped to it -/
def RelabelOp.ofFun (f : Name → Name) : RelabelOp γ where
  f := f
  op := fun F => ⟨F.cols.map f, fun c' => match F.cols.find? (fun c => f c == c') with
    | some c => F.val c
    | none => none⟩
  op_cols := fun _ => rfl
  op_val := by
    intro F c hc hinj
    show (match F.cols.find? (fun c' => f c' == f c) with | some c => F.val c | none => none) = F.val c
    rw [find?_eq_of_unique f F.cols (List.contains_iff_mem.mp hc) fun c' hc' => hinj c' (List.contains_iff_mem.mpr hc')]

/-- `methods.assign`: the last pair of a key wins, every other column is passed through -/
def AssignOp.std : AssignOp γ where
  op := fun kv F => ⟨assignLabels F.cols (kv.map (·.1)), fun c =>
    if (kv.map (·.1)).contains c then (kv.reverse.find? (fun e => e.1 == c)).map (·.2) else F.val c⟩
  op_cols := fun _ _ => rfl
  op_key := by intro kv F k hk; simp only [hk, if_true]
  op_other := by intro kv F c hc; simp only [hc, Bool.false_eq_true, if_false]

/-- column-wise binary operator -/
def BinOp.ofFun (g : γ → γ → γ) : BinOp γ where
  op := fun A B => ⟨A.cols, fun c =>
    match (if A.cols.contains c then A.val c else none), (if B.cols.contains c then B.val c else none) with
    | some x, some y => some (g x y)
    | _, _ => none⟩
  g := fun _ x y => match x, y with
    | some x, some y => some (g x y)
    | _, _ => none
  outCols := fun a _ => a
  op_cols := fun _ _ => rfl
  op_val := fun _ _ _ => rfl

/-- row-wise concatenation from a stacking function of the per-input blocks -/
def ConcatOp.ofStack (labels : List (List Name) → List Name) (stack : List (Option γ) → Option γ) : ConcatOp γ where
  op := fun Fs => ⟨labels (Fs.map (·.cols)), fun c => stack (Fs.map (fun F => if F.cols.contains c then F.val c else none))⟩
  C := stack
  op_val := fun _ _ => rfl

/-- reset_index with a given former index column -/
def ResetOp.ofIndex (idx : Option γ) (label : List Name → Name) : ResetOp γ where
  op := fun d F => ⟨if d then F.cols else label F.cols :: F.cols, fun c =>
    if F.cols.contains c then F.val c else if c = label F.cols && !d then idx else none⟩
  idx := idx
  label := label
  op_cols := fun _ _ => rfl
  op_val := by intro d F c hc; simp only [hc, if_true]
  op_idx := by intro F h; simp only [h, Bool.false_eq_true, if_false, Bool.not_false, Bool.and_true, decide_true, if_true]

/-- a source reading the listed columns of a table -/
def SourceOp.ofData (data : Name → Option γ) : SourceOp γ where
  read := fun cs => ⟨cs, fun c => if cs.contains c then data c else none⟩
  data := data
  read_cols := fun _ => rfl
  read_val := fun _ _ hc => if_pos hc

/-- astype: the flagged columns are cast -/
def AsTypeOp.ofCast (cast : γ → γ) : AsTypeOp γ where
  op := fun dk F => ⟨F.cols, fun c => if F.cols.contains c then (if castFlag dk c then (F.val c).map cast else F.val c) else none⟩
  cast := fun b _ x => if b then x.map cast else x
  op_cols := fun _ _ => rfl
  op_val := by intro dk F c hc; simp only [hc, if_true]
  cast_false := fun _ _ => rfl

def DropOp.std : DropOp γ where
  op := fun cs F => ⟨F.cols.filter (fun c => !cs.contains c), fun c =>
    if (F.cols.filter (fun c => !cs.contains c)).contains c then F.val c else none⟩
  op_cols := fun _ _ => rfl
  op_val := by
    intro cs F c hc hn
    have : c ∈ F.cols.filter (fun c => !cs.contains c) :=
      List.mem_filter.mpr ⟨List.contains_iff_mem.mp hc, by rw [hn]; rfl⟩
    simp only [List.contains_iff_mem.mpr this, if_true]

/-! ### joins -/

/-- the frame a join computes: result label ↦ the input column that carries it, re-indexed by the row matching that
    `jl` / `jr` compute from the key columns of both sides -/
def joinFrame (m : MergeP) (jl jr : List (Option γ) → List (Option γ) → γ → γ) (A B : Frame γ) : Frame γ :=
  ⟨mergeLabels m A.cols B.cols, fun l =>
    match A.cols.find? (fun c => labelL m B.cols c == l) with
    | some c => (A.val c).map (jl (m.leftOn.map A.val) (m.rightOn.map B.val))
    | none => match (B.cols.filter (fun c => !commonKey m c)).find? (fun c => labelR m A.cols c == l) with
      | some c => (B.val c).map (jr (m.leftOn.map A.val) (m.rightOn.map B.val))
      | none => none⟩

theorem joinFrame_val_left (m : MergeP) (jl jr : List (Option γ) → List (Option γ) → γ → γ) (A B : Frame γ)
    (hnd : (mergeLabels m A.cols B.cols).Nodup) {c : Name} (hc : c ∈ A.cols) :
    (joinFrame m jl jr A B).val (labelL m B.cols c) = (A.val c).map (jl (m.leftOn.map A.val) (m.rightOn.map B.val)) := by
  unfold mergeLabels at hnd
  rw [List.nodup_append] at hnd
  simp only [joinFrame, find?_eq_of_inj (labelL m B.cols) A.cols hnd.1 hc]

theorem joinFrame_val_right (m : MergeP) (jl jr : List (Option γ) → List (Option γ) → γ → γ) (A B : Frame γ)
    (hnd : (mergeLabels m A.cols B.cols).Nodup) {c : Name} (hc : c ∈ B.cols) (hck : commonKey m c = false) :
    (joinFrame m jl jr A B).val (labelR m A.cols c) = (B.val c).map (jr (m.leftOn.map A.val) (m.rightOn.map B.val)) := by
  unfold mergeLabels at hnd
  rw [List.nodup_append] at hnd
  have hcf : c ∈ B.cols.filter (fun c => !commonKey m c) := List.mem_filter.mpr ⟨hc, by simp [hck]⟩
  have hnone : A.cols.find? (fun x => labelL m B.cols x == labelR m A.cols c) = none := by
    apply find?_none_of_not_mem_map
    intro hm
    exact hnd.2.2 _ hm _ (List.mem_map.mpr ⟨c, hcf, rfl⟩) rfl
  simp only [joinFrame, hnone, find?_eq_of_inj (labelR m A.cols) _ hnd.2.1 hcf]

/-- **every join given by a row matching on the key columns is a `MergeOp`** -/
def MergeOp.ofJoin (m : MergeP) (jl jr : List (Option γ) → List (Option γ) → γ → γ) : MergeOp γ where
  m := m
  op := joinFrame m jl jr
  TL := fun l r x => x.map (jl (m.leftOn.map l) (m.rightOn.map r))
  TR := fun l r x => x.map (jr (m.leftOn.map l) (m.rightOn.map r))
  T_keys := by
    intro l l' r r' hl hr
    have e1 : m.leftOn.map l = m.leftOn.map l' := List.map_congr_left (fun k hk => hl k (List.contains_iff_mem.mpr hk))
    have e2 : m.rightOn.map r = m.rightOn.map r' := List.map_congr_left (fun k hk => hr k (List.contains_iff_mem.mpr hk))
    rw [e1, e2]
    exact ⟨rfl, rfl⟩
  op_cols := fun _ _ => rfl
  op_left := fun A B _ hnd hc => joinFrame_val_left m jl jr A B hnd (List.contains_iff_mem.mp hc)
  op_right := fun A B _ hnd hc hck => joinFrame_val_right m jl jr A B hnd (List.contains_iff_mem.mp hc) hck

/-! ### a real join on list-valued columns (cells are `Option Int`, `none` = null)

Executable, without lemmas of its own: `listMerge` is the `MergeOp` that the examples of Props/C04.lean (section 17) run. -/

abbrev LCol := List (Option Int)

/-- the key of row `i`: its cells in the key columns -/
def keyAt (keys : List (Option LCol)) (i : Nat) : List (Option Int) :=
  keys.map (fun col => match col with
    | some c => c.getD i none
    | none => none)

def nRows (keys : List (Option LCol)) : Nat :=
  match keys with
  | some c :: _ => c.length
  | _ => 0

/-- rows match when their keys are equal and contain no null -/
def keyMatch (lk rk : List (Option LCol)) (i j : Nat) : Bool :=
  keyAt lk i == keyAt rk j && (keyAt lk i).all Option.isSome

/-- the (left row, right row) pairs of an inner (`left = false`) or left (`left = true`) join, in left order;
    an unmatched left row of a left join is paired with no right row -/
def joinPairs (left : Bool) (lk rk : List (Option LCol)) : List (Nat × Option Nat) :=
  (List.range (nRows lk)).flatMap (fun i =>
    match (List.range (nRows rk)).filter (keyMatch lk rk i) with
    | [] => if left then [(i, none)] else []
    | js => js.map (fun j => (i, some j)))

def takeLeft (left : Bool) (lk rk : List (Option LCol)) (x : LCol) : LCol :=
  (joinPairs left lk rk).map (fun ij => x.getD ij.1 none)

def takeRight (left : Bool) (lk rk : List (Option LCol)) (x : LCol) : LCol :=
  (joinPairs left lk rk).map (fun ij => match ij.2 with
    | some j => x.getD j none
    | none => none)

/-- inner / left join of list-valued frames on the columns `m.leftOn` / `m.rightOn` -/
def listMerge (left : Bool) (m : MergeP) : MergeOp LCol := MergeOp.ofJoin m (takeLeft left) (takeRight left)

end Dx.Cols

/-
  Lemmas/ShuffleWF.lean — well-formedness of the three shuffle layers: every referenced key is
  defined or an input (`Closed`), and an explicit rank decreases along references (`Ranked`, hence
  acyclic and `run_stable` applies).  Used by C09, C12 and Lemmas/LayerModels.
-/
import DxModel.Lemmas.LayerRun
import DxModel.Lemmas.ShuffleStaged
namespace Dx
open Shuffle

/-! ### SimpleShuffle -/

def simpleRank : Key → Nat
  | .out _ _ => 2
  | .ssplit _ _ => 1
  | _ => 0

theorem simple_stratified (p : Params) (inp : Key → Option V)
    (hinp : ∀ i, i < p.nin → (inp (.dep i)).isSome) : Stratified (simpleTask p) inp simpleRank := by
  intro k t h d hd
  cases k with
  | out n j =>
    cases n with
    | self =>
      simp only [simpleTask, Option.dite_none_right_eq_some, Option.some.injEq] at h
      obtain ⟨hj, rfl⟩ := h
      obtain ⟨i, hi, rfl⟩ := List.mem_map.mp hd
      left
      simp [simpleTask, simpleRank, List.mem_range.mp hi, List.getElem_mem]
    | stage s => exact nomatch h
  | ssplit o i =>
    simp only [simpleTask, Option.ite_none_right_eq_some, Option.some.injEq] at h
    obtain ⟨⟨ho, hi⟩, rfl⟩ := h
    cases List.mem_singleton.mp hd
    left
    simp [simpleTask, simpleRank, hi, List.ne_nil_of_mem ho]
  | sgroup i =>
    simp only [simpleTask, Option.ite_none_right_eq_some, Option.some.injEq] at h
    obtain ⟨⟨hi, _⟩, rfl⟩ := h
    cases List.mem_singleton.mp hd
    exact .inr ⟨rfl, hinp i hi⟩
  | _ => exact nomatch h

theorem simple_closed (p : Params) (rows : Nat → List Row) : Closed (simpleTask p) (inputs rows) :=
  (simple_stratified p _ fun _ _ => rfl).closed

theorem simple_ranked (p : Params) : Ranked (simpleTask p) simpleRank :=
  (simple_stratified p (inputs fun _ => []) fun _ _ => rfl).ranked

/-! ### DiskShuffle -/

def diskRank : Key → Nat
  | .out _ _ => 3
  | .barrier => 2
  | .dwrite _ => 1
  | _ => 0

theorem disk_stratified (p : Params) (inp : Key → Option V)
    (hinp : ∀ i, i < p.nin → (inp (.dep i)).isSome) : Stratified (diskTask p) inp diskRank := by
  intro k t h d hd
  cases k with
  | out n j =>
    cases n with
    | self =>
      simp only [diskTask, Option.dite_none_right_eq_some, Option.some.injEq] at h
      obtain ⟨hj, rfl⟩ := h
      rcases List.mem_cons.mp hd with rfl | hd
      · exact .inl ⟨rfl, Nat.lt_add_one 2⟩
      · obtain ⟨i, hi, rfl⟩ := List.mem_map.mp hd
        exact .inr ⟨rfl, hinp i (List.mem_range.mp hi)⟩
    | stage s => exact nomatch h
  | partd => cases h; exact nomatch hd
  | dwrite i =>
    simp only [diskTask, Option.ite_none_right_eq_some, Option.some.injEq] at h
    obtain ⟨hi, rfl⟩ := h
    cases List.mem_singleton.mp hd
    exact .inr ⟨rfl, hinp i hi⟩
  | barrier =>
    cases h
    obtain ⟨i, hi, rfl⟩ := List.mem_map.mp hd
    left
    simp [diskTask, diskRank, List.mem_range.mp hi]
  | _ => exact nomatch h

theorem disk_closed (p : Params) (rows : Nat → List Row) : Closed (diskTask p) (inputs rows) :=
  (disk_stratified p _ fun _ _ => rfl).closed

theorem disk_ranked (p : Params) : Ranked (diskTask p) diskRank :=
  (disk_stratified p (inputs fun _ => []) fun _ _ => rfl).ranked

/-! ### staged TaskShuffle -/

theorem stageOf_some (p : Params) (n : SName) (s : Nat) (h : stageOf p n = some s) :
    n = stageName p s ∧ s < p.stages := by
  cases n with
  | self =>
    simp only [stageOf, Option.ite_none_right_eq_some, Option.some.injEq] at h
    obtain ⟨⟨hs1, hl⟩, rfl⟩ := h
    exact ⟨(stageName_last p _ hl).symm, Nat.sub_lt hs1 Nat.one_pos⟩
  | stage s' =>
    simp only [stageOf, Option.ite_none_right_eq_some, Option.some.injEq] at h
    obtain ⟨⟨hs, hl⟩, rfl⟩ := h
    exact ⟨(stageName_nonlast p _ (by simpa using hl)).symm, hs⟩

/-- rank: `dep` 0 and `empty` 1 lie below stage 0, so stage `s` occupies `4s + 2` (group), `4s + 3` (split),
    `4s + 4` (out); above the last stage `rgroup` gets `4·stages + 5` and the regrouped outputs `4·stages + 6` -/
def stagedRank (p : Params) : Key → Nat
  | .empty _ _ => 1
  | .group n _ => 4 * (stageOf p n).getD 0 + 2
  | .split n _ _ => 4 * (stageOf p n).getD 0 + 3
  | .out n _ => match stageOf p n with
      | some s => 4 * s + 4
      | none => 4 * p.stages + 6
  | .rgroup _ _ => 4 * p.stages + 5
  | _ => 0

theorem stagedRank_out (p : Params) (s j : Nat) (hs : s < p.stages) :
    stagedRank p (.out (stageName p s) j) = 4 * s + 4 := by
  simp only [stagedRank, stageOf_stageName p s hs]

/-- Each reference of a staged task is an input the layer does not define, or a key of smaller rank
    which the layer defines once the stage arithmetic is sound and the frame is non-empty. -/
theorem staged_refs (p : Params) (inp : Key → Option V)
    (hinp : ∀ i, i < p.nin → (inp (.dep i)).isSome) {k d : Key} {t : Tsk Key}
    (h : stagedTask p k = some t) (hd : d ∈ t.refs) :
    (stagedTask p d = none ∧ (inp d).isSome) ∨
    (stagedRank p d < stagedRank p k ∧
      (stageArithOK p.nin p.stages p.nsplits = true → 0 < p.nin → (stagedTask p d).isSome)) := by
  cases k with
  | out n j =>
    cases hso : stageOf p n with
    | some s =>
      obtain ⟨rfl, hs⟩ := stageOf_some p n s hso
      simp only [stagedTask, hso, Option.dite_none_right_eq_some, Option.some.injEq] at h
      obtain ⟨hj, rfl⟩ := h
      obtain ⟨i, hi, rfl⟩ := List.mem_map.mp hd
      refine .inr ⟨by simp [stagedRank, hso], fun _ _ => ?_⟩
      rw [staged_split_def p s hs _ i (List.getElem_mem hj) (List.mem_range.mp hi)]
      rfl
    | none =>
      simp only [stagedTask, hso, Option.ite_none_right_eq_some, Option.dite_none_right_eq_some,
        Option.some.injEq] at h
      obtain ⟨⟨rfl, hne⟩, hj, rfl⟩ := h
      cases List.mem_singleton.mp hd
      refine .inr ⟨by simp [stagedRank, hso], fun harith hnin => ?_⟩
      simp [stagedTask, hne, (stageArithOK_iff.mp harith).1, Nat.mod_lt _ hnin]
  | split n idx inp =>
    cases hso : stageOf p n with
    | none => simp [stagedTask, hso] at h
    | some s =>
      obtain ⟨rfl, hs⟩ := stageOf_some p n s hso
      simp only [stagedTask, hso, Option.ite_none_right_eq_some, Option.some.injEq] at h
      obtain ⟨hc, rfl⟩ := h
      cases List.mem_singleton.mp hd
      refine .inr ⟨by simp [stagedRank], fun _ _ => ?_⟩
      have hreq : requested p s inp = true := by
        simp only [List.any_eq_true, Bool.and_eq_true, List.mem_range, beq_iff_eq] at hc
        obtain ⟨q, hq, _, i, hi, e⟩ := hc
        exact e ▸ requested_of p s q i hq hi
      rw [staged_group_def p s hs inp hreq]
      rfl
  | group n inp =>
    cases hso : stageOf p n with
    | none => simp [stagedTask, hso] at h
    | some s =>
      obtain ⟨rfl, hs⟩ := stageOf_some p n s hso
      simp only [stagedTask, hso, Option.ite_none_right_eq_some, Option.some.injEq] at h
      obtain ⟨hreq, rfl⟩ := h
      cases List.mem_singleton.mp hd
      cases s with
      | zero =>
        by_cases hn : num p.nsplits inp < p.nin
        · exact .inl (by simpa [hn, stagedTask] using hinp _ hn)
        · refine .inr ⟨by simp [hn, stagedRank], fun _ _ => ?_⟩
          simp only [hn, if_true, if_false]
          rw [staged_empty_def p hs inp hreq hn]
          rfl
      | succ s =>
        refine .inr ⟨?_, fun harith _ => ?_⟩
        · simp only [Nat.add_one_ne_zero, if_false, Nat.add_sub_cancel]
          rw [stagedRank_out p s _ (Nat.lt_of_succ_lt hs)]
          simp only [stagedRank, hso, Option.getD_some]
          exact Nat.lt_add_of_pos_right (n := 4 * s + 4) Nat.two_pos
        · simp only [requested, List.any_eq_true, List.mem_range, beq_iff_eq] at hreq
          obtain ⟨q, _, i, hi, rfl⟩ := hreq
          obtain ⟨hlen, hval⟩ := set_digits_valid p.nsplits p.stages q (s+1) i
            (Nat.lt_of_succ_lt (stageArithOK_iff.mp harith).2.1) hi
          have hj : num p.nsplits ((digits p.nsplits p.stages q).set (s+1) i) < (partsOut p s).length := by
            rw [partsOut_length_nonlast p _ (lastEq_of_lt p s hs)]
            exact num_lt p.nsplits _ p.stages hlen hval
          simp only [Nat.add_one_ne_zero, if_false, Nat.add_sub_cancel]
          rw [staged_out_def p s (Nat.lt_of_succ_lt hs) _ hj]
          rfl
  | empty n inp =>
    cases hso : stageOf p n with
    | none => simp [stagedTask, hso] at h
    | some s =>
      simp only [stagedTask, hso, Option.ite_none_right_eq_some, Option.some.injEq] at h
      obtain ⟨_, rfl⟩ := h
      exact nomatch hd
  | rgroup n i =>
    simp only [stagedTask, Option.ite_none_right_eq_some, Option.some.injEq] at h
    obtain ⟨⟨hne, hs1, rfl, hi⟩, rfl⟩ := h
    cases List.mem_singleton.mp hd
    have hnl := lastEq_of_ne p hne (p.stages - 1)
    have hlt : p.stages - 1 < p.stages := Nat.sub_lt hs1 Nat.one_pos
    have hname := stageName_nonlast p _ hnl
    refine .inr ⟨?_, fun harith _ => ?_⟩
    · have := stagedRank_out p (p.stages - 1) i hlt
      rw [hname] at this
      obtain ⟨s, hs⟩ := Nat.exists_eq_add_of_le' hs1
      rw [this, stagedRank, hs, Nat.add_sub_cancel]
      exact Nat.lt_add_of_pos_right (n := 4 * s + 4) (Nat.succ_pos 4)
    · have hj : i < (partsOut p (p.stages - 1)).length := by
        rw [partsOut_length_nonlast p _ hnl]; exact Nat.lt_of_lt_of_le hi (stageArithOK_iff.mp harith).2.2
      have := staged_out_def p (p.stages - 1) hlt i hj
      rw [hname] at this
      rw [this]
      rfl
  | _ => exact nomatch h

theorem staged_closed (p : Params) (rows : Nat → List Row)
    (harith : stageArithOK p.nin p.stages p.nsplits = true) (hnin : 0 < p.nin) :
    Closed (stagedTask p) (inputs rows) := by
  intro k t h d hd
  rcases staged_refs p (inputs rows) (fun _ _ => rfl) h hd with ⟨_, hi⟩ | ⟨_, hdef⟩
  · exact .inr hi
  · exact .inl (hdef harith hnin)

theorem staged_ranked (p : Params) : Ranked (stagedTask p) (stagedRank p) := by
  intro k t h d hd hdef
  rcases staged_refs p (inputs fun _ => []) (fun _ _ => rfl) h hd with ⟨hn, _⟩ | ⟨hr, _⟩
  · rw [hn] at hdef; cases hdef
  · exact hr

/-! ### the hypotheses are satisfiable (3-stage filtered shuffle; 2-stage shuffle with regrouping) -/
example (rows : Nat → List Row) : Closed (stagedTask C12Ex.pEq) (inputs rows) :=
  staged_closed C12Ex.pEq rows (by decide) (by decide)
example (rows : Nat → List Row) : Closed (stagedTask C12Ex.pNe) (inputs rows) :=
  staged_closed C12Ex.pNe rows (by decide) (by decide)

end Dx

/-
  Lemmas/ColsAssign.lean — Assign._simplify_up: which keys survive, what the pruned input contains, values
-/
import DxModel.Cols
import DxModel.Lemmas.Cols
import DxModel.Lemmas.ColsSem
namespace Dx.Cols

theorem length_dedup_le (l : List Name) : (dedup l).length ≤ l.length := by
  induction l with
  | nil => exact Nat.le_refl _
  | cons x xs ih =>
    unfold dedup
    split
    · exact Nat.le_trans ih (Nat.le_succ _)
    · simp only [List.length_cons]; exact Nat.succ_le_succ ih

/-- the two outcomes of the Assign rule -/
inductive AssignOut (frame keys : List Name) (p : Parent) (deps : List Dep) (rw : Rw) : Prop where
  /-- none of the assigned columns is used: the Assign disappears -/
  | gone (hg : rw.gone = true) (hc : rw.childs = [none]) (hk : rw.keep = true)
      (hno : ∀ k, k ∈ keys → k ∉ unionCols p deps [])
  /-- the used keys survive, the input keeps the requested non-key columns -/
  | pruned (newKeys : List Name) (hg : rw.gone = false) (hk : rw.keep = true) (hkeys : rw.keys = some newKeys)
      (hc : rw.childs = [some (.many (sortKeep (frame.filter
              (((unionCols p deps []).filter (fun c => !keys.contains c)).contains ·))))])
      (hnew : ∀ k, k ∈ newKeys ↔ k ∈ keys ∧ k ∈ unionCols p deps [])

theorem assign_spec {frame keys : List Name} {p : Parent} {deps : List Dep} {res : Rw}
    (h : assign frame keys p deps = some res) : AssignOut frame keys p deps res := by
  unfold assign at h
  rw [detProj_toList] at h
  obtain ⟨_, h⟩ := Option.ite_none_left_eq_some.mp h
  dsimp only at h
  by_cases hlen : ((dedup keys).filter (fun k => !(unionCols p deps []).contains k)).length = keys.length
  · rw [if_pos hlen] at h
    cases h
    refine .gone rfl rfl rfl fun k hk hin => ?_
    -- |dedup keys filtered| = |keys| forces every key to be outside the requested columns
    have h3 := List.length_filter_eq_length_iff.mp
      (Nat.le_antisymm (List.length_filter_le _ _) (hlen ▸ length_dedup_le keys)) k (mem_dedup.mpr hk)
    rw [List.contains_iff_mem.mpr hin] at h3
    cases h3
  · rw [if_neg hlen] at h
    cases h
    refine .pruned _ rfl rfl rfl rfl fun k => ?_
    split
    · rw [List.mem_filter, List.contains_iff_mem]
    · rename_i hpos
      -- no key is outside the requested columns: all keys survive
      have hnil := List.filter_eq_nil_iff.mp (List.eq_nil_of_length_eq_zero (Nat.eq_zero_of_not_pos hpos))
      refine ⟨fun hk => ⟨hk, ?_⟩, And.left⟩
      have := hnil k (mem_dedup.mpr hk)
      rw [Bool.not_eq_true'] at this
      exact List.contains_iff_mem.mp (Bool.of_not_eq_false this)

/-- the pruned input of an Assign: non-key requested columns are there, nothing else is invented -/
theorem assign_child_adequate (frame keys : List Name) (p : Parent) (deps : List Dep) :
    Adequate frame [] (p.cols.filter (fun c => !keys.contains c))
      (sortKeep (frame.filter (((unionCols p deps []).filter (fun c => !keys.contains c)).contains ·))) := by
  apply adequate_perm _ (sortKeep_perm _)
  apply adequate_filter
  · intro k hk; cases hk
  · intro c hc
    rw [List.mem_filter] at hc
    rw [List.contains_iff_mem, List.mem_filter]
    exact ⟨parent_mem_union hc.1, hc.2⟩

variable {γ : Type}

/-- value of the rewritten Assign expression -/
def evalAssign (A : AssignOp γ) (kv : List (Name × γ)) (P : List Name) (rw : Rw) (F : Frame γ) : Frame γ :=
  if rw.gone then F.select P
  else
    let inp := match rw.childs with
      | [some s] => F.select s.toList
      | _ => F
    (A.op (kv.filter (fun e => (rw.keys.getD []).contains e.1)) inp).select P

theorem find_last_filter (kv : List (Name × γ)) (q : Name → Bool) (c : Name) (hq : q c = true) :
    ((kv.filter (fun e => q e.1)).reverse.find? (fun e => e.1 == c)) = (kv.reverse.find? (fun e => e.1 == c)) := by
  rw [← List.filter_reverse, List.find?_filter]
  refine congrArg (fun f => List.find? f kv.reverse) (funext fun e => ?_)
  cases he : e.1 == c
  · exact decide_eq_false fun h => Bool.false_ne_true h.2
  · exact decide_eq_true ⟨(eq_of_beq he).symm ▸ hq, rfl⟩

theorem keys_filter_contains (kv : List (Name × γ)) (q : Name → Bool) (c : Name)
    (hq : (kv.map (·.1)).contains c = true → q c = true) :
    ((kv.filter (fun e => q e.1)).map (·.1)).contains c = (kv.map (·.1)).contains c := by
  rw [Bool.eq_iff_iff, List.contains_iff_mem, List.contains_iff_mem, List.mem_map, List.mem_map]
  refine ⟨fun ⟨e, he, hec⟩ => ⟨e, (List.mem_filter.mp he).1, hec⟩, fun ⟨e, he, hec⟩ => ?_⟩
  refine ⟨e, List.mem_filter.mpr ⟨he, ?_⟩, hec⟩
  rw [hec]
  exact hq (List.contains_iff_mem.mpr (List.mem_map.mpr ⟨e, he, hec⟩))

/-- an Assign cannot tell the pruned operands from the full ones at a label whose assignments survive (`q`), or
    which is passed through from a column that is still in the input -/
theorem assign_core (A : AssignOp γ) (kv : List (Name × γ)) (q : Name → Bool) (F : Frame γ) (child : List Name)
    (c : Name) (hq : (kv.map (·.1)).contains c = true → q c = true)
    (hchild : (kv.map (·.1)).contains c = false → c ∈ child) :
    (A.op (kv.filter (fun e => q e.1)) (F.select child)).val c = (A.op kv F).val c := by
  cases hkey : (kv.map (·.1)).contains c
  · rw [A.op_other _ _ c ((keys_filter_contains kv q c hq).trans hkey), A.op_other kv F c hkey,
      select_val_mem (hchild hkey)]
  · rw [A.op_key _ _ c ((keys_filter_contains kv q c hq).trans hkey), A.op_key kv F c hkey,
      find_last_filter kv q c (hq hkey)]

theorem evalAssign_gone (A : AssignOp γ) (kv : List (Name × γ)) (P : List Name) {res : Rw} (F : Frame γ)
    (hg : res.gone = true) : evalAssign A kv P res F = F.select P := by
  unfold evalAssign
  rw [if_pos hg]

theorem evalAssign_pruned (A : AssignOp γ) (kv : List (Name × γ)) (P : List Name) {res : Rw} (F : Frame γ)
    {newKeys child : List Name} (hg : res.gone = false) (hkeys : res.keys = some newKeys)
    (hch : res.childs = [some (.many child)]) :
    evalAssign A kv P res F = (A.op (kv.filter (fun e => newKeys.contains e.1)) (F.select child)).select P := by
  unfold evalAssign
  rw [if_neg (by rw [hg]; exact Bool.false_ne_true), hkeys, hch]
  rfl

end Dx.Cols

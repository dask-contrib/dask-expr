/-
  Lemmas/ShuffleStagedSem.lean — base-k digit tuples, the stage invariant of the staged (digit-routed)
  task shuffle over them, and its reading in partition numbers.
  Proof-level definitions only (`tuples`, `stageStep`, `runStages`, `agree`, `sdig`, `cur0`).
-/
import DxModel.Lemmas.ShufflePerm
namespace Dx
open Shuffle

/-! ### base-k digit tuples (`digits`, `num`) -/

theorem digits_length (k s i : Nat) : (digits k s i).length = s := by
  simp [digits]

theorem digits_getD (k s i j : Nat) (hj : j < s) : (digits k s i).getD j 0 = i / k ^ j % k := by
  simp [digits, List.getD_eq_getElem?_getD, hj]

theorem digits_succ (k s i : Nat) : digits k (s+1) i = (i % k) :: digits k s (i / k) := by
  unfold digits
  rw [List.range_succ_eq_map]
  simp only [List.map_cons, List.map_map, Nat.pow_zero, Nat.div_one]
  congr 1
  apply List.map_congr_left
  intro j _
  simp only [Function.comp, Nat.succ_eq_add_one]
  rw [Nat.pow_succ', Nat.div_div_eq_div_mul]

/-- `inp_part_map[inputs[i]] = i` -/
theorem num_digits (k : Nat) (hk : 0 < k) : ∀ s i, i < k ^ s → num k (digits k s i) = i := by
  intro s
  induction s with
  | zero => intro i hi; simp at hi; subst hi; rfl
  | succ s ih =>
    intro i hi
    rw [digits_succ]
    simp only [num]
    rw [ih (i / k) ((Nat.div_lt_iff_lt_mul hk).mpr (by rwa [Nat.pow_succ] at hi))]
    exact Nat.mod_add_div i k

/-- `inputs[inp_part_map[d]] = d` for digit tuples -/
theorem digits_num (k : Nat) (hk : 0 < k) : ∀ (d : List Nat) s, d.length = s → (∀ x ∈ d, x < k) →
    digits k s (num k d) = d := by
  intro d
  induction d with
  | nil => intro s hs _; subst hs; rfl
  | cons a t ih =>
    intro s hs hv
    subst hs
    simp only [List.length_cons]
    rw [digits_succ]
    have ha : a < k := hv a (by simp)
    simp only [num]
    have h1 : (a + k * num k t) % k = a := by
      rw [Nat.add_mul_mod_self_left]; exact Nat.mod_eq_of_lt ha
    have h2 : (a + k * num k t) / k = num k t := by
      rw [Nat.add_mul_div_left _ _ hk, Nat.div_eq_of_lt ha, Nat.zero_add]
    rw [h1, h2, ih t.length rfl (fun x hx => hv x (by simp [hx]))]

theorem num_lt (k : Nat) : ∀ (d : List Nat) s, d.length = s → (∀ x ∈ d, x < k) → num k d < k ^ s := by
  intro d
  induction d with
  | nil => intro s hs _; subst hs; simp [num]
  | cons a t ih =>
    intro s hs hv
    subst hs
    have ha : a < k := hv a (by simp)
    have := ih t.length rfl (fun x hx => hv x (by simp [hx]))
    simp only [num, List.length_cons, Nat.pow_succ']
    have h3 : k * (num k t + 1) ≤ k * k ^ t.length := Nat.mul_le_mul_left k this
    rw [Nat.mul_add, Nat.mul_one, Nat.add_comm] at h3
    exact Nat.lt_of_lt_of_le (Nat.add_lt_add_right ha _) h3

theorem set_digits_valid (k s q t i : Nat) (hk : 0 < k) (hi : i < k) :
    ((digits k s q).set t i).length = s ∧ ∀ x ∈ (digits k s q).set t i, x < k := by
  refine ⟨by rw [List.length_set, digits_length], fun x hx => ?_⟩
  rcases List.mem_or_eq_of_mem_set hx with h | rfl
  · obtain ⟨j, _, rfl⟩ := List.mem_map.mp h
    exact Nat.mod_lt _ hk
  · exact hi

/-- all digit tuples of length t over base k, last position varying slowest -/
def tuples (k : Nat) : Nat → List (List Nat)
  | 0 => [[]]
  | t+1 => (List.range k).flatMap (fun i => (tuples k t).map (fun pre => pre ++ [i]))

/-- one stage, pull formulation, exactly the `_concat_list` of TaskShuffle._layer: output partition
    `out` concatenates, for i in range(k), the group `out[t]` of input partition `insert(out, t, i)`.
    The code's `insert` *replaces* digit `t` of the tuple, which is `List.set`, not a list insertion. -/
def stageStep (k : Nat) (dig : Row → Nat → Nat) (t : Nat) (cur : List Nat → List Row) (out : List Nat) :
    List Row :=
  (List.range k).flatMap fun i => (cur (out.set t i)).filter fun r => dig r t == out.getD t 0

def runStages (k : Nat) (dig : Row → Nat → Nat) (cur0 : List Nat → List Row) : Nat → List Nat → List Row
  | 0, out => cur0 out
  | t+1, out => stageStep k dig t (runStages k dig cur0 t) out

/-- rows agree with `out` on digits < t -/
def agree (dig : Row → Nat → Nat) (out : List Nat) (t : Nat) (r : Row) : Bool :=
  (List.range t).all fun j => dig r j == out.getD j 0

theorem getD_set_ne (l : List Nat) (t i j : Nat) (h : j ≠ t) : (l.set t i).getD j 0 = l.getD j 0 := by
  rw [List.getD_eq_getElem?_getD, List.getD_eq_getElem?_getD, List.getElem?_set_ne (Ne.symm h)]

theorem agree_succ (dig : Row → Nat → Nat) (out : List Nat) (t : Nat) (r : Row) :
    agree dig out (t+1) r = (agree dig out t r && dig r t == out.getD t 0) := by
  simp [agree, List.range_succ, List.all_append]

theorem agree_set (dig : Row → Nat → Nat) (out : List Nat) (t i : Nat) (r : Row) :
    agree dig (out.set t i) t r = agree dig out t r := by
  unfold agree
  rw [Bool.eq_iff_iff]
  simp only [List.all_eq_true, List.mem_range]
  constructor
  · intro h j hj; have := h j hj; rwa [getD_set_ne _ _ _ _ (Nat.ne_of_lt hj)] at this
  · intro h j hj; have := h j hj; rwa [getD_set_ne _ _ _ _ (Nat.ne_of_lt hj)]

/-- after `t` stages partition `out` holds the rows that started in a partition agreeing with `out`
    on the digits `≥ t` and whose own digits agree with `out` on the digits `< t` -/
theorem stage_invariant (k : Nat) (dig : Row → Nat → Nat) (cur0 : List Nat → List Row) :
    ∀ t (out : List Nat), t ≤ out.length →
      (runStages k dig cur0 t out).Perm
        ((tuples k t).flatMap fun pre => (cur0 (pre ++ out.drop t)).filter (agree dig out t)) := by
  intro t
  induction t with
  | zero =>
    intro out _
    simp only [runStages, tuples, List.flatMap_cons, List.flatMap_nil, List.append_nil, List.nil_append,
      List.drop_zero]
    have h2 : (cur0 out).filter (agree dig out 0) = cur0 out := by
      apply List.filter_eq_self.mpr
      intro a _; rfl
    rw [h2]
  | succ t ih =>
    intro out hlen
    have hlt : t < out.length := hlen
    simp only [runStages, stageStep]
    have step1 : ∀ i ∈ List.range k,
        ((runStages k dig cur0 t (out.set t i)).filter fun r => dig r t == out.getD t 0).Perm
        (((tuples k t).flatMap fun pre =>
            (cur0 (pre ++ (out.set t i).drop t)).filter (agree dig (out.set t i) t)).filter
              fun r => dig r t == out.getD t 0) := by
      intro i _
      exact (ih (out.set t i) (by rw [List.length_set]; exact Nat.le_of_lt hlt)).filter _
    refine (perm_flatMap_congr _ _ _ step1).trans ?_
    apply List.Perm.of_eq
    simp only [tuples, List.flatMap_assoc]
    apply flatMap_congr'
    intro i _
    rw [List.filter_flatMap, List.flatMap_map]
    apply flatMap_congr'
    intro pre _
    rw [List.drop_set, if_neg (Nat.lt_irrefl t), Nat.sub_self, List.drop_eq_getElem_cons hlt, List.set_cons_zero,
      List.filter_filter, List.append_assoc]
    simp only [List.singleton_append]
    apply List.filter_congr
    intro r _
    rw [agree_succ, agree_set, Bool.and_comm]

/-! ### from digit tuples to partition numbers -/

theorem tuples_length (k : Nat) : ∀ t, ∀ pre ∈ tuples k t, pre.length = t := by
  intro t
  induction t with
  | zero => intro pre h; simp [tuples] at h; subst h; rfl
  | succ t ih =>
    intro pre h
    simp only [tuples, List.mem_flatMap, List.mem_map] at h
    obtain ⟨i, _, pre', hp, rfl⟩ := h
    simp [ih pre' hp]

theorem num_append (k : Nat) (i : Nat) : ∀ pre : List Nat, num k (pre ++ [i]) = num k pre + k ^ pre.length * i := by
  intro pre
  induction pre with
  | nil => simp [num]
  | cons a t ih =>
    simp only [List.cons_append, num, ih, List.length_cons, Nat.pow_succ', Nat.mul_add, Nat.mul_assoc, Nat.add_assoc]

theorem range_mul_flatMap {β} (n : Nat) (F : Nat → List β) : ∀ k,
    (List.range (n * k)).flatMap F = (List.range k).flatMap (fun i => (List.range n).flatMap (fun m => F (m + n * i))) := by
  intro k
  induction k with
  | zero => simp
  | succ k ih =>
    rw [Nat.mul_succ, List.range_add, List.flatMap_append, ih, flatMap_range_succ, List.flatMap_map]
    congr 1
    apply flatMap_congr'
    intro m _
    rw [Nat.add_comm]

/-- enumerating digit tuples = enumerating partition numbers `0 .. k^t - 1` in order -/
theorem tuples_flatMap {β} (k : Nat) : ∀ t (F : Nat → List β),
    (tuples k t).flatMap (fun pre => F (num k pre)) = (List.range (k ^ t)).flatMap F := by
  intro t
  induction t with
  | zero => intro F; simp [tuples, num]
  | succ t ih =>
    intro F
    simp only [tuples, List.flatMap_assoc, List.flatMap_map]
    rw [Nat.pow_succ, range_mul_flatMap]
    apply flatMap_congr'
    intro i _
    rw [← ih (fun m => F (m + k ^ t * i))]
    apply flatMap_congr'
    intro pre hpre
    rw [num_append, tuples_length k t pre hpre]

/-- stage digit of a row as a function of the stage (the `dig` of the invariant) -/
def sdig (p : Params) (r : Row) (t : Nat) : Nat := stageDigit p.nin p.nsplits t r

/-- contents of the (padded) input partition addressed by a digit tuple: inputs `≥ nin` are empty -/
def cur0 (p : Params) (rows : Nat → List Row) (inp : List Nat) : List Row :=
  if num p.nsplits inp < p.nin then rows (num p.nsplits inp) else []

theorem agree_digits (p : Params) (hk : 0 < p.nsplits) (s q : Nat) (r : Row)
    (hx : r.tgt % p.nin < p.nsplits ^ s) (hq : q < p.nsplits ^ s) :
    agree (sdig p) (digits p.nsplits s q) s r = (r.tgt % p.nin == q) := by
  rw [Bool.eq_iff_iff]
  simp only [agree, List.all_eq_true, List.mem_range, beq_iff_eq]
  constructor
  · intro h
    rw [← num_digits p.nsplits hk s _ hx, ← num_digits p.nsplits hk s q hq]
    congr 1
    unfold digits
    apply List.map_congr_left
    intro j hj
    have := h j (List.mem_range.mp hj)
    rwa [digits_getD _ _ _ _ (List.mem_range.mp hj)] at this
  · intro h j hj
    rw [digits_getD _ _ _ _ hj, ← h]
    rfl

/-- after all stages, partition number `q` holds (a permutation of) the rows of all real inputs whose
    `tgt % nin` is `q` -/
theorem stages_sem (p : Params) (rows : Nat → List Row) (hk : 0 < p.nsplits) (hnin : 0 < p.nin)
    (hle : p.nin ≤ p.nsplits ^ p.stages) (q : Nat) (hq : q < p.nsplits ^ p.stages) :
    (runStages p.nsplits (sdig p) (cur0 p rows) p.stages (digits p.nsplits p.stages q)).Perm
      ((List.range p.nin).flatMap (fun i => (rows i).filter (fun r => r.tgt % p.nin == q))) := by
  refine (stage_invariant p.nsplits (sdig p) (cur0 p rows) p.stages (digits p.nsplits p.stages q)
    (by rw [digits_length]; exact Nat.le_refl _)).trans (List.Perm.of_eq ?_)
  have hdrop : (digits p.nsplits p.stages q).drop p.stages = [] := by
    apply List.drop_eq_nil_of_le; rw [digits_length]; exact Nat.le_refl _
  simp only [hdrop, List.append_nil]
  rw [funext fun r =>
    agree_digits p hk p.stages q r (Nat.lt_of_lt_of_le (Nat.mod_lt _ hnin) hle) hq]
  have := tuples_flatMap p.nsplits p.stages
    (fun m => (if m < p.nin then rows m else []).filter (fun r => r.tgt % p.nin == q))
  simp only [cur0]
  rw [this]
  obtain ⟨d, hd⟩ := Nat.exists_eq_add_of_le hle
  rw [hd, List.range_add, List.flatMap_append, List.flatMap_map]
  rw [(List.flatMap_eq_nil_iff (l := List.range d)).mpr fun a _ => by
    rw [if_neg (Nat.not_lt.mpr (Nat.le_add_right _ a))]; rfl, List.append_nil]
  exact flatMap_congr' _ _ _ fun i hi => by rw [if_pos (List.mem_range.mp hi)]

end Dx

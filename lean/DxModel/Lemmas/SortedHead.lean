/-
  Lemmas/SortedHead.lean — `Head(SortValues(f))` → `NFirst(f)`:
  the first `n` rows of the sorted frame are the first `n` rows of the sorted concatenation of the
  per-partition `n`-firsts (tree reduction with chunk = aggregate = "sort, take n").

  `le` is a total, transitive, antisymmetric order on rows (ties between different rows are not ordered
  by the real sort either: pandas' default `sort_values` is not stable).  Under such an order every
  sorting function returns the same list (`sort_unique`), so the statements hold for pandas' sort as well
  as for `List.mergeSort`.
-/
namespace Dx.SortedHead
open List

variable {α : Type}

structure TotalOrder (le : α → α → Bool) : Prop where
  trans : ∀ a b c, le a b = true → le b c = true → le a c = true
  total : ∀ a b, (le a b || le b a) = true
  antisymm : ∀ a b, le a b = true → le b a = true → a = b

/-- the first `n` rows in sorted order -/
def topN (le : α → α → Bool) (n : Nat) (l : List α) : List α := (l.mergeSort le).take n

theorem sorted_sort {le : α → α → Bool} (h : TotalOrder le) (l : List α) :
    (l.mergeSort le).Pairwise (fun a b => le a b = true) :=
  pairwise_mergeSort h.trans h.total l

/-- two sorted permutations of each other are equal -/
theorem sorted_perm_eq {le : α → α → Bool} (h : TotalOrder le) {l₁ l₂ : List α}
    (h₁ : l₁.Pairwise (fun a b => le a b = true)) (h₂ : l₂.Pairwise (fun a b => le a b = true))
    (hp : l₁.Perm l₂) : l₁ = l₂ :=
  Perm.eq_of_pairwise (le := fun a b => le a b = true) (fun a b _ _ => h.antisymm a b) h₁ h₂ hp

/-- any function returning a sorted permutation is `mergeSort` -/
theorem sort_unique {le : α → α → Bool} (h : TotalOrder le) (sort' : List α → List α)
    (hs : ∀ l, (sort' l).Pairwise (fun a b => le a b = true) ∧ (sort' l).Perm l) (l : List α) :
    sort' l = l.mergeSort le :=
  sorted_perm_eq h (hs l).1 (sorted_sort h l) ((hs l).2.trans (mergeSort_perm l le).symm)

theorem sort_append_eq_merge {le : α → α → Bool} (h : TotalOrder le) (a b : List α) :
    (a ++ b).mergeSort le = merge (a.mergeSort le) (b.mergeSort le) le := by
  apply sorted_perm_eq h (sorted_sort h _)
    (pairwise_merge h.trans h.total _ _ (sorted_sort h a) (sorted_sort h b))
  refine (mergeSort_perm _ le).trans (Perm.trans ?_ (merge_perm_append (le := le)).symm)
  exact ((mergeSort_perm a le).append (mergeSort_perm b le)).symm

/-- only the first `n` elements of the left operand matter for the first `n` elements of a merge -/
theorem take_merge_take (le : α → α → Bool) : ∀ (n m : Nat) (U V : List α), n ≤ m →
    (merge (U.take m) V le).take n = (merge U V le).take n := by
  intro n
  induction n with
  | zero => intro m U V _; simp
  | succ n ih =>
    intro m U V hm
    obtain ⟨m', rfl⟩ := Nat.exists_eq_add_of_le' (Nat.le_trans (Nat.le_add_left 1 n) hm)
    induction V generalizing U with
    | nil =>
      simp only [merge_right]
      rw [List.take_take, Nat.min_eq_left hm]
    | cons v V' ihV =>
      cases U with
      | nil => simp
      | cons u U' =>
        rw [List.take_succ_cons, cons_merge_cons, cons_merge_cons]
        by_cases huv : le u v = true
        · simp only [huv, if_true, List.take_succ_cons]
          rw [ih m' U' (v :: V') (Nat.le_of_succ_le_succ hm)]
        · simp only [huv, Bool.false_eq_true, if_false, List.take_succ_cons]
          have := ih (m' + 1) (u :: U') V' (Nat.le_of_succ_le hm)
          rw [List.take_succ_cons] at this
          rw [this]

/-- replacing a prefix operand by its own `n`-firsts does not change the `n`-firsts -/
theorem topN_append_left {le : α → α → Bool} (h : TotalOrder le) (n : Nat) (a b : List α) :
    topN le n (a ++ b) = topN le n (topN le n a ++ b) := by
  unfold topN
  rw [sort_append_eq_merge h a b, ← take_merge_take le n n _ _ (Nat.le_refl n)]
  congr 1
  symm
  have hs : ((a.mergeSort le).take n).Pairwise (fun a b => le a b = true) :=
    (sorted_sort h a).sublist (List.take_sublist _ _)
  apply sorted_perm_eq h (sorted_sort h _) (pairwise_merge h.trans h.total _ _ hs (sorted_sort h b))
  refine (mergeSort_perm _ le).trans (Perm.trans ?_ (merge_perm_append (le := le)).symm)
  exact (Perm.refl _).append (mergeSort_perm b le).symm

theorem topN_perm {le : α → α → Bool} (h : TotalOrder le) (n : Nat) {l₁ l₂ : List α} (hp : l₁.Perm l₂) :
    topN le n l₁ = topN le n l₂ :=
  congrArg (List.take n) (sorted_perm_eq h (sorted_sort h l₁) (sorted_sort h l₂)
    ((mergeSort_perm l₁ le).trans (hp.trans (mergeSort_perm l₂ le).symm)))

/-- the statement with rows `extra` carried along, as the induction over the partitions needs it -/
theorem topN_flatten_aux {le : α → α → Bool} (h : TotalOrder le) (n : Nat) : ∀ (parts : List (List α)) (extra : List α),
    topN le n (parts.flatten ++ extra) = topN le n (parts.flatMap (topN le n) ++ extra) := by
  intro parts
  induction parts with
  | nil => intro extra; rfl
  | cons p ps ih =>
    intro extra
    rw [List.flatten_cons, List.append_assoc, topN_append_left h n p]
    have e1 : (topN le n p ++ (ps.flatten ++ extra)).Perm (ps.flatten ++ (extra ++ topN le n p)) := by
      rw [← List.append_assoc ps.flatten]
      exact List.perm_append_comm
    rw [topN_perm h n e1, ih (extra ++ topN le n p)]
    apply topN_perm h n
    rw [List.flatMap_cons, List.append_assoc, ← List.append_assoc (ps.flatMap _)]
    exact List.perm_append_comm

theorem natLe_total : TotalOrder (fun (a b : Nat) => decide (a ≤ b)) :=
  ⟨fun _ _ _ h1 h2 => decide_eq_true (Nat.le_trans (of_decide_eq_true h1) (of_decide_eq_true h2)),
   fun a b => (Nat.le_total a b).elim (fun h => by simp [h]) (fun h => by simp [h]),
   fun _ _ h1 h2 => Nat.le_antisymm (of_decide_eq_true h1) (of_decide_eq_true h2)⟩

end Dx.SortedHead

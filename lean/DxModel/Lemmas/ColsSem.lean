/-
  Lemmas/ColsSem.lean — values of original and rewritten expressions; generic preservation lemmas per operator class
-/
import DxModel.Cols
import DxModel.Lemmas.Cols
import DxModel.Lemmas.ColsRules
namespace Dx.Cols

variable {γ : Type}

@[simp] theorem select_cols (cs : List Name) (F : Frame γ) : (F.select cs).cols = cs := rfl

theorem select_val_mem {cs : List Name} {F : Frame γ} {c : Name} (h : c ∈ cs) : (F.select cs).val c = F.val c := by
  show (if cs.contains c = true then F.val c else none) = F.val c
  rw [if_pos (List.contains_iff_mem.mpr h)]

theorem select_val_not_mem {cs : List Name} {F : Frame γ} {c : Name} (h : c ∉ cs) : (F.select cs).val c = none := by
  show (if cs.contains c = true then F.val c else none) = none
  rw [if_neg (fun hh => h (List.contains_iff_mem.mp hh))]

/-- `op(F)[P]` -/
def evalOrig (op : Frame γ → Frame γ) (P : List Name) (F : Frame γ) : Frame γ := (op F).select P

/-- value of a single-input rewrite: `parent?(op(F[child]))`; a scalar child is the one-column frame -/
def evalRw (op : Frame γ → Frame γ) (P : List Name) (rw : Rw) (F : Frame γ) : Frame γ :=
  let inp := match rw.childs with
    | [some s] => F.select s.toList
    | _ => F
  let r := if rw.gone then inp else op inp
  if rw.keep then r.select P else r

theorem evalRw_keep1 (op : Frame γ → Frame γ) (P : List Name) (res : Rw) (F : Frame γ) (child : List Name)
    (h : res.isKeep1 child) : evalRw op P res F = (op (F.select child)).select P := by
  obtain ⟨h1, h2, h3⟩ := h
  unfold evalRw
  rw [h1, h2, h3]
  rfl

theorem evalRw_keep (op : Frame γ → Frame γ) (P : List Name) (s : Sel) (F : Frame γ) :
    evalRw op P { childs := [some s], keep := true } F = (op (F.select s.toList)).select P := rfl

theorem evalRw_nokeep (op : Frame γ → Frame γ) (P : List Name) (s : Sel) (F : Frame γ) :
    evalRw op P { childs := [some s], keep := false } F = op (F.select s.toList) := rfl

/-- at a requested label the re-applied parent is invisible -/
theorem evalRw_val (op : Frame γ → Frame γ) {P : List Name} (s : Sel) (k : Bool) (F : Frame γ) {c : Name} (hc : c ∈ P) :
    (evalRw op P { childs := [some s], keep := k } F).val c = (op (F.select s.toList)).val c := by
  cases k
  · rfl
  · exact select_val_mem hc

/-! ### keyed operators -/

/-- output labels react monotonically to pruning: a requested label that survives in the pruned input (or is created
    by the operator) is still an output label -/
def OutMono (K : KeyedOp γ) : Prop :=
  ∀ l l' c, (∀ x, x ∈ l' → x ∈ l) → (c ∈ l' ∨ c ∉ l) → c ∈ K.outCols l → c ∈ K.outCols l'

theorem Adequate.mem_or {frame keys P child : List Name} (had : Adequate frame keys P child) {c : Name}
    (hc : c ∈ P) : c ∈ child ∨ c ∉ frame :=
  Decidable.byCases (fun hf : c ∈ frame => Or.inl (had.req c hc hf)) Or.inr

/-- the heart of every single-input rule: with the key columns present, an operator cannot tell the pruned input
    from the full one on the columns that are still there (nor on the labels it creates itself) -/
theorem keyed_core (K : KeyedOp γ) (F : Frame γ) (child : List Name)
    (hsub : ∀ c, c ∈ child → c ∈ F.cols) (hkeys : ∀ k, k ∈ K.keys → k ∈ child)
    (c : Name) (hc : c ∈ child ∨ c ∉ F.cols) :
    (K.op (F.select child)).val c = (K.op F).val c := by
  rcases hc with hc | hc
  · rw [K.op_val (F.select child) c (List.contains_iff_mem.mpr hc),
      K.op_val F c (List.contains_iff_mem.mpr (hsub c hc)), select_val_mem hc,
      K.T_keys (F.select child).val F.val fun k hk => select_val_mem (hkeys k (List.contains_iff_mem.mp hk))]
  · rw [K.op_fresh (F.select child) c (Bool.eq_false_iff.mpr fun h => hc (hsub c (List.contains_iff_mem.mp h))),
      K.op_fresh F c (Bool.eq_false_iff.mpr fun h => hc (List.contains_iff_mem.mp h))]

theorem keyed_values (K : KeyedOp γ) (F : Frame γ) (keys' P child : List Name)
    (had : Adequate F.cols keys' P child) (hk : ∀ k, k ∈ K.keys → k ∈ keys' ∧ k ∈ F.cols)
    (c : Name) (hc : c ∈ P) :
    ((K.op (F.select child)).select P).val c = (evalOrig K.op P F).val c := by
  unfold evalOrig
  rw [select_val_mem hc, select_val_mem hc]
  exact keyed_core K F child had.sub (fun k hkk => had.keys k (hk k hkk).1 (hk k hkk).2) c (had.mem_or hc)

/-- every rule that prunes the input of a keyed operator to an adequate child and re-applies the parent: the rewritten
    expression has the parent's labels, and — the keys being columns of the input — every requested value -/
theorem keep1_sound (K : KeyedOp γ) (F : Frame γ) (P : List Name) (res : Rw)
    (h : ∃ child, res.isKeep1 child ∧ Adequate F.cols K.keys P child) :
    (evalRw K.op P res F).cols = P ∧
    ((∀ k, k ∈ K.keys → k ∈ F.cols) → ∀ c, c ∈ P → (evalRw K.op P res F).val c = (evalOrig K.op P F).val c) := by
  obtain ⟨child, hk, had⟩ := h
  rw [evalRw_keep1 K.op P res F child hk]
  exact ⟨rfl, fun hkeys c hc => keyed_values K F K.keys P child had (fun k hkk => ⟨hkk, hkeys k hkk⟩) c hc⟩

/-! ### relabelling operators -/

/-- a relabelling rule whose pruned input keeps the one source column `c` of a requested label: the operator carries
    that column under the label in the pruned input as in the full one -/
theorem relabel_keep1_values (R : RelabelOp γ) (F : Frame γ) (P : List Name) (res : Rw) (child : List Name)
    (hk : res.isKeep1 child) (hsub : ∀ c, c ∈ child → c ∈ F.cols) (c : Name) (hcc : c ∈ child)
    (hinj : ∀ c', c' ∈ F.cols → R.f c' = R.f c → c' = c) (hreq : R.f c ∈ P) :
    (evalRw R.op P res F).val (R.f c) = (evalOrig R.op P F).val (R.f c) := by
  rw [evalRw_keep1 R.op P res F child hk]
  unfold evalOrig
  rw [select_val_mem hreq, select_val_mem hreq,
    R.op_val (F.select child) c (List.contains_iff_mem.mpr hcc)
      (fun c' hc' he => hinj c' (hsub c' (List.contains_iff_mem.mp hc')) he),
    R.op_val F c (List.contains_iff_mem.mpr (hsub c hcc)) (fun c' hc' he => hinj c' (List.contains_iff_mem.mp hc') he),
    select_val_mem hcc]

/-! ### optional projections of an input -/

/-- an optional projection of an input -/
def selOpt (o : Option Sel) (F : Frame γ) : Frame γ :=
  match o with
  | some s => F.select s.toList
  | none => F

@[simp] theorem selOpt_many (cs : List Name) (F : Frame γ) : selOpt (some (.many cs)) F = F.select cs := rfl
@[simp] theorem selOpt_none (F : Frame γ) : selOpt none F = F := rfl

/-- what a column-wise operator sees of an input at label `c` — the column, or nothing when the input lacks it —
    is the same after a selection that has `c` exactly when the input has it -/
theorem masked_select {X : Frame γ} {cs : List Name} {c : Name} (hx : cs.contains c = X.cols.contains c) :
    (if (X.select cs).cols.contains c then (X.select cs).val c else none) = (if X.cols.contains c then X.val c else none) := by
  rw [select_cols, hx]
  cases h : X.cols.contains c
  · rfl
  · exact select_val_mem (List.contains_iff_mem.mp (hx.trans h))

theorem filter_contains_of_pred {l : List Name} {pred : Name → Bool} {c : Name} (h : pred c = true) :
    (l.filter pred).contains c = l.contains c := by
  rw [contains_filter_eq, h, Bool.and_true]

/-! ### reset_index, sources, astype, binary operators, concat: the rewritten expression and what it preserves -/

/-- value of the rewritten `reset_index` expression (the new node's `drop` is `res.drop`) -/
def evalReset (R : ResetOp γ) (P : List Name) (rw : Rw) (F : Frame γ) : Frame γ :=
  let inp := match rw.childs with
    | [some s] => F.select s.toList
    | _ => F
  if rw.keep then (R.op rw.drop inp).select P else R.op rw.drop inp

theorem evalReset_eq (R : ResetOp γ) (P : List Name) {res : Rw} (F : Frame γ) {s : Sel} (hs : res.childs = [some s]) :
    evalReset R P res F =
      if res.keep then (R.op res.drop (F.select s.toList)).select P else R.op res.drop (F.select s.toList) := by
  unfold evalReset
  rw [hs]

theorem evalReset_val (R : ResetOp γ) {P : List Name} {res : Rw} (F : Frame γ) {s : Sel} (hs : res.childs = [some s])
    {c : Name} (hc : c ∈ P) : (evalReset R P res F).val c = (R.op res.drop (F.select s.toList)).val c := by
  rw [evalReset_eq R P F hs]
  cases res.keep
  · rfl
  · exact select_val_mem hc

/-- `reset_index` cannot tell a pruned input from the full one on the data columns that are still there … -/
theorem reset_data (R : ResetOp γ) (F : Frame γ) (child : List Name) (hsub : ∀ c, c ∈ child → c ∈ F.cols)
    (d d' : Bool) (c : Name) (hc : c ∈ child) : (R.op d (F.select child)).val c = (R.op d' F).val c := by
  rw [R.op_val d _ c (List.contains_iff_mem.mpr hc), R.op_val d' F c (List.contains_iff_mem.mpr (hsub c hc)),
    select_val_mem hc]

/-- … nor on the former index, as long as its label is the same for both -/
theorem reset_idx (R : ResetOp γ) (F : Frame γ) (child : List Name) (hsub : ∀ c, c ∈ child → c ∈ F.cols)
    (hlab : R.label child = R.label F.cols) (hfresh : F.cols.contains (R.label F.cols) = false) :
    (R.op false (F.select child)).val (R.label F.cols) = (R.op false F).val (R.label F.cols) := by
  have e := R.op_idx (F.select child) (Bool.eq_false_iff.mpr fun h => by
    rw [select_cols, hlab] at h
    rw [List.contains_iff_mem.mpr (hsub _ (List.contains_iff_mem.mp h))] at hfresh
    cases hfresh)
  rw [select_cols, hlab] at e
  rw [e, R.op_idx F hfresh]

def evalSource (S : SourceOp γ) (P : List Name) (rw : Rw) : Frame γ :=
  let r := match rw.childs with
    | [some s] => S.read s.toList
    | _ => S.read []
  if rw.keep then r.select P else r

/-- a source that absorbed the projection: when the parent is dropped the list it reads is the requested one; every
    requested column it reads comes from the data -/
theorem evalSource_sound (S : SourceOp γ) (P : List Name) {res : Rw} {child : List Name}
    (hc : res.childs = [some (.many child)]) (hnk : res.keep = false → child = P) :
    (evalSource S P res).cols = P ∧ ∀ c, c ∈ P → c ∈ child → (evalSource S P res).val c = S.data c := by
  unfold evalSource
  rw [hc]
  cases hk : res.keep
  · exact ⟨(S.read_cols child).trans (hnk hk), fun c _ hcc => S.read_val child c (List.contains_iff_mem.mpr hcc)⟩
  · exact ⟨rfl, fun c hcP hcc => (select_val_mem hcP).trans (S.read_val child c (List.contains_iff_mem.mpr hcc))⟩

def evalBin (B : BinOp γ) (P : List Name) (rw : Rw) (X Y : Frame γ) : Frame γ :=
  match rw.childs with
  | [l, r] => (B.op (selOpt l X) (selOpt r Y)).select P
  | _ => (B.op X Y).select P

/-- value of the rewritten `astype` expression: the new node's dtype keys are `res.keys` -/
def evalAsType (A : AsTypeOp γ) (P : List Name) (rw : Rw) (F : Frame γ) : Frame γ :=
  if rw.gone then F.select P
  else
    let inp := match rw.childs with
      | [some s] => F.select s.toList
      | _ => F
    if rw.keep then (A.op rw.keys inp).select P else A.op rw.keys inp

theorem evalAsType_val (A : AsTypeOp γ) {P : List Name} (F : Frame γ) (s : Sel) (k : Bool) (dk : Option (List Name))
    {c : Name} (hc : c ∈ P) :
    (evalAsType A P { childs := [some s], keep := k, keys := dk } F).val c = (A.op dk (F.select s.toList)).val c := by
  cases k
  · rfl
  · exact select_val_mem hc

theorem astype_core (A : AsTypeOp γ) (F : Frame γ) (dk : Option (List Name)) (child : List Name) (c : Name)
    (hc : c ∈ child) : (A.op dk (F.select child)).val c = A.cast (castFlag dk c) c (F.val c) := by
  rw [A.op_val dk _ c (List.contains_iff_mem.mpr hc), select_val_mem hc]

theorem evalBin_filter (B : BinOp γ) (X Y : Frame γ) (P : List Name) (q : Name → Bool) (c : Name) (hc : c ∈ P)
    (hq : q c = true) :
    (evalBin B P { childs := [some (.many (X.cols.filter q)), some (.many (Y.cols.filter q))], keep := true } X Y).val c
      = ((B.op X Y).select P).val c := by
  show ((B.op (X.select (X.cols.filter q)) (Y.select (Y.cols.filter q))).select P).val c = _
  rw [select_val_mem hc, select_val_mem hc, B.op_val, B.op_val, masked_select (filter_contains_of_pred hq),
    masked_select (filter_contains_of_pred hq)]

theorem masked_binopSide {Z : Frame γ} {columns : List Name} {c : Name} (hm : c ∈ columns) (hz : c ∈ Z.cols) :
    (if (selOpt (binopSide columns (some Z.cols)) Z).cols.contains c then
        (selOpt (binopSide columns (some Z.cols)) Z).val c else none) = if Z.cols.contains c then Z.val c else none := by
  by_cases he : Z.cols = columns
  · rw [binopSide, if_pos he]
    rfl
  · rw [binopSide, if_neg he]
    exact masked_select ((List.contains_iff_mem.mpr hm).trans (List.contains_iff_mem.mpr hz).symm)

theorem masked_concatChild (F : Frame γ) {columns : List Name} {c : Name} (hc : c ∈ columns) :
    (if (selOpt (concatChild false columns F.cols) F).cols.contains c then
        (selOpt (concatChild false columns F.cols) F).val c else none) = if F.cols.contains c then F.val c else none := by
  have hpc : (fun x => columns.contains x) c = true := List.contains_iff_mem.mpr hc
  rcases concatChild_cases false columns F.cols with hcc | hcc
  · rw [hcc]; rfl
  · rw [hcc]
    refine masked_select (cs := concatKeepCols false columns F.cols) ?_
    rcases concatKeepCols_cases false columns F.cols with hk | ⟨_, hnil, hk⟩
    · rw [hk, filter_contains_of_pred hpc]
    · -- the kept first column of an input without any requested column is not a requested one
      rw [hk, Bool.eq_iff_iff, List.contains_iff_mem, List.contains_iff_mem]
      refine ⟨List.mem_of_mem_take, fun hm => ?_⟩
      have : c ∈ F.cols.filter (fun x => columns.contains x) := List.mem_filter.mpr ⟨hm, hpc⟩
      rw [hnil] at this
      cases this

theorem has_filter_iff {sel : Sel} {l : List Name} {c : Name} (h : sel.has c = true) :
    (l.filter sel.has).contains c = l.contains c := filter_contains_of_pred h

def evalMerge (M : MergeOp γ) (P : List Name) (rw : Rw) (X Y : Frame γ) : Frame γ :=
  match rw.childs with
  | [l, r] => (M.op (selOpt l X) (selOpt r Y)).select P
  | _ => (M.op X Y).select P

end Dx.Cols

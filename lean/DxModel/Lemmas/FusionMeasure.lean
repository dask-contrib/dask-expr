/-
  Lemmas/FusionMeasure.lean — a successful `_fusion_pass` strictly decreases the number of blockwise
  expressions reachable from the plan's root (the members of the group become unreachable once
  the first member has been replaced by the `Fused` expression), hence the outer `while True` loop of
  `optimize_blockwise_fusion` stops.
-/
import DxModel.Lemmas.FusionPass
import DxModel.Lemmas.ListBasics
namespace Dx.Fusion
open Dx

/-! ### counting -/

/-- replacing ≥ 2 distinct elements `G` of a duplicate-free list by one new element shortens it -/
theorem shrink_length (K K' G : List Nat) (fr : Nat) (hK' : K'.Nodup) (hG : G.Nodup)
    (hGK : ∀ g ∈ G, g ∈ K) (hlen : 2 ≤ G.length)
    (hsub : ∀ k ∈ K', k = fr ∨ (k ∈ K ∧ k ∉ G)) : K'.length < K.length := by
  have h3 := List.length_eq_countP_add_countP (fun x => decide (x ∈ G)) (l := K)
  rw [List.countP_eq_length_filter, List.countP_eq_length_filter] at h3
  have h1 := hK'.length_le_of_subset (l₂ := fr :: K.filter (fun a => decide ¬(decide (a ∈ G) = true)))
    fun k hk => (hsub k hk).elim (fun e => e ▸ List.mem_cons_self)
      fun ⟨h1, h2⟩ => List.mem_cons_of_mem _ (List.mem_filter.mpr ⟨h1, by simp [h2]⟩)
  have h2 := hG.length_le_of_subset (l₂ := K.filter (fun x => decide (x ∈ G)))
    fun g hg => List.mem_filter.mpr ⟨hGK g hg, by simp [hg]⟩
  rw [List.length_cons] at h1
  omega

/-! ### fresh names -/

theorem lt_freshName (dag : Dag) (x : Nat) (hx : x ∈ allNames dag) : x < freshName dag :=
  Nat.lt_succ_of_le ((foldl_max_ge (allNames dag) 0).2 x hx)

theorem mem_allNames {dag : Dag} {x : Nat} {nd : Node} (h : nd ∈ dag) (hx : x = nd.name ∨ x ∈ nd.deps) :
    x ∈ allNames dag :=
  List.mem_flatMap.mpr ⟨nd, h, List.mem_cons.mpr hx⟩

theorem name_lt_fresh {dag : Dag} {x : Nat} {nd : Node} (h : getNode dag x = some nd) :
    x < freshName dag :=
  lt_freshName dag x (mem_allNames (getNode_mem h).1 (Or.inl (getNode_mem h).2.symm))

theorem dep_lt_fresh {dag : Dag} {x d : Nat} (h : d ∈ depsOf dag x) : d < freshName dag := by
  obtain ⟨nd, hg, hd⟩ := mem_depsOf.mp h
  exact lt_freshName dag d (mem_allNames (getNode_mem hg).1 (Or.inr hd))

theorem lt_fresh_of_isSome {dag : Dag} {g : Nat} (h : (getNode dag g).isSome = true) : g < freshName dag := by
  cases hg : getNode dag g with
  | none => rw [hg] at h; cases h
  | some nd => exact name_lt_fresh hg

theorem node_ne_of_fresh {dag : Dag} {fr x : Nat} {nd : Node} (h : ∀ x ∈ allNames dag, x ≠ fr)
    (hg : getNode dag x = some nd) : x ≠ fr ∧ ∀ d ∈ nd.deps, d ≠ fr :=
  ⟨h x (mem_allNames (getNode_mem hg).1 (Or.inl (getNode_mem hg).2.symm)),
    fun d hd => h d (mem_allNames (getNode_mem hg).1 (Or.inr hd))⟩

theorem getNode_none_of_fresh {dag : Dag} {fr : Nat} (h : ∀ x ∈ allNames dag, x ≠ fr) :
    getNode dag fr = none := by
  cases hg : getNode dag fr with
  | none => rfl
  | some nd => exact absurd rfl (node_ne_of_fresh h hg).1

theorem getNode_fresh (dag : Dag) : getNode dag (freshName dag) = none :=
  getNode_none_of_fresh fun x hx => Nat.ne_of_lt (lt_freshName dag x hx)

/-! ### the plan after the substitution -/

/-- the operand `d` after `substitute old new` -/
def sub (old new d : Nat) : Nat := if d = old then new else d

def subNode (old new : Nat) (nd : Node) : Node := { nd with deps := nd.deps.map (sub old new) }

theorem getNode_substitute (dag : Dag) (old new x : Nat) :
    getNode (substitute dag old new) x = (getNode dag x).map (subNode old new) := by
  unfold getNode substitute
  rw [List.find?_map]
  rfl

theorem getNode_subst_append (dag : Dag) (old : Nat) (f : Node) (hfr : getNode dag f.name = none) (x : Nat) :
    getNode (substitute dag old f.name ++ [f]) x =
      if x = f.name then some f else (getNode dag x).map (subNode old f.name) := by
  have h1 : getNode (substitute dag old f.name ++ [f]) x =
      (getNode (substitute dag old f.name) x).or (getNode [f] x) := by
    unfold getNode; rw [List.find?_append]
  rw [h1, getNode_substitute]
  by_cases hx : x = f.name
  · subst hx
    rw [hfr]
    simp [getNode]
  · have : (f.name == x) = false := by simpa using fun h => hx h.symm
    simp [hx, getNode, this]

/-- the plan returned by a successful pass, seen from the old one -/
structure NewPlan (dag dag' : Dag) (G : List Nat) (fr : Nat) : Prop where
  deps_fresh : depsOf dag' fr = groupDeps dag G
  deps_old : ∀ x, x ≠ fr → depsOf dag' x = (depsOf dag x).map (sub (G.headD 0) fr)
  bw_fresh : isBw dag' fr = true
  bw_old : ∀ x, x ≠ fr → isBw dag' x = isBw dag x
  node_fresh : (getNode dag' fr).isSome = true
  node_old : ∀ x, x ≠ fr → (getNode dag' x).isSome = (getNode dag x).isSome

/-- the node table of the plan a pass returns -/
theorem getNode_pass (dag : Dag) (G : List Nat) (x : Nat) :
    getNode (substitute dag (G.headD 0) (fusedNode dag G).name ++ [fusedNode dag G]) x =
      if x = freshName dag then some (fusedNode dag G)
      else (getNode dag x).map (subNode (G.headD 0) (freshName dag)) :=
  getNode_subst_append dag (G.headD 0) (fusedNode dag G) (getNode_fresh dag) x

theorem newPlan (dag : Dag) (G : List Nat) :
    NewPlan dag (substitute dag (G.headD 0) (fusedNode dag G).name ++ [fusedNode dag G]) G (freshName dag) := by
  have hget := getNode_pass dag G
  have hfresh := hget (freshName dag)
  rw [if_pos rfl] at hfresh
  have hold : ∀ x, x ≠ freshName dag →
      getNode (substitute dag (G.headD 0) (fusedNode dag G).name ++ [fusedNode dag G]) x =
        (getNode dag x).map (subNode (G.headD 0) (freshName dag)) :=
    fun x hx => by rw [hget x, if_neg hx]
  refine ⟨?_, ?_, ?_, ?_, ?_, ?_⟩
  · simp only [depsOf, hfresh]; rfl
  · intro x hx
    simp only [depsOf, hold x hx]
    cases getNode dag x <;> rfl
  · simp only [isBw, hfresh]; rfl
  · intro x hx
    simp only [isBw, hold x hx]
    cases getNode dag x <;> rfl
  · rw [hfresh]; rfl
  · intro x hx
    rw [hold x hx]
    cases getNode dag x <;> rfl

/-! ### reachability after the substitution -/

/-- well-formedness of the plan's root: it names a node and nothing reachable has it as an operand
    (expressions are acyclic; the root of the plan is nobody's operand) -/
structure PlanOK (dag : Dag) (root : Nat) : Prop where
  root_node : (getNode dag root).isSome = true
  root_free : ∀ c, Reach dag root c → root ∉ depsOf dag c

/-- post-order numbering (operands have smaller names) keeps the root out of every operand list -/
theorem planOKb_sound (dag : Dag) (root : Nat) (h : planOKb dag root = true) : PlanOK dag root := by
  unfold planOKb at h
  simp only [Bool.and_eq_true, List.all_eq_true, decide_eq_true_eq] at h
  have htopo : ∀ x d, d ∈ depsOf dag x → d < x := by
    intro x d hd
    obtain ⟨nd, hg, hd⟩ := mem_depsOf.mp hd
    obtain ⟨hm, hn⟩ := getNode_mem hg
    exact hn ▸ h.2 nd hm d hd
  have hle : ∀ c, Reach dag root c → c ≤ root := by
    intro c hc
    induction hc with
    | root => exact Nat.le_refl _
    | step _ hd ih => exact Nat.le_trans (Nat.le_of_lt (htopo _ _ hd)) ih
  exact ⟨h.1, fun c hc hin => Nat.lt_irrefl _ (Nat.lt_of_lt_of_le (htopo _ _ hin) (hle c hc))⟩

theorem mem_groupDeps {dag : Dag} {G : List Nat} {d : Nat} (h : d ∈ groupDeps dag G) :
    ∃ g ∈ G, d ∈ depsOf dag g ∧ d ∉ G := by
  obtain ⟨g, hg, hd⟩ := List.mem_flatMap.mp h
  rw [List.mem_filter] at hd
  exact ⟨g, hg, hd.1, by simpa using hd.2⟩

theorem head_mem_of_ne {G : List Nat} (h : G ≠ []) : G.headD 0 ∈ G := by
  cases G with
  | nil => exact absurd rfl h
  | cons a t => exact List.mem_cons_self

theorem mem_tail_of_ne_head {G : List Nat} {g : Nat} (hg : g ∈ G) (hne : g ≠ G.headD 0) : g ∈ G.tail := by
  cases G with
  | nil => cases hg
  | cons a t => exact (List.mem_cons.mp hg).resolve_left hne

/-- everything reachable in the new plan is the new node or an old reachable non-member -/
theorem reach_new (dag dag' : Dag) (root : Nat) (G : List Nat) (fr : Nat)
    (hnp : NewPlan dag dag' G fr) (hok : GroupOK dag root G) (hplan : PlanOK dag root) :
    ∀ x, Reach dag' (if root = G.headD 0 then fr else root) x →
      x = fr ∨ (Reach dag root x ∧ x ∉ G) := by
  intro x hx
  induction hx with
  | root =>
    by_cases hr : root = G.headD 0
    · exact Or.inl (if_pos hr)
    · rw [if_neg hr]
      refine Or.inr ⟨Reach.root, fun hin => ?_⟩
      obtain ⟨c, hc, hdep⟩ := hok.parent root (mem_tail_of_ne_head hin hr)
      exact hplan.root_free c (hok.reach c hc) hdep
  | step hc hd ih =>
    rename_i c d
    by_cases hcf : c = fr
    · -- an operand of the new node is an operand of a member outside the group
      subst hcf
      rw [hnp.deps_fresh] at hd
      obtain ⟨g, hg, hdg, hdn⟩ := mem_groupDeps hd
      exact Or.inr ⟨Reach.step (hok.reach g hg) hdg, hdn⟩
    · obtain ⟨hcr, hcg⟩ := ih.resolve_left hcf
      rw [hnp.deps_old c hcf, List.mem_map] at hd
      obtain ⟨d0, hd0, rfl⟩ := hd
      unfold sub
      by_cases h0 : d0 = G.headD 0
      · exact Or.inl (if_pos h0)
      · rw [if_neg h0]
        -- a non-first member has all its dependents in the group, but `c` is outside
        exact Or.inr ⟨Reach.step hcr hd0, fun hin =>
          hcg (hok.closed d0 (mem_tail_of_ne_head hin h0) c hcr hd0)⟩

/-! ### the measure -/

/-- number of blockwise expressions reachable from the root (the keys of `dependents`) -/
def measure (dag : Dag) (root : Nat) : Nat :=
  match globalMaps dag root with
  | some m => m.dependents.keys.length
  | none => 0

theorem keys_spec (dag : Dag) (root : Nat) (m : Maps) (hm : WInv dag root [] m) (k : Nat) :
    k ∈ m.dependents.keys ↔ Reach dag root k ∧ isBw dag k = true := by
  constructor
  · intro hk
    obtain ⟨hb, hs⟩ := hm.keys_bw k hk
    exact ⟨hm.reach k hs, hb⟩
  · rintro ⟨hr, hb⟩
    exact hm.keys_complete k (reach_seen dag root m hm k hr) hb

theorem measure_decreases (dag dag' : Dag) (root : Nat) (G : List Nat) (fr : Nat)
    (hnp : NewPlan dag dag' G fr) (hok : GroupOK dag root G) (hlen : 2 ≤ G.length)
    (hplan : PlanOK dag root) :
    measure dag' (if root = G.headD 0 then fr else root) < measure dag root := by
  unfold measure
  have h1 := globalMaps_total dag root
  have h2 := globalMaps_total dag' (if root = G.headD 0 then fr else root)
  cases hm : globalMaps dag root with
  | none => rw [hm] at h1; cases h1
  | some m =>
    cases hm' : globalMaps dag' (if root = G.headD 0 then fr else root) with
    | none => rw [hm'] at h2; cases h2
    | some m' =>
      have hw := globalMaps_inv dag root m hm
      have hw' := globalMaps_inv dag' _ m' hm'
      refine shrink_length m.dependents.keys m'.dependents.keys G fr hw'.keys_nodup hok.nodup
        (fun g hg => (keys_spec dag root m hw g).mpr ⟨hok.reach g hg, hok.blockwise g hg⟩) hlen ?_
      intro k hk
      obtain ⟨hr, hb⟩ := (keys_spec dag' _ m' hw' k).mp hk
      by_cases hkf : k = fr
      · exact Or.inl hkf
      · obtain ⟨hr0, hng⟩ := (reach_new dag dag' root G fr hnp hok hplan k hr).resolve_left hkf
        rw [hnp.bw_old k hkf] at hb
        exact Or.inr ⟨(keys_spec dag root m hw k).mpr ⟨hr0, hb⟩, hng⟩

theorem planOK_preserved (dag dag' : Dag) (root : Nat) (G : List Nat) (fr : Nat)
    (hnp : NewPlan dag dag' G fr) (hok : GroupOK dag root G) (hplan : PlanOK dag root)
    (hfr : ∀ x, (getNode dag x).isSome = true → x < fr) (hfd : ∀ x d, d ∈ depsOf dag x → d < fr) :
    PlanOK dag' (if root = G.headD 0 then fr else root) := by
  have hrootne : root ≠ fr := Nat.ne_of_lt (hfr root hplan.root_node)
  refine ⟨?_, ?_⟩
  · by_cases hr : root = G.headD 0
    · rw [if_pos hr]; exact hnp.node_fresh
    · rw [if_neg hr, hnp.node_old root hrootne]
      exact hplan.root_node
  · intro c hc hin
    -- an old operand `d0` of a reachable node is neither the old root nor the new name,
    -- so after the substitution it is not the new root
    have key : ∀ g, Reach dag root g → ∀ d0 ∈ depsOf dag g,
        (if root = G.headD 0 then fr else root) ≠ d0 ∧
        (if root = G.headD 0 then fr else root) ≠ sub (G.headD 0) fr d0 := by
      intro g hg d0 hd0
      have h1 : d0 ≠ root := fun e => hplan.root_free g hg (e ▸ hd0)
      have h2 : d0 ≠ fr := Nat.ne_of_lt (hfd g d0 hd0)
      unfold sub
      by_cases hr : root = G.headD 0
      · rw [if_pos hr]
        refine ⟨Ne.symm h2, ?_⟩
        by_cases h0 : d0 = G.headD 0
        · exact absurd (h0.trans hr.symm) h1
        · rw [if_neg h0]; exact Ne.symm h2
      · rw [if_neg hr]
        refine ⟨Ne.symm h1, ?_⟩
        by_cases h0 : d0 = G.headD 0
        · rw [if_pos h0]; exact hrootne
        · rw [if_neg h0]; exact Ne.symm h1
    by_cases hcf : c = fr
    · subst hcf
      rw [hnp.deps_fresh] at hin
      obtain ⟨g, hg, hdg, _⟩ := mem_groupDeps hin
      exact (key g (hok.reach g hg) _ hdg).1 rfl
    · obtain ⟨hcr, _⟩ := (reach_new dag dag' root G fr hnp hok hplan c hc).resolve_left hcf
      rw [hnp.deps_old c hcf, List.mem_map] at hin
      obtain ⟨d0, hd0, heq⟩ := hin
      exact (key c hcr d0 hd0).2 heq.symm

theorem pass_decreases (ord : Nat → List Nat → List Nat) (hord : OrdOK ord) (dag : Dag) (root : Nat)
    (hplan : PlanOK dag root) (r : PassResult) (G : List Nat)
    (h : fusionPass ord dag root = some r) (hg : r.group = some G) :
    measure r.dag r.root < measure dag root ∧ PlanOK r.dag r.root := by
  obtain ⟨hok, hlen⟩ := fusionPass_groupOK ord hord dag root r G h hg
  obtain ⟨m, s, _, _, _, hdag, hroot⟩ := fusionPass_some ord dag root r G h hg
  have hnp := newPlan dag G
  rw [hdag, hroot]
  exact ⟨measure_decreases dag _ root G _ hnp hok hlen hplan,
    planOK_preserved dag _ root G _ hnp hok hplan (fun x hx => lt_fresh_of_isSome hx) (fun x d hd => dep_lt_fresh hd)⟩

/-- The outer loop of `optimize_blockwise_fusion` stops: with more fuel than reachable blockwise
    nodes, the only way `fuseLoop` fails to return is an inner loop of some pass running out of its
    own fuel (which the driver reports as `FUEL`; never observed).  The statement only says that *some* pass
    on *some* plan returns `none`, not that the loop reached it. -/
theorem fuseLoop_terminates (ord : Nat → List Nat → List Nat) (hord : OrdOK ord) :
    ∀ (fuel : Nat) (dag : Dag) (root n : Nat), PlanOK dag root → measure dag root < fuel →
      fuseLoop ord fuel dag root n = none → ∃ dag' root', fusionPass ord dag' root' = none := by
  intro fuel
  induction fuel with
  | zero => intro dag root n _ h; exact absurd h (Nat.not_lt_zero _)
  | succ fuel ih =>
    intro dag root n hplan hlt hnone
    simp only [fuseLoop] at hnone
    cases hp : fusionPass ord dag root with
    | none => exact ⟨dag, root, hp⟩
    | some r =>
      simp only [hp] at hnone
      cases hg : r.group with
      | none => simp [hg] at hnone
      | some G =>
        simp only [hg] at hnone
        by_cases hd : r.done = true
        · simp [hd] at hnone
        · simp only [hd] at hnone
          obtain ⟨hdec, hplan'⟩ := pass_decreases ord hord dag root hplan r G hp hg
          exact ih r.dag r.root (n + 1) hplan' (Nat.lt_of_lt_of_le hdec (Nat.le_of_lt_succ hlt))
            (by simpa using hnone)

end Dx.Fusion

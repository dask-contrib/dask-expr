/-
  Lemmas/Termination.lean — the `simplify` loop (fixpoint on normal exit, non-convergence only on a
  revisit, termination on finite orbits, convergence when every changing pass decreases a well-founded
  measure) and soundness of the rank check of the generated table.
-/
import DxModel.Termination
import DxModel.Lemmas.ListBasics
namespace Dx.Term

theorem iter_succ (step : Nat → Nat) : ∀ (k : Nat) (e : Nat), iter step (k+1) e = step (iter step k e)
  | 0, _ => rfl
  | k+1, e => iter_succ step k (step e)

/-- invariant of the loop started at `e0` after `k` passes: the current expression is the `k`-th
    iterate and `seen` holds exactly the iterates `1..k` -/
structure SInv (step : Nat → Nat) (e0 : Nat) (k : Nat) (e : Nat) (seen : List Nat) : Prop where
  cur : e = iter step k e0
  seen_iter : ∀ x ∈ seen, ∃ j, 1 ≤ j ∧ j ≤ k ∧ x = iter step j e0
  seen_len : seen.length = k
  seen_nodup : seen.Nodup

theorem SInv.step {step : Nat → Nat} {e0 k e : Nat} {seen : List Nat} (inv : SInv step e0 k e seen)
    (h2 : step e ∉ seen) : SInv step e0 (k+1) (step e) (step e :: seen) where
  cur := by rw [iter_succ, ← inv.cur]
  seen_iter := fun x hx => (List.mem_cons.mp hx).elim
    (fun h => ⟨k+1, Nat.le_add_left .., Nat.le_refl _, by rw [h, iter_succ, ← inv.cur]⟩)
    (fun hx => let ⟨j, a, b, c⟩ := inv.seen_iter x hx; ⟨j, a, Nat.le_succ_of_le b, c⟩)
  seen_len := congrArg (· + 1) inv.seen_len
  seen_nodup := List.nodup_cons.mpr ⟨h2, inv.seen_nodup⟩

theorem SInv.init (step : Nat → Nat) (e0 : Nat) : SInv step e0 0 e0 [] := by
  refine ⟨rfl, ?_, rfl, List.nodup_nil⟩
  intro x hx
  cases hx

theorem simplifyLoop_spec (step : Nat → Nat) (e0 : Nat) :
    ∀ (fuel k e : Nat) (seen : List Nat) (out : SimpOut), SInv step e0 k e seen →
      simplifyLoop step fuel e seen = some out →
      (∀ r, out = .ok r → step r = r ∧ ∃ n, r = iter step n e0) ∧
      (∀ a b, out = .noconv a b → b = step a ∧ ∃ i j, 1 ≤ i ∧ i < j ∧ iter step i e0 = iter step j e0) := by
  intro fuel
  induction fuel with
  | zero => intro k e seen out _ h; cases h
  | succ fuel ih =>
    intro k e seen out inv h
    simp only [simplifyLoop] at h
    split at h
    · next h1 =>
      cases h
      exact ⟨fun r hr => (by cases hr; exact ⟨h1, k, inv.cur⟩), fun a b hab => nomatch hab⟩
    · split at h
      · next h2 =>
        cases h
        refine ⟨fun r hr => (nomatch hr), fun a b hab => ?_⟩
        cases hab
        obtain ⟨j, hj1, hjk, hj⟩ := inv.seen_iter _ h2
        exact ⟨rfl, j, k + 1, hj1, Nat.lt_succ_of_le hjk, by rw [← hj, iter_succ, ← inv.cur]⟩
      · next h2 => exact ih (k+1) (step e) (step e :: seen) out (inv.step h2) h

/-- with a finite orbit the loop returns or reports non-convergence before the fuel runs out -/
theorem simplifyLoop_total (step : Nat → Nat) (e0 : Nat) (univ : List Nat)
    (horbit : ∀ j, iter step j e0 ∈ univ) :
    ∀ (fuel k e : Nat) (seen : List Nat), SInv step e0 k e seen → univ.length + 1 ≤ fuel + k →
      (simplifyLoop step fuel e seen).isSome = true := by
  intro fuel
  induction fuel with
  | zero =>
    intro k e seen inv hf
    -- `seen` holds `k` different members of the orbit
    have : seen.length ≤ univ.length := inv.seen_nodup.length_le_of_subset fun x hx => by
      obtain ⟨j, _, _, hj⟩ := inv.seen_iter x hx
      exact hj ▸ horbit j
    rw [inv.seen_len] at this
    omega
  | succ fuel ih =>
    intro k e seen inv hf
    simp only [simplifyLoop]
    split
    · rfl
    · split
      · rfl
      · next h2 => exact ih (k+1) _ _ (inv.step h2) (by omega)

/-- the outcome does not depend on the fuel once it suffices (the analogue of `lowerOnce_mono`) -/
theorem simplifyLoop_mono (step : Nat → Nat) {fuel fuel' e : Nat} {seen : List Nat} {out : SimpOut}
    (h : simplifyLoop step fuel e seen = some out) (hle : fuel ≤ fuel') :
    simplifyLoop step fuel' e seen = some out := by
  induction fuel generalizing fuel' e seen with
  | zero => cases h
  | succ fuel ih =>
    obtain ⟨f, rfl, hle'⟩ := pred_fuel hle
    simp only [simplifyLoop] at h ⊢
    by_cases h1 : step e = e
    · simp only [h1, if_true] at h ⊢
      exact h
    · by_cases h2 : step e ∈ seen
      · simp only [h1, h2, if_true, if_false] at h ⊢
        exact h
      · simp only [h1, h2, if_false] at h ⊢
        exact ih h hle'

/-! ### convergence when every pass that changes the expression decreases a well-founded measure -/

theorem wf_irrefl {β} {lt : β → β → Prop} (hwf : WellFounded lt) (a : β) : ¬ lt a a :=
  fun h => (hwf.apply a).rec (motive := fun x _ => ¬ lt x x) (fun _ _ ih hx => ih _ hx hx) h

/-- invariant of the loop: everything in `seen` is the current expression or has a larger measure.  A pass to a
    smaller measure therefore leaves `seen`, and the invariant holds again -/
theorem seen_step {α β} {lt : β → β → Prop} (hwf : WellFounded lt) (htr : ∀ {a b c}, lt a b → lt b c → lt a c)
    (m : α → β) {e e' : α} {seen : List α} (hseen : ∀ x ∈ seen, x = e ∨ lt (m e) (m x)) (hlt : lt (m e') (m e)) :
    e' ∉ seen ∧ ∀ x ∈ e' :: seen, x = e' ∨ lt (m e') (m x) := by
  have hlarger : ∀ x ∈ seen, lt (m e') (m x) := fun x hx =>
    (hseen x hx).elim (fun he => he ▸ hlt) (htr hlt)
  exact ⟨fun hm => wf_irrefl hwf _ (hlarger _ hm),
    fun x hx => (List.mem_cons.mp hx).imp id (hlarger x)⟩

theorem simplifyLoop_converges {β} {lt : β → β → Prop} (hwf : WellFounded lt)
    (htr : ∀ {a b c}, lt a b → lt b c → lt a c) (step : Nat → Nat) (m : Nat → β)
    (hpass : ∀ e, step e ≠ e → lt (m (step e)) (m e)) :
    ∀ e seen, (∀ x ∈ seen, x = e ∨ lt (m e) (m x)) →
      ∃ n r, step r = r ∧ (∃ k, r = iter step k e) ∧
        ∀ fuel, n ≤ fuel → simplifyLoop step fuel e seen = some (.ok r) := by
  intro e
  induction e using (InvImage.wf m hwf).induction with
  | _ e ih =>
    intro seen hseen
    by_cases h1 : step e = e
    · refine ⟨1, e, h1, ⟨0, rfl⟩, ?_⟩
      intro fuel hf
      obtain ⟨f, rfl⟩ := Nat.exists_eq_add_of_le' hf
      simp only [simplifyLoop, h1, if_true]
    · have hlt := hpass e h1
      obtain ⟨h2, hseen'⟩ := seen_step hwf htr m hseen hlt
      obtain ⟨n, r, hr, ⟨k, hk⟩, hfuel⟩ := ih (step e) hlt (step e :: seen) hseen'
      refine ⟨n + 1, r, hr, ⟨k + 1, hk⟩, ?_⟩
      intro fuel hf
      obtain ⟨f, rfl, hf'⟩ := pred_fuel hf
      simp only [simplifyLoop, h1, h2, if_false]
      exact hfuel f hf'

/-! ### the rank check of the generated "may construct" table -/

theorem rankOK_sound (table : List (Nat × List Nat)) (ranks : List Nat) (h : rankOK table ranks = true) :
    ∀ c c', MayConstruct table c c' → rankOf ranks c' < rankOf ranks c := by
  intro c c' ⟨e, he, hc, hc'⟩
  unfold rankOK at h
  simp only [List.all_eq_true, decide_eq_true_eq] at h
  exact hc ▸ h e he c' hc'

/-- a path of length ≥ 1 in the relation -/
inductive Path (R : Nat → Nat → Prop) : Nat → Nat → Prop where
  | single {a b : Nat} : R a b → Path R a b
  | cons {a b c : Nat} : R a b → Path R b c → Path R a c

theorem acyclic_of_rank (R : Nat → Nat → Prop) (rk : Nat → Nat) (h : ∀ a b, R a b → rk b < rk a) :
    ∀ a, ¬ Path R a a := by
  have key : ∀ a b, Path R a b → rk b < rk a := by
    intro a b p
    induction p with
    | single r => exact h _ _ r
    | cons r _ ih => have := h _ _ r; omega
  intro a p
  exact Nat.lt_irrefl _ (key a a p)

end Dx.Term

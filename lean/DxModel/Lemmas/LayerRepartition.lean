/-
  Lemmas/LayerRepartition.lean — `LayerWF` of the four repartition layers (Layers/Repartition.lean) for all
  parameters.  The float-computed parameters (boundaries, split counts) enter through exactly the hypotheses
  the harness checks on the real values (T3): boundaries do not exceed the number of available partitions /
  pieces; for RepartitionDivisions the emitted plan refers to existing pieces and input partitions
  (`divStateOK`, decidable, checked on every enumerated real plan).
-/
import DxModel.LayerOK
import DxModel.Lemmas.Repartition
import DxModel.Layers.LayerChecks
namespace Dx
namespace Repartition

def outIdx : Key → Option Nat
  | .out j => some j
  | _ => none

def depOf : Key → Option (Nat × Nat)
  | .dep i => some (0, i)
  | _ => none

def rank : Key → Nat
  | .dep _ => 0
  | .split _ => 1
  | .piece _ => 2
  | .out _ => 3

variable {ns bs : List Nat} {i j : Nat} {t : Tsk Key} {r : Key}

/-- The four layers classify and rank their keys in the same way: what is left to show of each is which `out`
    keys it defines, that it defines no `dep` key, and where its references point. -/
theorem wf_of_refs {task : Graph Key} {nout : Nat} {depN : List Nat}
    (hout : ∀ i, (task (.out i)).isSome ↔ i < nout) (hdep : ∀ i, task (.dep i) = none)
    (refs : ∀ k t, task k = some t → ∀ r ∈ t.refs,
      LSpec.RefOK { task, nout, out := Key.out, outIdx, depOf, rank, bound := 3 } depN k r) :
    LayerWF { task, nout, out := Key.out, outIdx, depOf, rank, bound := 3 } depN := by
  refine .ofRefs (fun _ _ => rfl) (fun i hi => (hout i).mpr hi) ?_ ?_ refs ?_
  · intro k i hk hidx
    cases k <;> cases hidx
    exact ⟨(hout _).mp hk, rfl⟩
  · intro k hk
    cases k with
    | dep i => exact nomatch (hdep i ▸ hk : (none : Option (Tsk Key)).isSome)
    | _ => rfl
  · intro k _
    cases k <;> exact Nat.le_of_ble_eq_true rfl

/-! ### the output tasks of RepartitionToFewer and RepartitionSize -/

/-- output `i` concatenates the keys `c s, …, c (e-1)` between two neighbouring boundaries `s`, `e` -/
def spanTask (bs : List Nat) (c : Nat → Key) (i : Nat) : Option (Tsk Key) :=
  match bs[i]?, bs[i+1]? with
  | some s, some e => some (.concat ((List.range' s (e - s)).map c) false)
  | _, _ => none

theorem fewerTask_out (bs : List Nat) (i : Nat) : fewerTask bs (.out i) = spanTask bs Key.dep i := rfl

theorem sizeTask_out (ns bs : List Nat) (i : Nat) :
    sizeTask ns bs (.out i) = spanTask bs (if anySplit ns then Key.piece else Key.dep) i := rfl

theorem spanTask_isSome (bs : List Nat) (c : Nat → Key) (i : Nat) :
    (spanTask bs c i).isSome ↔ i < bs.length - 1 := by
  unfold spanTask
  rw [Nat.lt_sub_iff_add_lt]
  constructor
  · intro h
    split at h
    · next he => exact (List.getElem?_eq_some_iff.mp he).1
    · cases h
  · intro h
    rw [List.getElem?_eq_getElem h, List.getElem?_eq_getElem (Nat.lt_of_succ_lt h)]
    rfl

theorem spanTask_refs {c : Nat → Key} (h : spanTask bs c i = some t) (hr : r ∈ t.refs) :
    ∃ e ∈ bs, ∃ j, j < e ∧ r = c j := by
  unfold spanTask at h
  split at h
  · next s e _ he =>
    cases h
    obtain ⟨j, hj, rfl⟩ := List.mem_map.mp hr
    have := List.mem_range'_1.mp hj
    exact ⟨e, List.mem_of_getElem? he, j, by omega, rfl⟩
  · cases h

/-! ### RepartitionToFewer -/

def fewerSpec (bs : List Nat) : LSpec Key :=
  { task := fewerTask bs, nout := bs.length - 1, out := Key.out, outIdx := outIdx, depOf := depOf
    rank := rank, bound := 3 }

theorem fewer_wf (bs : List Nat) (nin : Nat) (hb : ∀ x ∈ bs, x ≤ nin) : LayerWF (fewerSpec bs) [nin] := by
  refine wf_of_refs (spanTask_isSome bs Key.dep) (fun _ => rfl) ?_
  intro k t hk r hr
  match k, hk with
  | .out i, hk =>
    obtain ⟨e, he, j, hj, rfl⟩ := spanTask_refs (fewerTask_out bs i ▸ hk) hr
    exact .dep rfl rfl (Nat.lt_of_lt_of_le hj (hb e he))

/-- the hypothesis of `fewer_wf` follows from the one of `C13_fewer` -/
theorem boundariesOK_le (bs : List Nat) (nin : Nat) (h : boundariesOK bs nin = true) : ∀ x ∈ bs, x ≤ nin := by
  obtain ⟨_, hl, hm⟩ := boundariesOK_iff.mp h
  exact mono_le_last bs nin hm hl

/-! ### RepartitionToMore -/

theorem locate_lt_sum : ∀ (ns : List Nat) (i0 j : Nat) (loc : Nat × Nat × Nat), locate ns i0 j = some loc → j < sum ns
  | [], _, _, _, h => nomatch h
  | k :: ks, i0, j, loc, h => by
    unfold locate at h
    split at h
    · next hj => exact Nat.lt_of_lt_of_le hj (Nat.le_add_right k _)
    · next hj => exact (Nat.sub_lt_iff_lt_add' (Nat.le_of_not_lt hj)).mp (locate_lt_sum ks _ _ _ h)

def moreSpec (ns : List Nat) : LSpec Key :=
  { task := moreTask ns, nout := sum ns, out := Key.out, outIdx := outIdx, depOf := depOf
    rank := rank, bound := 3 }

theorem more_out_isSome (ns : List Nat) (j : Nat) : (moreTask ns (.out j)).isSome ↔ j < sum ns := by
  rw [moreTask]
  constructor
  · intro h
    split at h
    · next hl => exact locate_lt_sum ns 0 j _ hl
    · cases h
  · intro h
    obtain ⟨⟨i, jj, k⟩, hl⟩ := locate_some_of_lt ns 0 j h
    rw [hl]
    dsimp only
    split <;> rfl

theorem moreTask_split_isSome {k : Nat} (h : ns[i]? = some k) (hk : k ≠ 1) : (moreTask ns (.split i)).isSome := by
  rw [moreTask, h]
  dsimp only
  rw [if_neg hk]
  rfl

theorem moreTask_split_refs (h : moreTask ns (.split i) = some t) (hr : r ∈ t.refs) :
    r = .dep i ∧ i < ns.length := by
  rw [moreTask] at h
  split at h
  · next k hk =>
    split at h
    · cases h
    · cases h
      exact ⟨List.mem_singleton.mp hr, (List.getElem?_eq_some_iff.mp hk).1⟩
  · cases h

/-- an output of the splitting layer reads its input partition `i`, or a piece of the defined `split i` -/
theorem moreTask_out_refs (h : moreTask ns (.out j) = some t) (hr : r ∈ t.refs) :
    ∃ i, i < ns.length ∧ (r = .dep i ∨ r = .split i ∧ (moreTask ns (.split i)).isSome) := by
  rw [moreTask] at h
  split at h
  · next i jj k hl =>
    have hi : ns[i]? = some k := (locate_spec ns 0 j i jj k hl).2.1
    refine ⟨i, (List.getElem?_eq_some_iff.mp hi).1, ?_⟩
    split at h
    · cases h
      exact .inl (List.mem_singleton.mp hr)
    · next hk =>
      cases h
      exact .inr ⟨List.mem_singleton.mp hr, moreTask_split_isSome hi hk⟩
  · cases h

theorem more_wf (ns : List Nat) : LayerWF (moreSpec ns) [ns.length] := by
  refine wf_of_refs (more_out_isSome ns) (fun _ => rfl) ?_
  intro k t hk r hr
  match k, hk with
  | .out j, hk =>
    obtain ⟨i, hi, rfl | ⟨rfl, hs⟩⟩ := moreTask_out_refs hk hr
    · exact .dep rfl rfl hi
    · exact .own hs (by decide : 1 < 3)
  | .split i, hk =>
    obtain ⟨rfl, hi⟩ := moreTask_split_refs hk hr
    exact .dep rfl rfl hi

/-! ### RepartitionSize -/

def sizeSpec (ns bs : List Nat) : LSpec Key :=
  { task := sizeTask ns bs, nout := bs.length - 1, out := Key.out, outIdx := outIdx, depOf := depOf
    rank := rank, bound := 3 }

/-- with some partition split, the `piece` and `split` tasks are the `out` and `split` tasks of RepartitionToMore -/
theorem sizeTask_piece (bs : List Nat) (ha : anySplit ns = true) (j : Nat) :
    sizeTask ns bs (.piece j) = moreTask ns (.out j) := if_pos ha

theorem sizeTask_split (bs : List Nat) (ha : anySplit ns = true) (i : Nat) :
    sizeTask ns bs (.split i) = moreTask ns (.split i) := if_pos ha

/-- the boundaries count the pieces (when some partition is split) or the input partitions (T3-checked) -/
theorem size_wf (ns bs : List Nat)
    (hb : ∀ x ∈ bs, x ≤ (if anySplit ns then sum ns else ns.length)) : LayerWF (sizeSpec ns bs) [ns.length] := by
  refine wf_of_refs (spanTask_isSome bs _) (fun _ => rfl) ?_
  intro k t hk r hr
  match k, hk with
  | .out i, hk =>
    obtain ⟨e, he, j, hj, rfl⟩ := spanTask_refs (sizeTask_out ns bs i ▸ hk) hr
    have hj := Nat.lt_of_lt_of_le hj (hb e he)
    by_cases ha : anySplit ns = true
    · rw [if_pos ha] at hj ⊢
      exact .own ((congrArg Option.isSome (sizeTask_piece bs ha j)).trans ((more_out_isSome ns j).mpr hj))
        (by decide : 2 < 3)
    · rw [if_neg ha] at hj ⊢
      exact .dep rfl rfl hj
  | .piece j, hk =>
    obtain ⟨ha, hk⟩ := Option.ite_none_right_eq_some.mp hk
    obtain ⟨i, hi, rfl | ⟨rfl, hs⟩⟩ := moreTask_out_refs hk hr
    · exact .dep rfl rfl hi
    · exact .own ((congrArg Option.isSome (sizeTask_split bs ha i)).trans hs) (by decide : 1 < 2)
  | .split i, hk =>
    obtain ⟨ha, hk⟩ := Option.ite_none_right_eq_some.mp hk
    obtain ⟨rfl, hi⟩ := moreTask_split_refs hk hr
    exact .dep rfl rfl hi

/-! ### RepartitionDivisions -/

def divSpec (st : DivState) : LSpec Key :=
  { task := divTask st, nout := st.outs.length, out := Key.out, outIdx := outIdx, depOf := depOf
    rank := rank, bound := 3 }

theorem div_out_isSome (st : DivState) (j : Nat) : (divTask st (.out j)).isSome ↔ j < st.outs.length := by
  rw [divTask, ← isSome_getElem? st.outs j]
  -- on each shape of `st.outs[j]?` that `divTask` distinguishes, both sides compute
  rcases st.outs[j]? with _ | _ | ⟨_, _ | _⟩ <;> exact Iff.rfl

theorem div_piece_isSome {st : DivState} {q : Nat} (h : q < st.pieces.length) : (divTask st (.piece q)).isSome := by
  rw [divTask, List.getElem?_eq_getElem h]
  rfl

theorem div_wf (st : DivState) (nin : Nat) (hok : divStateOK st nin = true) : LayerWF (divSpec st) [nin] := by
  simp only [divStateOK, closedOK, Bool.and_eq_true, List.all_eq_true, decide_eq_true_eq] at hok
  obtain ⟨⟨hc, hp⟩, hn⟩ := hok
  refine wf_of_refs (div_out_isSome st) (fun _ => rfl) ?_
  intro k t hk r hr
  match k, hk with
  | .piece q, hk =>
    rw [divTask] at hk
    split at hk
    · next s hs =>
      cases hk
      cases List.mem_singleton.mp hr
      exact .dep rfl rfl (hp s (List.mem_of_getElem? hs))
    · cases hk
  | .out j, hk =>
    rw [divTask] at hk
    split at hk
    · cases hk
      cases List.mem_singleton.mp hr
      exact .dep rfl rfl hn
    · next q hq =>
      cases hk
      cases List.mem_singleton.mp hr
      exact .own (div_piece_isSome (hc _ (List.mem_of_getElem? hq) q (List.mem_singleton_self q)))
        (by decide : 2 < 3)
    · next tmp _ _ hq =>
      cases hk
      obtain ⟨q, hq', rfl⟩ := List.mem_map.mp hr
      exact .own (div_piece_isSome (hc _ (List.mem_of_getElem? hq) q hq')) (by decide : 2 < 3)
    · cases hk

end Repartition
end Dx

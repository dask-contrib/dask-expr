/-
  Lemmas/TerminationLower.lean — repeated lowering terminates when the class-level "may construct"
  relation of the `_lower` methods has a strictly decreasing rank.

  Abstraction of a `_lower` method (`Respects`): applied to a node of class `c` it returns a tree whose
  nodes are either (copies of) subterms of the node's operands or new nodes of classes `c'` with
  `MayConstruct c c'`.  Copies are allowed any number of times (`Mean` lowers to
  `Sum(frame) / Count(frame)`), the result may depend on the operands in any way (guards).
  Under a rank that strictly decreases along `MayConstruct` the rewrite relation "apply `_lower`
  somewhere" is strongly normalizing (recursive-path-order argument: induction on the rank of the root
  class, then on the operands), so `lower_once` is defined and `lower_completely` reaches a fixpoint.
-/
import DxModel.Termination
import DxModel.Lemmas.ListBasics
namespace Dx.Term

/-- induction over expression trees with the hypothesis for every operand -/
theorem T.ind {P : T → Prop} (node : ∀ c ks, (∀ k ∈ ks, P k) → P (.node c ks)) (t : T) : P t :=
  T.rec (motive_1 := P) (motive_2 := fun ks => ∀ k ∈ ks, P k) node
    (fun _ h => nomatch h) (fun _ _ hk hks => List.forall_mem_cons.2 ⟨hk, hks⟩) t

/-- one application of `_lower` somewhere in the tree -/
inductive Rew (low : T → Option T) : T → T → Prop where
  | root {t t' : T} : low t = some t' → Rew low t t'
  | kid {c : Nat} {pre post : List T} {k k' : T} :
      Rew low k k' → Rew low (.node c (pre ++ k :: post)) (.node c (pre ++ k' :: post))

/-- `Sub s t`: `s` is a subterm of `t` (reflexive) -/
inductive Sub : T → T → Prop where
  | refl (t : T) : Sub t t
  | step {s k : T} {c : Nat} {ks : List T} : Sub s k → k ∈ ks → Sub s (.node c ks)

/-- what `_lower` of a node of class `c` with operands `ks` may return -/
inductive Built (E : Nat → Nat → Prop) (c : Nat) (ks : List T) : T → Prop where
  | old {s k : T} : Sub s k → k ∈ ks → Built E c ks s
  | new {c' : Nat} {ss : List T} : E c c' → (∀ s ∈ ss, Built E c ks s) → Built E c ks (.node c' ss)

def Respects (E : Nat → Nat → Prop) (low : T → Option T) : Prop :=
  ∀ c ks t', low (.node c ks) = some t' → Built E c ks t'

/-- strongly normalizing: no infinite sequence of `_lower` applications starts at `t` -/
def SN (low : T → Option T) (t : T) : Prop := Acc (fun a b => Rew low b a) t

theorem Sub.lift {low : T → Option T} {s t : T} (h : Sub s t) :
    ∀ s', Rew low s s' → ∃ t', Rew low t t' ∧ Sub s' t' := by
  induction h with
  | refl => intro s' hr; exact ⟨s', hr, Sub.refl _⟩
  | @step k c ks _ hk ih =>
    intro s' hr
    obtain ⟨k', hk', hsub⟩ := ih s' hr
    obtain ⟨pre, post, rfl⟩ := List.append_of_mem hk
    exact ⟨.node c (pre ++ k' :: post), Rew.kid hk', Sub.step hsub (by simp)⟩

theorem SN.sub {low : T → Option T} {t : T} (h : SN low t) : ∀ s, Sub s t → SN low s := by
  unfold SN at h
  induction h with
  | intro t _ ih =>
    intro s hs
    constructor
    intro s' hr
    obtain ⟨t', ht', hsub⟩ := hs.lift s' hr
    exact ih t' ht' s' hsub

/-- `RL a b`: the list `a` is `b` with one element rewritten -/
def RL (low : T → Option T) (a b : List T) : Prop :=
  ∃ pre k k' post, b = pre ++ k :: post ∧ a = pre ++ k' :: post ∧ Rew low k k'

theorem acc_cons {low : T → Option T} : ∀ k, SN low k → ∀ ks, Acc (RL low) ks → Acc (RL low) (k :: ks) := by
  intro k hk
  unfold SN at hk
  induction hk with
  | intro k hkacc ih1 =>
    intro ks hks
    induction hks with
    | intro ks hksacc ih2 =>
      constructor
      intro y hy
      obtain ⟨pre, x, x', post, hb, ha, hr⟩ := hy
      cases pre with
      | nil =>
        simp only [List.nil_append, List.cons.injEq] at hb
        obtain ⟨rfl, rfl⟩ := hb
        subst ha
        exact ih1 x' hr ks (Acc.intro ks hksacc)
      | cons p pre' =>
        simp only [List.cons_append, List.cons.injEq] at hb
        obtain ⟨rfl, rfl⟩ := hb
        subst ha
        exact ih2 (pre' ++ x' :: post) ⟨pre', x, x', post, rfl, rfl, hr⟩

theorem acc_list {low : T → Option T} : ∀ ks, (∀ k ∈ ks, SN low k) → Acc (RL low) ks := by
  intro ks
  induction ks with
  | nil =>
    intro _
    constructor
    intro y hy
    obtain ⟨pre, x, x', post, hb, _, _⟩ := hy
    cases pre <;> simp at hb
  | cons k ks ih =>
    intro h
    exact acc_cons k (h k (by simp)) ks (ih (fun x hx => h x (List.mem_cons_of_mem _ hx)))

/-- a node over strongly normalizing operands is strongly normalizing: induction on the rank of its class (what
    `_lower` builds at the root has smaller rank), then on the operands (a rewrite below the root) -/
theorem sn_node {low : T → Option T} {E : Nat → Nat → Prop} {rk : Nat → Nat}
    (hresp : Respects E low) (hrank : ∀ c c', E c c' → rk c' < rk c) :
    ∀ c ks, (∀ k ∈ ks, SN low k) → SN low (.node c ks) := by
  intro c
  induction hr : rk c using Nat.strongRecOn generalizing c with
  | _ r hlow =>
    intro ks hks
    have hacc := acc_list ks hks
    induction hacc with
    | intro ks _ ih =>
      constructor
      intro u hu
      have built_sn : ∀ u, Built E c ks u → SN low u := by
        intro u hb
        induction hb with
        | old hs hk => exact (hks _ hk).sub _ hs
        | @new c' ss he _ ih' => exact hlow (rk c') (hr ▸ hrank c c' he) c' rfl ss ih'
      generalize hnode : T.node c ks = t at hu
      cases hu with
      | root h =>
        subst hnode
        exact built_sn _ (hresp c ks _ h)
      | @kid c' pre post k k' hrew =>
        simp only [T.node.injEq] at hnode
        obtain ⟨rfl, rfl⟩ := hnode
        apply ih (pre ++ k' :: post) ⟨pre, k, k', post, rfl, rfl, hrew⟩
        intro x hx
        rcases List.mem_append.mp hx with hx | hx
        · exact hks x (by simp [hx])
        · rcases List.mem_cons.mp hx with rfl | hx
          · exact Acc.inv (hks k (by simp)) hrew
          · exact hks x (by simp [hx])

theorem all_sn {low : T → Option T} {E : Nat → Nat → Prop} {rk : Nat → Nat}
    (hresp : Respects E low) (hrank : ∀ c c', E c c' → rk c' < rk c) : ∀ t, SN low t :=
  T.ind (sn_node hresp hrank)

/-! ### structural equality test used by `lower_completely` (`new._name == expr._name`) -/

mutual
theorem T.beq_iff : ∀ (a b : T), T.beq a b = true ↔ a = b
  | .node c ks, .node c' ks' => by
    simp only [T.beq, Bool.and_eq_true, beq_iff_eq, T.node.injEq, T.beqList_iff ks ks']
theorem T.beqList_iff : ∀ (as bs : List T), T.beqList as bs = true ↔ as = bs
  | [], [] => by simp [T.beqList]
  | a :: as, b :: bs => by
    simp only [T.beqList, Bool.and_eq_true, List.cons.injEq, T.beq_iff a b, T.beqList_iff as bs]
  | [], _ :: _ => by simp [T.beqList]
  | _ :: _, [] => by simp [T.beqList]
end

/-! ### `lower_once` is defined (enough fuel exists) -/

theorem Sub.trans {a b c : T} (h1 : Sub a b) (h2 : Sub b c) : Sub a c := by
  induction h2 with
  | refl => exact h1
  | step _ hk ih => exact Sub.step ih hk

/-- `Desc a b`: `a` is obtained from `b` by one `_lower` application somewhere, or is an operand of `b` -/
def Desc (low : T → Option T) (a b : T) : Prop := Rew low b a ∨ a ∈ b.kids

theorem acc_desc_sub {low : T → Option T} {t : T} (h : SN low t) : ∀ s, Sub s t → Acc (Desc low) s := by
  unfold SN at h
  induction h with
  | intro t _ ihO =>
    intro s
    induction s using T.ind with
    | node c ks ihs =>
      intro hs
      constructor
      intro y hy
      rcases hy with hr | hmem
      · obtain ⟨t', ht', hsub⟩ := hs.lift y hr
        exact ihO t' ht' y hsub
      · exact ihs y hmem (Sub.trans (Sub.step (Sub.refl y) hmem) hs)

theorem mapOpt_cons {α β} {f : α → Option β} {a : α} {as : List α} {bs : List β}
    (h : mapOpt f (a :: as) = some bs) : ∃ b bs', f a = some b ∧ mapOpt f as = some bs' ∧ bs = b :: bs' := by
  simp only [mapOpt] at h
  split at h
  · next b bs' hb hbs => exact ⟨b, bs', hb, hbs, (Option.some.inj h).symm⟩
  · cases h

theorem mapOpt_mono {α β} (f g : α → Option β) : ∀ (l : List α) (bs : List β),
    (∀ a ∈ l, ∀ b, f a = some b → g a = some b) → mapOpt f l = some bs → mapOpt g l = some bs := by
  intro l
  induction l with
  | nil => exact fun _ _ h => h
  | cons a as ih =>
    intro bs hfg h
    obtain ⟨b, bs', hb, hbs, rfl⟩ := mapOpt_cons h
    simp only [mapOpt, hfg a (List.mem_cons_self ..) b hb, ih bs' (fun x hx => hfg x (List.mem_cons_of_mem _ hx)) hbs]

theorem lowerOnce_mono {low : T → Option T} : ∀ {f f' : Nat} {t u : T}, lowerOnce low f t = some u →
    f ≤ f' → lowerOnce low f' t = some u := by
  intro f
  induction f with
  | zero => intro f' t u h; rw [lowerOnce] at h; cases h
  | succ f ih =>
    intro f' t u h hle
    obtain ⟨g, rfl, hle'⟩ := pred_fuel hle
    rw [lowerOnce] at h ⊢
    obtain ⟨ks, hm, rfl⟩ := Option.map_eq_some_iff.mp h
    rw [mapOpt_mono _ (lowerOnce low g) _ ks (fun a _ b hb => ih hb hle') hm]
    rfl

/-- a common fuel for all operands -/
theorem kids_fuel {low : T → Option T} : ∀ (ks : List T), (∀ k ∈ ks, ∃ f u, lowerOnce low f k = some u) →
    ∃ F l, mapOpt (lowerOnce low F) ks = some l := by
  intro ks
  induction ks with
  | nil => intro _; exact ⟨0, [], rfl⟩
  | cons k ks ih =>
    intro h
    obtain ⟨f, u, hu⟩ := h k (by simp)
    obtain ⟨F, l, hl⟩ := ih (fun x hx => h x (List.mem_cons_of_mem _ hx))
    refine ⟨max f F, u :: l, ?_⟩
    simp only [mapOpt]
    rw [lowerOnce_mono hu (Nat.le_max_left f F),
      mapOpt_mono _ (lowerOnce low (max f F)) ks l (fun a _ b hb => lowerOnce_mono hb (Nat.le_max_right f F)) hl]

theorem outOf_cases (low : T → Option T) (t : T) :
    (low t = none ∧ outOf low t = t) ∨ (∃ o, low t = some o ∧ outOf low t = o) := by
  unfold outOf
  cases hl : low t with
  | none => exact Or.inl ⟨rfl, rfl⟩
  | some o => exact Or.inr ⟨o, rfl, rfl⟩

theorem lowerOnce_total {low : T → Option T} (t : T) (h : Acc (Desc low) t) :
    (∃ f u, lowerOnce low f t = some u) ∧ ∀ k ∈ t.kids, ∃ f u, lowerOnce low f k = some u := by
  induction h with
  | intro t _ ih =>
    have hkids : ∀ k ∈ t.kids, ∃ f u, lowerOnce low f k = some u :=
      fun k hk => (ih k (Or.inr hk)).1
    refine ⟨?_, hkids⟩
    have hout : ∀ k ∈ (outOf low t).kids, ∃ f u, lowerOnce low f k = some u := by
      rcases outOf_cases low t with ⟨_, ho⟩ | ⟨o, hl, ho⟩
      · rw [ho]; exact hkids
      · rw [ho]; exact (ih o (Or.inl (Rew.root hl))).2
    obtain ⟨F, l, hF⟩ := kids_fuel (outOf low t).kids hout
    exact ⟨F + 1, .node (outOf low t).cls l, by rw [lowerOnce, hF]; rfl⟩

/-! ### what `lower_once` computes is reachable by `_lower` applications -/

inductive RewStar (low : T → Option T) : T → T → Prop where
  | refl (t : T) : RewStar low t t
  | head {a b c : T} : Rew low a b → RewStar low b c → RewStar low a c

theorem RewStar.trans {low : T → Option T} {a b c : T} (h1 : RewStar low a b) (h2 : RewStar low b c) :
    RewStar low a c := by
  induction h1 with
  | refl => exact h2
  | head r _ ih => exact RewStar.head r (ih h2)

theorem RewStar.ctx {low : T → Option T} {k v : T} (h : RewStar low k v) (c : Nat) (pre post : List T) :
    RewStar low (.node c (pre ++ k :: post)) (.node c (pre ++ v :: post)) := by
  induction h with
  | refl => exact RewStar.refl _
  | head r _ ih => exact RewStar.head (Rew.kid r) ih

theorem RewStar.kids {low : T → Option T} (g : T → Option T) (c : Nat) : ∀ (ks l pre : List T),
    mapOpt g ks = some l → (∀ k ∈ ks, ∀ v, g k = some v → RewStar low k v) →
    RewStar low (.node c (pre ++ ks)) (.node c (pre ++ l)) := by
  intro ks
  induction ks with
  | nil =>
    intro l pre h _
    simp only [mapOpt, Option.some.injEq] at h
    subst h
    exact RewStar.refl _
  | cons k ks ih =>
    intro l pre h hg
    obtain ⟨v, l', hk, hks, rfl⟩ := mapOpt_cons h
    have h1 := (hg k (List.mem_cons_self ..) v hk).ctx c pre ks
    have h2 := ih l' (pre ++ [v]) hks (fun x hx => hg x (List.mem_cons_of_mem _ hx))
    simp only [List.append_assoc, List.singleton_append] at h2
    exact h1.trans h2

theorem lowerOnce_rewStar {low : T → Option T} : ∀ (f : Nat) (t u : T),
    lowerOnce low f t = some u → RewStar low t u := by
  intro f
  induction f with
  | zero => intro t u h; rw [lowerOnce] at h; cases h
  | succ f ih =>
    intro t u h
    rw [lowerOnce] at h
    obtain ⟨ks, hm, rfl⟩ := Option.map_eq_some_iff.mp h
    have hout : RewStar low t (outOf low t) := by
      rcases outOf_cases low t with ⟨_, ho⟩ | ⟨o, hl, ho⟩
      · rw [ho]; exact RewStar.refl _
      · rw [ho]; exact RewStar.head (Rew.root hl) (RewStar.refl _)
    refine hout.trans ?_
    generalize outOf low t = out at hm
    cases out with
    | node c oks =>
      have := RewStar.kids (low := low) (lowerOnce low f) c oks ks [] hm (fun k _ v hv => ih k v hv)
      simpa [T.cls, T.kids] using this

theorem RewStar.sn {low : T → Option T} {a b : T} (h : RewStar low a b) : SN low a → SN low b := by
  induction h with
  | refl => exact id
  | head r _ ih => exact fun ha => ih (Acc.inv ha r)

/-! ### `lower_completely` reaches a fixpoint -/

/-- `lower_completely` started at `u` returns `r` after `k` calls of `lower_once`, for all
    sufficiently large fuels, and `r` is a fixpoint of `lower_once` -/
def Converges (low : T → Option T) (u : T) : Prop :=
  ∃ F P r k, ∀ F', F ≤ F' → ∀ P', P ≤ P' → ∀ n,
    lowerCompletely low F' P' u n = some (r, n + k) ∧ lowerOnce low F' r = some r

theorem converges_all {low : T → Option T} (htot : ∀ t, ∃ f u, lowerOnce low f t = some u) :
    ∀ t, SN low t → ∀ u, RewStar low t u → Converges low u := by
  intro t ht
  unfold SN at ht
  induction ht with
  | intro t _ ih =>
    intro u hu
    cases hu with
    | head r rest => exact ih _ r u rest
    | refl =>
      obtain ⟨F0, u1, hu1⟩ := htot t
      by_cases hb : T.beq u1 t = true
      · have heq : u1 = t := (T.beq_iff u1 t).mp hb
        subst heq
        refine ⟨F0, 1, u1, 1, ?_⟩
        intro F' hF P' hP n
        obtain ⟨P'', rfl⟩ := Nat.exists_eq_add_of_le' hP
        have h1 := lowerOnce_mono hu1 hF
        exact ⟨by simp only [lowerCompletely, h1, hb, if_true], h1⟩
      · have hstar := lowerOnce_rewStar F0 t u1 hu1
        cases hstar with
        | refl => exact absurd ((T.beq_iff t t).mpr rfl) hb
        | head r rest =>
          obtain ⟨F1, P1, res, k, hres⟩ := ih _ r u1 rest
          refine ⟨max F0 F1, P1 + 1, res, k + 1, ?_⟩
          intro F' hF P' hP n
          obtain ⟨P'', rfl, hP'⟩ := pred_fuel hP
          have h1 := lowerOnce_mono hu1 (Nat.le_trans (Nat.le_max_left F0 F1) hF)
          obtain ⟨h2, h3⟩ := hres F' (Nat.le_trans (Nat.le_max_right F0 F1) hF) P'' hP' (n + 1)
          refine ⟨?_, h3⟩
          simp only [lowerCompletely, h1, hb]
          rw [h2, Nat.add_right_comm]
          rfl

/-- **Termination of `lower_completely`**: if every `_lower` only builds new nodes of classes it may
    construct (`Respects`) and a rank strictly decreases along "may construct", then from every tree
    `lower_completely` returns — for all sufficiently large fuels — a tree that `lower_once` leaves
    unchanged, after a number `k` of `lower_once` calls that does not depend on the fuels. -/
theorem lower_terminates {low : T → Option T} {E : Nat → Nat → Prop} {rk : Nat → Nat}
    (hresp : Respects E low) (hrank : ∀ c c', E c c' → rk c' < rk c) (t : T) : Converges low t := by
  have hsn := all_sn hresp hrank
  have htot : ∀ t, ∃ f u, lowerOnce low f t = some u :=
    fun t => (lowerOnce_total t (acc_desc_sub (hsn t) t (Sub.refl t))).1
  exact converges_all htot t (hsn t) t (RewStar.refl t)

theorem lowerCompletely_fixpoint {low : T → Option T} (F : Nat) : ∀ (P : Nat) (t r : T) (n m : Nat),
    lowerCompletely low F P t n = some (r, m) → lowerOnce low F r = some r := by
  intro P
  induction P with
  | zero => intro t r n m h; simp [lowerCompletely] at h
  | succ P ih =>
    intro t r n m h
    simp only [lowerCompletely] at h
    cases hl : lowerOnce low F t with
    | none => simp [hl] at h
    | some t' =>
      simp only [hl] at h
      by_cases hb : T.beq t' t = true
      · simp only [hb, if_true, Option.some.injEq, Prod.mk.injEq] at h
        rw [← h.1]
        exact (T.beq_iff t' t).mp hb ▸ hl
      · simp only [hb] at h
        exact ih t' r (n + 1) m h

end Dx.Term

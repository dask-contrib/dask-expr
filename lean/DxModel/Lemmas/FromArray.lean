/-
  Lemmas/FromArray.lean — `FromArray._divisions` / `_filtered_task` for every array length, chunk size
  and partition number: the index range built from the UNFILTERED divisions has exactly the length of the
  data slice, and row at array position `p` gets index label `p`.
-/
import DxModel.Lemmas.Partitions
namespace Dx.Parts
open Dx Dx.Repartition

theorem faDivisions_length (len cs : Nat) : (faDivisions len cs).length = nChunks len cs + 1 := by
  simp [faDivisions, pyRange_length]

theorem faDivisions_lo (len cs i : Nat) (hi : i < nChunks len cs) :
    (faDivisions len cs)[i]? = some ((i * cs : Nat) : Int) := by
  unfold faDivisions
  rw [List.getElem?_append_left (by simpa [pyRange_length] using hi)]
  simp [pyRange_getElem? len cs i hi]

theorem faDivisions_last (len cs : Nat) :
    (faDivisions len cs)[nChunks len cs]? = some ((len : Int) - 1) := by
  unfold faDivisions
  rw [List.getElem?_append_right (by simp [pyRange_length])]
  simp [pyRange_length]

/-- number of rows of chunk `i` -/
def chunkLen (len cs i : Nat) : Nat := min cs (len - i * cs)

theorem chunkLen_inner {len cs i : Nat} (h : (i + 1) * cs ≤ len) : chunkLen len cs i = cs := by
  rw [Nat.add_mul, Nat.one_mul] at h
  exact Nat.min_eq_left (Nat.le_sub_of_add_le' h)

theorem chunkLen_last {len cs i : Nat} (h : len ≤ (i + 1) * cs) : chunkLen len cs i = len - i * cs := by
  rw [Nat.add_mul, Nat.one_mul] at h
  exact Nat.min_eq_right (Nat.sub_le_of_le_add (by rwa [Nat.add_comm] at h))

theorem faIdx_spec (len cs i : Nat) (hcs : 1 ≤ cs) (hi : i < nChunks len cs) :
    faIdx len cs i = some ((List.range (chunkLen len cs i)).map (fun (t : Nat) => ((i * cs : Nat) : Int) + (t : Int))) := by
  have hlo := (lt_nChunks_iff hcs).mp hi
  unfold faIdx
  simp only [faDivisions_lo len cs i hi, faDivisions_length]
  rcases Nat.lt_or_eq_of_le (show i + 1 ≤ nChunks len cs from hi) with hlt | hlast
  · have hnext := (lt_nChunks_iff hcs).mp hlt
    have h2 : ¬ (i + 2 = nChunks len cs + 1) := fun e => Nat.ne_of_lt hlt (Nat.succ.inj e)
    simp only [faDivisions_lo len cs (i+1) hlt, h2, if_false]
    rw [chunkLen_inner (Nat.le_of_lt hnext), Nat.add_mul, Nat.one_mul, ← Int.natCast_sub (Nat.le_add_right _ _),
      Int.toNat_natCast, Nat.add_sub_cancel_left]
  · -- last chunk: stop = (len - 1) + 1
    have hd : (faDivisions len cs)[i + 1]? = some ((len : Int) - 1) := by rw [hlast]; exact faDivisions_last len cs
    have h2 : i + 2 = nChunks len cs + 1 := congrArg (· + 1) hlast
    simp only [hd, h2, if_true, Int.sub_add_cancel]
    rw [chunkLen_last (hlast ▸ le_nChunks_mul hcs), ← Int.natCast_sub (Nat.le_of_lt hlo), Int.toNat_natCast]

theorem faData_spec (len cs i : Nat) : faData len cs i = (List.range (chunkLen len cs i)).map (fun t => i * cs + t) := by
  unfold faData chunkLen
  rw [List.range_eq_range', List.drop_range', Nat.mul_one, Nat.zero_add, List.range'_eq_map_range,
    ← List.map_take, List.take_range]

/-- **FromArray**: partition `i` (an index of the UNFILTERED collection) holds the array positions
    `[i*cs, i*cs + chunkLen)`, each labelled with its own position; the constructor never fails. -/
theorem faRows_spec (len cs i : Nat) (hcs : 1 ≤ cs) (hi : i < nChunks len cs) :
    faRows len cs i = some ((List.range (chunkLen len cs i)).map
      (fun t => ({ idx := ((i * cs + t : Nat) : Int), tgt := 0, pay := i * cs + t } : Row))) := by
  unfold faRows
  rw [faIdx_spec len cs i hcs hi, faData_spec]
  simp only [List.length_map, List.length_range, if_true]
  congr 1
  rw [List.zip_map', List.map_map]
  apply List.map_congr_left
  intro t _
  simp

/-- the reported divisions are truthful for the rows the tasks build -/
theorem faDivInv (len cs : Nat) (hcs : 1 ≤ cs) :
    DivInv (faDivisions len cs) (nChunks len cs) (fun i => (faRows len cs i).getD []) := by
  have hlo : ∀ i, i < nChunks len cs → (faDivisions len cs).getD i 0 = ((i * cs : Nat) : Int) :=
    fun i hi => getD_of_getElem? (faDivisions_lo len cs i hi)
  have hlast : (faDivisions len cs).getD (nChunks len cs) 0 = (len : Int) - 1 :=
    getD_of_getElem? (faDivisions_last len cs)
  refine divInv_intro (faDivisions_length len cs) (pairwise_of_getD 0 ?_) ?_ ?_
  · intro a b hab hb
    rw [faDivisions_length] at hb
    have ha := (lt_nChunks_iff hcs).mp (Nat.lt_of_lt_of_le hab (Nat.le_of_lt_succ hb))
    rw [hlo a (Nat.lt_of_lt_of_le hab (Nat.le_of_lt_succ hb))]
    rcases Nat.lt_or_eq_of_le (Nat.le_of_lt_succ hb) with hb | rfl
    · rw [hlo b hb]
      exact Int.ofNat_le.mpr (Nat.mul_le_mul_right cs (Nat.le_of_lt hab))
    · rw [hlast]; exact Int.le_sub_one_of_lt (Int.ofNat_lt.mpr ha)
  · intro i hi r hr
    have hs := (lt_nChunks_iff hcs).mp hi
    simp only [faRows_spec len cs i hcs hi, Option.getD_some, List.mem_map, List.mem_range] at hr
    obtain ⟨t, ht, rfl⟩ := hr
    rw [hlo i hi]
    refine ⟨Int.ofNat_le.mpr (Nat.le_add_right _ _), ?_⟩
    show (((i * cs + t : Nat) : Int) < _ ∨ _ ∧ ((i * cs + t : Nat) : Int) = _)
    rcases Nat.lt_or_eq_of_le (show i + 1 ≤ nChunks len cs from hi) with hlt | hl
    · rw [hlo (i+1) hlt, Nat.add_mul, Nat.one_mul]
      exact Or.inl (Int.ofNat_lt.mpr (Nat.add_lt_add_left (Nat.lt_of_lt_of_le ht (Nat.min_le_left _ _)) _))
    · have ht' : i * cs + t < len := Nat.add_lt_of_lt_sub' (Nat.lt_of_lt_of_le ht (Nat.min_le_right _ _))
      rw [hl, hlast]
      exact (Int.lt_or_eq_of_le (Int.le_sub_one_of_lt (Int.ofNat_lt.mpr ht'))).imp id (fun e => ⟨rfl, e⟩)
  · intro i hi
    simp only [faRows_spec len cs i hcs hi, Option.getD_some]
    rw [List.pairwise_map]
    exact (List.pairwise_lt_range).imp (fun h => Int.ofNat_le.mpr (Nat.add_le_add_left (Nat.le_of_lt h) _))

end Dx.Parts

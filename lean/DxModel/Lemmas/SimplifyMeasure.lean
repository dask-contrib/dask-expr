/-
  Lemmas/SimplifyMeasure.lean — every rule shape of DxModel/SimplifyMeasure.lean strictly decreases the
  lexicographic measure; well-foundedness; the same convergence for the `simplify` loop of Drivers.lean;
  soundness of the executable recogniser `stepB`.
-/
import DxModel.SimplifyMeasure
import DxModel.Lemmas.Termination
import DxModel.Drivers
namespace Dx.SM
open Tr

@[simp] theorem w_op (w : Nat) (ks : List Tr) : (Tr.op w ks).w = w := rfl
@[simp] theorem w_proj (w : Nat) (x : Tr) : (Tr.proj w x).w = w := rfl
@[simp] theorem w_filt (w : Nat) (x p : Tr) : (Tr.filt w x p).w = w := rfl
@[simp] theorem w_blind (w : Nat) (x : Tr) : (Tr.blind w x).w = w := rfl

theorem sumL_append {fL : List Tr → Nat} {g : Tr → Nat} (h0 : fL [] = 0) (hc : ∀ k ks, fL (k :: ks) = g k + fL ks) :
    ∀ a b, fL (a ++ b) = fL a + fL b
  | [], b => by rw [h0, Nat.zero_add]; rfl
  | k :: a, b => by rw [List.cons_append, hc, hc, sumL_append h0 hc a b, Nat.add_assoc]

theorem fsL_append (a b : List Tr) : fsL (a ++ b) = fsL a + fsL b := sumL_append rfl (fun _ _ => rfl) a b
theorem flowL_append (a b : List Tr) : flowL (a ++ b) = flowL a + flowL b := sumL_append rfl (fun _ _ => rfl) a b
theorem potFL_append (a b : List Tr) : potFL (a ++ b) = potFL a + potFL b := sumL_append rfl (fun _ _ => rfl) a b
theorem cntL_append (a b : List Tr) : cntL (a ++ b) = cntL a + cntL b := sumL_append rfl (fun _ _ => rfl) a b
theorem potPL_append (a b : List Tr) : potPL (a ++ b) = potPL a + potPL b := sumL_append rfl (fun _ _ => rfl) a b
theorem potBL_append (a b : List Tr) : potBL (a ++ b) = potBL a + potBL b := sumL_append rfl (fun _ _ => rfl) a b

theorem fs_pos : ∀ t : Tr, 1 ≤ fs t
  | .op _ _ => Nat.le_add_right ..
  | .proj _ x => fs_pos x
  | .filt _ x _ => fs_pos x
  | .blind _ x => fs_pos x

theorem cnt_pos : ∀ t : Tr, 1 ≤ cnt t
  | .op _ _ => Nat.le_add_right ..
  | .proj _ _ => Nat.le_add_right ..
  | .filt _ x _ => by simp only [cnt]; omega
  | .blind _ x => cnt_pos x

/-! ### lists of operands that a rule made no heavier -/

/-- the three sums that no rule shape lets grow: operator nodes, filter potential, flow -/
structure Dom (ks' ks : List Tr) : Prop where
  fs : fsL ks' ≤ fsL ks
  potF : potFL ks' ≤ potFL ks
  flow : flowL ks' ≤ flowL ks

theorem Dom.refl (ks : List Tr) : Dom ks ks := ⟨Nat.le_refl _, Nat.le_refl _, Nat.le_refl _⟩

theorem Dom.drop {ks' ks : List Tr} (h : Dom ks' ks) (k : Tr) : Dom ks' (k :: ks) :=
  ⟨Nat.le_trans h.fs (Nat.le_add_left ..), Nat.le_trans h.potF (Nat.le_add_left ..),
    Nat.le_trans h.flow (Nat.le_add_left ..)⟩

/-- an operand replaced by one that is not wider and no heavier.  The usual case is the operand itself, or the
    operand below a Projection or Head-like node: then `fs`, `potF`, `flow` agree by definition, and the three
    hypotheses about them may be left out at the call (they default to reflexivity) -/
theorem Dom.cons {ks' ks : List Tr} (h : Dom ks' ks) {k' k : Tr} (hw : k'.w ≤ k.w)
    (hfs : Dx.SM.fs k' ≤ Dx.SM.fs k := by exact Nat.le_refl _)
    (hF : Dx.SM.potF k' ≤ Dx.SM.potF k := by exact Nat.le_refl _)
    (hL : Dx.SM.flow k' ≤ Dx.SM.flow k := by exact Nat.le_refl _) : Dom (k' :: ks') (k :: ks) :=
  ⟨Nat.add_le_add hfs h.fs, Nat.add_le_add hF h.potF,
    Nat.add_le_add (Nat.add_le_add (Nat.succ_le_succ hw) hL) h.flow⟩

theorem sublist_dom {a b : List Tr} (h : List.Sublist a b) : Dom a b := by
  induction h with
  | slnil => exact .refl _
  | cons k _ ih => exact ih.drop k
  | cons_cons k _ ih => exact ih.cons (Nat.le_refl _)

theorem mem_op {k : Tr} {ks : List Tr} (h : k ∈ ks) (w : Nat) :
    fs k ≤ fs (.op w ks) ∧ potF k ≤ potF (.op w ks) ∧ flow k < flow (.op w ks) :=
  have d := sublist_dom (List.singleton_sublist.mpr h)
  ⟨Nat.le_trans d.fs (Nat.le_add_left ..), d.potF,
    Nat.lt_of_lt_of_le (Nat.lt_add_of_pos_left (Nat.succ_pos _)) (Nat.le_trans d.flow (Nat.le_add_left ..))⟩

theorem Nar.dom {b : Bool} {ks ks' : List Tr} (h : Nar b ks ks') : Dom ks' ks := by
  induction h with
  | nil => exact .refl _
  | same k _ ih => exact ih.cons (Nat.le_refl _)
  | wrapEq k d hd _ ih => exact ih.cons hd
  | wrap k d hd _ ih => exact ih.cons (Nat.le_of_lt hd)
  | drop k _ ih => exact ih.drop k

theorem Nar.flow_lt {b : Bool} {ks ks' : List Tr} (h : Nar b ks ks') : b = true → flowL ks' < flowL ks := by
  induction h with
  | nil => exact fun h => nomatch h
  | same k _ ih => exact fun hb => Nat.add_lt_add_left (ih hb) _
  | wrapEq k d hd _ ih =>
    exact fun hb => Nat.add_lt_add_of_le_of_lt (Nat.add_le_add_right (Nat.succ_le_succ hd) _) (ih hb)
  | @wrap _ ks ks' k d hd h _ =>
    exact fun _ => Nat.add_lt_add_of_lt_of_le (Nat.add_lt_add_right (Nat.succ_lt_succ hd) _) h.dom.flow
  | @drop _ ks ks' k h _ =>
    exact fun _ => Nat.lt_of_le_of_lt h.dom.flow (Nat.lt_add_of_pos_left (Nat.add_pos_left (Nat.succ_pos _) _))

/-- at most one Projection more, with no more below it than there is in the list -/
theorem Wrap1.facts {ks ks' : List Tr} (h : Wrap1 ks ks') :
    Dom ks' ks ∧ cntL ks' ≤ cntL ks + 1 ∧ potPL ks' ≤ potPL ks + cntL ks := by
  induction h with
  | refl ks => exact ⟨.refl ks, Nat.le_add_right .., Nat.le_add_right ..⟩
  | here k d ks hd => exact ⟨(Dom.refl ks).cons hd, by simp only [cntL, potPL, cnt, potP]; omega⟩
  | there k _ ih => exact ⟨ih.1.cons (Nat.le_refl _), by simp only [cntL, potPL]; omega⟩

theorem BPush.facts {ks ks' : List Tr} (h : BPush ks ks') :
    Dom ks' ks ∧ cntL ks' ≤ cntL ks ∧ potPL ks' ≤ potPL ks ∧ potBL ks' ≤ potBL ks + cntL ks := by
  induction h with
  | nil => exact ⟨.refl _, Nat.le_refl _, Nat.le_refl _, Nat.le_refl _⟩
  | same k _ ih =>
    exact ⟨ih.1.cons (Nat.le_refl _), Nat.add_le_add_left ih.2.1 _, Nat.add_le_add_left ih.2.2.1 _,
      by simp only [potBL, cntL]; omega⟩
  | push k wk hw _ ih =>
    exact ⟨ih.1.cons hw, Nat.add_le_add_left ih.2.1 _, Nat.add_le_add_left ih.2.2.1 _,
      by simp only [potBL, cntL, potB]; omega⟩

/-- substituting something with no more operator nodes and no more filter potential does not increase
    either quantity of the predicate -/
theorem PSub.facts {o x : Tr} (hfs : fs x ≤ fs o) (hpf : potF x ≤ potF o) {t t' : Tr} (h : PSub o x t t') :
    fs t' ≤ fs t ∧ potF t' ≤ potF t := by
  induction h with
  | refl t => exact ⟨Nat.le_refl _, Nat.le_refl _⟩
  | self => exact ⟨hfs, hpf⟩
  | projSelf c => exact ⟨hfs, hpf⟩
  | projProj c c' => exact ⟨hfs, hpf⟩
  | proj c c' _ ih => exact ih
  | filt w w' _ _ iha ihp => exact ⟨iha.1, Nat.add_le_add (Nat.add_le_add iha.1 iha.2) ihp.2⟩
  | blind w w' _ ih => exact ih
  | opNil w w' => exact ⟨Nat.le_refl _, Nat.le_refl _⟩
  | opCons w w' _ _ ihk ihr =>
    exact ⟨Nat.add_le_add_left (Nat.add_le_add ihk.1 (Nat.le_of_add_le_add_left ihr.1)) 1,
      Nat.add_le_add ihk.2 ihr.2⟩

theorem FPush.facts {o p : Tr} {c s : Nat} {ks ks' : List Tr} (h : FPush o p c s ks ks')
    (hmem : ∀ k ∈ ks, fs k ≤ fs o ∧ potF k ≤ potF o) :
    fsL ks' = fsL ks ∧ potFL ks' ≤ potFL ks + fsL ks + s ∧ s ≤ c * potF p := by
  induction h with
  | nil => exact ⟨rfl, Nat.le_refl _, Nat.zero_le _⟩
  | same k _ ih =>
    obtain ⟨h1, h2, h3⟩ := ih (fun k' hk' => hmem k' (List.mem_cons_of_mem _ hk'))
    refine ⟨congrArg (fs k + ·) h1, ?_, h3⟩
    simp only [fsL, potFL]; omega
  | @push c s ks ks' k wk pk hw hsub _ ih =>
    obtain ⟨h1, h2, h3⟩ := ih (fun k' hk' => hmem k' (List.mem_cons_of_mem _ hk'))
    obtain ⟨hk1, hk2⟩ := hmem k (List.mem_cons_self ..)
    -- the copy of the predicate put on `k` has no more filter potential than the predicate
    refine ⟨congrArg (fs k + ·) h1, ?_, Nat.succ_mul c _ ▸ Nat.add_le_add h3 (PSub.facts hk1 hk2 hsub).2⟩
    simp only [fsL, potFL, potF]; omega

/-! ### every step decreases the measure -/

/-- the four ways a step is `Good`: by the first component of the measure that gets smaller -/
theorem Good.byF {t t' : Tr} (hw : t'.w ≤ t.w) (hfs : fs t' ≤ fs t) (h : potF t' < potF t) : Good t t' :=
  ⟨hw, hfs, .inl h⟩

theorem Good.byFlow {t t' : Tr} (hw : t'.w ≤ t.w) (hfs : fs t' ≤ fs t)
    (h : potF t' ≤ potF t ∧ flow t' < flow t) : Good t t' :=
  ⟨hw, hfs, .inr (.inl h)⟩

theorem Good.byP {t t' : Tr} (hw : t'.w ≤ t.w) (hfs : fs t' ≤ fs t)
    (h : potF t' ≤ potF t ∧ flow t' ≤ flow t ∧ cnt t' ≤ cnt t ∧ potP t' < potP t) : Good t t' :=
  ⟨hw, hfs, .inr (.inr ⟨h.1, h.2.1, h.2.2.1, .inl h.2.2.2⟩)⟩

theorem Good.byB {t t' : Tr} (hw : t'.w ≤ t.w) (hfs : fs t' ≤ fs t)
    (h : potF t' ≤ potF t ∧ flow t' ≤ flow t ∧ cnt t' ≤ cnt t ∧ potP t' ≤ potP t ∧ potB t' < potB t) : Good t t' :=
  ⟨hw, hfs, .inr (.inr ⟨h.1, h.2.1, h.2.2.1, .inr h.2.2.2⟩)⟩

theorem lt_of_frame {A A' a a' : Nat} (h : A' + a ≤ A + a') (hlt : a' < a) : A' < A := by omega

theorem le_of_frame {A A' a a' : Nat} (h : A' + a ≤ A + a') (hle : a' ≤ a) : A' ≤ A := by omega

/-- a step below a node `T`: each component of `T` is that of the rewritten operand plus a part that depends on the
    operand through `w`, `fs` and `cnt` only, so the component that got smaller in the operand gets smaller in `T` -/
theorem Good.ctx {t t' T T' : Tr} (g : Good t t') (hw : T'.w ≤ T.w) (hfs : fs T' ≤ fs T)
    (h : potF T' + potF t ≤ potF T + potF t' ∧ flow T' + flow t ≤ flow T + flow t' ∧
      cnt T' + cnt t ≤ cnt T + cnt t' ∧
      (cnt t' ≤ cnt t → potP T' + potP t ≤ potP T + potP t' ∧ potB T' + potB t ≤ potB T + potB t')) :
    Good T T' := by
  obtain ⟨hF, hL, hC, hPB⟩ := h
  rcases g.dec with h | ⟨h1, h2⟩ | ⟨h1, h2, h3, h4 | ⟨h4, h5⟩⟩
  · exact .byF hw hfs (lt_of_frame hF h)
  · exact .byFlow hw hfs ⟨le_of_frame hF h1, lt_of_frame hL h2⟩
  · exact .byP hw hfs ⟨le_of_frame hF h1, le_of_frame hL h2, le_of_frame hC h3, lt_of_frame (hPB h3).1 h4⟩
  · exact .byB hw hfs ⟨le_of_frame hF h1, le_of_frame hL h2, le_of_frame hC h3, le_of_frame (hPB h3).1 h4,
      lt_of_frame (hPB h3).2 h5⟩

/-- a Head-like node put on `t` changes nothing but `potB` -/
theorem MaybeBlind.eqs {t t' : Tr} (h : MaybeBlind t t') :
    fs t' = fs t ∧ potF t' = potF t ∧ flow t' = flow t ∧ cnt t' = cnt t ∧ potP t' = potP t := by
  rcases h with rfl | ⟨wb, _, rfl⟩ <;> exact ⟨rfl, rfl, rfl, rfl, rfl⟩

theorem MaybeBlind.le {t t' : Tr} (h : MaybeBlind t t') : t'.w ≤ t.w ∧ potB t' ≤ potB t + cnt t := by
  rcases h with rfl | ⟨wb, hwb, rfl⟩
  · exact ⟨Nat.le_refl _, Nat.le_add_right ..⟩
  · exact ⟨hwb, Nat.le_of_eq (Nat.add_comm ..)⟩

theorem step_good {t t' : Tr} (h : Step t t') : Good t t' := by
  induction h with
  | @narrow w w' ks ks' hn hw =>
    have d := hn.dom; have := hn.flow_lt rfl
    exact .byFlow hw (Nat.add_le_add_left d.fs 1) ⟨d.potF, Nat.add_lt_add_of_le_of_lt hw this⟩
  | @projThrough c w w' ks ks' hn hc hw =>
    have d := hn.dom; have := hn.flow_lt rfl
    exact .byFlow hc (Nat.add_le_add_left d.fs 1) ⟨d.potF, Nat.add_lt_add_of_le_of_lt hw this⟩
  | @projSink c w w' ks ks' hn hc hw =>
    obtain ⟨d, _⟩ := hn.facts
    refine .byP hc (Nat.add_le_add_left d.fs 1) ⟨d.potF, Nat.add_le_add hw d.flow, ?_⟩
    simp only [cnt, potP]; omega
  | @leafNarrow w w' hw => exact .byFlow (Nat.le_of_lt hw) (Nat.le_refl _) ⟨Nat.le_refl _, hw⟩
  | @projFilterKeep w w' d x p hd hw =>
    exact .byFlow hw (Nat.le_refl _) ⟨Nat.le_refl _,
      Nat.add_lt_add_right (Nat.add_lt_add_right (Nat.add_lt_add_right (Nat.succ_lt_succ hd) _) _) _⟩
  | @projFilter c w w' d x p hd hw =>
    refine .byP hw (Nat.le_refl _) ⟨Nat.le_refl _, ?_⟩
    simp only [flow, cnt, potP, w_proj]; omega
  | @projSquash c d x =>
    exact .byP (Nat.le_refl _) (Nat.le_refl _) ⟨Nat.le_refl _, Nat.le_refl _,
      Nat.add_le_add_left (Nat.le_add_left ..) 1, Nat.lt_add_of_pos_left (Nat.add_pos_left Nat.one_pos _)⟩
  | @projId c x hw =>
    exact .byP hw (Nat.le_refl _) ⟨Nat.le_refl _, Nat.le_refl _, Nat.le_add_left ..,
      Nat.lt_add_of_pos_left (cnt_pos x)⟩
  | @opSquash w1 w1' w2 pre post ks2 ks2' hs hw =>
    have d := sublist_dom hs
    refine .byFlow hw ?_ ?_
    · simp only [fs, fsL_append, fsL]; have := d.fs; omega
    · simp only [potF, flow, potFL_append, flowL_append, potFL, flowL, w_op]
      have := d.potF; have := d.flow; omega
  | @unwrap w ks k hk hw =>
    exact .byFlow hw (mem_op hk w).1 (mem_op hk w).2
  | @filtPush w wo wo' ks ks' p c s hp hc hcp hw =>
    obtain ⟨h1, h2, h3⟩ := hp.facts fun k hk => ⟨(mem_op hk wo).1, (mem_op hk wo).2.1⟩
    have hcp' : s ≤ potF p := hcp.elim
      (fun hc1 => by rw [Nat.le_antisymm hc1 hc, Nat.one_mul] at h3; exact h3) id
    refine .byF hw (Nat.le_of_eq (congrArg (1 + ·) h1)) ?_
    simp only [potF, fs]; omega
  | @filtSquash w w' w2 wa x p q q' hs hw =>
    have hq := (PSub.facts (o := .filt w2 x p) (x := x) (Nat.le_refl _)
      (Nat.le_trans (Nat.le_add_left ..) (Nat.le_add_right ..)) hs).2
    have := fs_pos x
    refine .byF hw (Nat.le_refl _) ?_
    simp only [potF, fs, potFL]; omega
  | @filtAbsorb w wo wo' p hw =>
    exact .byF hw (Nat.le_refl _) (Nat.lt_of_lt_of_le (Nat.lt_succ_self 0) (Nat.le_add_right ..))
  | @blindPush w wo wo' ks ks' hb hw hwo =>
    obtain ⟨d, h4, h5, h6⟩ := hb.facts
    refine .byB hw (Nat.add_le_add_left d.fs 1) ⟨d.potF, Nat.add_le_add hwo d.flow, Nat.add_le_add_left h4 1, h5, ?_⟩
    simp only [cnt, potB]; omega
  | @blindProj w c c' wb x hw =>
    exact .byB hw (Nat.le_refl _) ⟨Nat.le_refl _, Nat.le_refl _, Nat.le_refl _, Nat.le_refl _,
      Nat.add_lt_add_right (Nat.lt_add_of_pos_left Nat.one_pos) _⟩
  | @blindFilt w wf wf' x x' p p' hx hp hw =>
    have := hx.le; have := hp.le
    refine .byB hw (Nat.le_of_eq hx.eqs.1) ?_
    simp only [potF, flow, cnt, potP, potB, hx.eqs, hp.eqs]
    exact ⟨Nat.le_refl _, by omega, Nat.le_refl _, Nat.le_refl _, by omega⟩
  | @blindSquash w w' w2 x hw =>
    exact .byB hw (Nat.le_refl _) ⟨Nat.le_refl _, Nat.le_refl _, Nat.le_refl _, Nat.le_refl _,
      Nat.lt_add_of_pos_left (cnt_pos x)⟩
  | @lenPassOp w w' wo ks k hk hw =>
    exact .byFlow hw (mem_op hk wo).1 (mem_op hk wo).2
  | @lenPassProj w w' c x hw =>
    exact .byP hw (Nat.le_refl _) ⟨Nat.le_refl _, Nat.le_refl _, Nat.le_add_left ..,
      Nat.lt_add_of_pos_left (cnt_pos x)⟩
  | opKid _ ih =>
    have := ih.w_le
    refine ih.ctx (Nat.le_refl _) ?_ ?_
    · simp only [fs, fsL_append, fsL]
      exact Nat.add_le_add_left (Nat.add_le_add_left (Nat.add_le_add_right ih.fs_le _) _) _
    · simp only [potF, flow, cnt, potP, potB, potFL_append, flowL_append, cntL_append, potPL_append, potBL_append,
        potFL, flowL, cntL, potPL, potBL]
      omega
  | projKid _ ih =>
    refine ih.ctx (Nat.le_refl _) ih.fs_le ?_
    simp only [potF, flow, cnt, potP, potB]; omega
  | filtFrame _ ih =>
    have := ih.w_le; have := ih.fs_le
    refine ih.ctx (Nat.le_refl _) ih.fs_le ?_
    simp only [potF, flow, cnt, potP, potB]; omega
  | filtPred _ ih =>
    have := ih.w_le
    refine ih.ctx (Nat.le_refl _) (Nat.le_refl _) ?_
    simp only [potF, flow, cnt, potP, potB]; omega
  | blindKid _ ih =>
    refine ih.ctx (Nat.le_refl _) ih.fs_le ?_
    simp only [potF, flow, cnt, potP, potB]; omega

theorem ltQ_eq_true (a b : Nat × Nat × Nat × Nat) : ltQ a b = true ↔ LtQ a b := by
  simp only [ltQ, LtQ, Prod.lex_def, Bool.or_eq_true, Bool.and_eq_true, decide_eq_true_eq, beq_iff_eq]

theorem ltQ_wf : WellFounded LtQ :=
  (Prod.lex Nat.lt_wfRel (Prod.lex Nat.lt_wfRel (Prod.lex Nat.lt_wfRel Nat.lt_wfRel))).wf

theorem lex_trans {β} {rb : β → β → Prop} {x y z : Nat × β}
    (h1 : Prod.Lex (· < ·) rb x y) (h2 : Prod.Lex (· < ·) rb y z)
    (hb : ∀ {a b c}, rb a b → rb b c → rb a c) : Prod.Lex (· < ·) rb x z := by
  cases h1 with
  | left _ _ h1 =>
    cases h2 with
    | left _ _ h2 => exact .left _ _ (Nat.lt_trans h1 h2)
    | right _ _ => exact .left _ _ h1
  | right _ h1 =>
    cases h2 with
    | left _ _ h2 => exact .left _ _ h2
    | right _ h2 => exact .right _ (hb h1 h2)

theorem ltQ_trans {a b c : Nat × Nat × Nat × Nat} (h1 : LtQ a b) (h2 : LtQ b c) : LtQ a c :=
  lex_trans h1 h2 fun h h' => lex_trans h h' fun h h' => lex_trans h h' Nat.lt_trans

theorem ltQ_irrefl (a : Nat × Nat × Nat × Nat) : ¬ LtQ a a := Term.wf_irrefl ltQ_wf a

theorem Good.ltQ {t t' : Tr} (g : Good t t') : LtQ (msr t') (msr t) := by
  rcases g.dec with h | ⟨h1, h2⟩ | ⟨h1, h2, _, h4 | ⟨h4, h5⟩⟩
  · exact .left _ _ h
  · exact .right' _ h1 (.left _ _ h2)
  · exact .right' _ h1 (.right' _ h2 (.left _ _ h4))
  · exact .right' _ h1 (.right' _ h2 (.right' _ h4 h5))

theorem step_ltQ {t t' : Tr} (h : Step t t') : LtQ (msr t') (msr t) := (step_good h).ltQ

theorem transGen_ltQ {t t' : Tr} (h : Relation.TransGen Step t t') : LtQ (msr t') (msr t) := by
  induction h with
  | single h => exact step_ltQ h
  | tail _ h ih => exact ltQ_trans (step_ltQ h) ih

theorem step_wf : WellFounded (flip Step) :=
  Subrelation.wf (r := InvImage LtQ msr) (fun {a b} (h : flip Step a b) => step_ltQ h) (InvImage.wf msr ltQ_wf)

/-! ### the driver's `simplify` loop when every pass that changes the expression decreases a measure -/

/-- `Term.simplifyLoop_converges` for the loop of Drivers.lean (`Expr.simplify` over expression trees with the ghost
    trace), for the expressions of a set `S` that the pass does not leave (e.g. "small enough for the per-pass fuel
    `m`") -/
theorem driver_simplifyLoop_converges {β} {lt : β → β → Prop} (hwf : WellFounded lt)
    (htr : ∀ {a b c}, lt a b → lt b c → lt a c) (R : Rules) (m : Nat) (μ : Expr → β) (S : Expr → Prop)
    (hpass : ∀ e tr, S e → (simplifyOnce R m e ⟨collectDependents e, [], tr, false⟩).2.exhausted = false ∧
      S (simplifyOnce R m e ⟨collectDependents e, [], tr, false⟩).1 ∧
      ((simplifyOnce R m e ⟨collectDependents e, [], tr, false⟩).1 ≠ e →
        lt (μ (simplifyOnce R m e ⟨collectDependents e, [], tr, false⟩).1) (μ e))) :
    ∀ e seen tr, S e → (∀ x ∈ seen, x = e ∨ lt (μ e) (μ x)) →
      ∃ n, ∀ fuel, n ≤ fuel → (Dx.simplifyLoop R m fuel e seen tr).1.st = .ok := by
  intro e
  induction e using (InvImage.wf μ hwf).induction with
  | _ e ih =>
    intro seen tr hS hseen
    obtain ⟨hex, hS', hlt⟩ := hpass e tr hS
    by_cases h1 : (simplifyOnce R m e ⟨collectDependents e, [], tr, false⟩).1 = e
    · refine ⟨1, ?_⟩
      intro fuel hf
      obtain ⟨f, rfl⟩ := Nat.exists_eq_add_of_le' hf
      simp [Dx.simplifyLoop, hex, h1]
    · have hlt := hlt h1
      obtain ⟨h2, hseen'⟩ := Term.seen_step hwf htr μ hseen hlt
      obtain ⟨n, hn⟩ := ih _ hlt _ (simplifyOnce R m e ⟨collectDependents e, [], tr, false⟩).2.trace hS' hseen'
      refine ⟨n + 1, ?_⟩
      intro fuel hf
      obtain ⟨f, rfl, hf'⟩ := pred_fuel hf
      simp only [Dx.simplifyLoop, hex, Bool.false_eq_true, if_false, beq_iff_eq, h1, List.contains_iff_mem, h2]
      exact hn f hf'

/-! ### soundness of the executable recogniser: what the driver calls a step is a `Step` -/

theorem narB_sound (ks ks' : List Tr) : ∀ b, narB ks ks' = some b → Nar b ks ks' := by
  have drop {k ks l} (ih : ∀ b, narB ks l = some b → Nar b ks l) (b : Bool)
      (h : (narB ks l).map (fun _ => true) = some b) : Nar b (k :: ks) l := by
    obtain ⟨a, ha, rfl⟩ := Option.map_eq_some_iff.mp h
    exact Nar.drop k (ih a ha)
  fun_induction narB ks ks' with
  | case1 => intro b h; cases h; exact Nar.nil
  | case2 => intro b h; cases h
  | case3 k ks ih => exact drop ih
  | case4 ks k rest ih => exact fun b h => Nar.same k (ih b h)
  | case5 k ks rest d y hc _ ih =>
    intro b h
    obtain ⟨a, ha, rfl⟩ := Option.map_eq_some_iff.mp h
    obtain ⟨rfl, hd⟩ := hc
    by_cases hlt : d < y.w
    · simp only [hlt, decide_true, Bool.or_true]; exact Nar.wrap _ _ hlt (ih a ha)
    · simp only [hlt, decide_false, Bool.or_false]; exact Nar.wrapEq _ _ hd (ih a ha)
  | case6 k ks rest d y _ _ ih => exact drop ih
  | case7 k ks k' rest _ _ ih => exact drop ih

theorem wrap1B_sound (ks ks' : List Tr) : wrap1B ks ks' = true → Wrap1 ks ks' := by
  fun_induction wrap1B ks ks' with
  | case1 => exact fun _ => Wrap1.refl _
  | case2 ks k ks' ih => exact fun h => Wrap1.there k (ih h)
  | case3 k ks ks' d y =>
    intro h
    obtain ⟨rfl, hd, rfl⟩ := of_decide_eq_true h
    exact Wrap1.here _ _ _ hd
  | case4 | case5 => exact fun h => nomatch h

theorem bpushB_sound (ks ks' : List Tr) : bpushB ks ks' = true → BPush ks ks' := by
  fun_induction bpushB ks ks' with
  | case1 => exact fun _ => BPush.nil
  | case2 k ks k' ks' ih =>
    intro h
    simp only [Bool.and_eq_true, Bool.or_eq_true, decide_eq_true_eq] at h
    obtain ⟨rfl | h1, h2⟩ := h
    · exact BPush.same _ (ih h2)
    · split at h1
      · next wk y =>
        obtain ⟨rfl, hw⟩ := of_decide_eq_true h1
        exact BPush.push _ _ hw (ih h2)
      · cases h1
  | case3 => exact fun h => nomatch h

theorem isProjOf_eq {o t : Tr} (h : isProjOf o t = true) : ∃ c, t = .proj c o := by
  unfold isProjOf at h
  split at h
  · next c y => simp only [decide_eq_true_eq] at h; subst h; exact ⟨c, rfl⟩
  · simp at h

theorem psubB_root {o x t t' : Tr}
    (h : (decide (t = t') || decide (t = o ∧ t' = x) ||
      (isProjOf o t && (decide (t' = x) || isProjOf x t'))) = true) : PSub o x t t' := by
  simp only [Bool.or_eq_true, decide_eq_true_eq, Bool.and_eq_true] at h
  rcases h with (h | h) | h
  · subst h; exact PSub.refl _
  · obtain ⟨rfl, rfl⟩ := h; exact PSub.self
  · obtain ⟨h1, h2⟩ := h
    obtain ⟨c, rfl⟩ := isProjOf_eq h1
    rcases h2 with rfl | h2
    · exact PSub.projSelf c
    · obtain ⟨c', rfl⟩ := isProjOf_eq h2
      exact PSub.projProj c c'

theorem psubLB_of {o x : Tr} {ks : List Tr} (ih : ∀ k ∈ ks, ∀ k', psubB o x k k' = true → PSub o x k k') :
    ∀ ks', psubLB o x ks ks' = true → ∀ w w', PSub o x (.op w ks) (.op w' ks') := by
  induction ks with
  | nil =>
    intro ks' h
    cases ks' with
    | nil => exact PSub.opNil
    | cons _ _ => cases h
  | cons k ks ihks =>
    intro ks' h
    cases ks' with
    | nil => cases h
    | cons k' ks' =>
      simp only [psubLB, Bool.and_eq_true] at h
      exact fun w w' => .opCons w w' (ih k (List.mem_cons_self ..) k' h.1)
        (ihks (fun a ha => ih a (List.mem_cons_of_mem _ ha)) ks' h.2 w w')

theorem psubB_sound (o x t : Tr) : ∀ t', psubB o x t t' = true → PSub o x t t' := by
  -- below the root the recogniser descends only into a pair of equal constructors
  induction t using Tr.ind with
    (intro t' h; unfold psubB at h; refine ((Bool.or_eq_true _ _).mp h).elim psubB_root fun h => ?_
     cases t' <;> try cases h)
  | op w ks ih => exact psubLB_of ih _ h _ _
  | proj c a ih => exact PSub.proj _ _ (ih _ h)
  | filt w a p iha ihp =>
    have h := Bool.and_eq_true_iff.mp h
    exact PSub.filt _ _ (iha _ h.1) (ihp _ h.2)
  | blind w a ih => exact PSub.blind _ _ (ih _ h)

theorem psubLB_sound (o x : Tr) : ∀ (ks ks' : List Tr), psubLB o x ks ks' = true →
    ∀ w w', PSub o x (.op w ks) (.op w' ks') :=
  fun _ => psubLB_of fun k _ => psubB_sound o x k

theorem fpushB_sound (o p : Tr) (ks ks' : List Tr) :
    ∀ c s, fpushB o p ks ks' = some (c, s) → FPush o p c s ks ks' := by
  fun_induction fpushB o p ks ks' with
  | case1 => intro c s h; cases h; exact FPush.nil
  | case2 ks k ks' ih => exact fun c s h => FPush.same k (ih c s h)
  | case3 k ks ks' wk y pk hc _ ih =>
    intro c s h
    obtain ⟨⟨a, b⟩, ha, hcs⟩ := Option.map_eq_some_iff.mp h
    cases hcs
    obtain ⟨rfl, hw, hs⟩ := hc
    exact FPush.push _ _ _ hw (psubB_sound o _ p pk hs) (ih a b ha)
  | case4 | case5 | case6 => exact fun _ _ h => nomatch h

theorem maybeBlindB_sound {t t' : Tr} (h : maybeBlindB t t' = true) : MaybeBlind t t' := by
  unfold maybeBlindB at h
  simp only [Bool.or_eq_true, decide_eq_true_eq] at h
  rcases h with h | h
  · exact Or.inl h
  · split at h
    · next wb y =>
      simp only [decide_eq_true_eq] at h
      obtain ⟨rfl, hw⟩ := h
      exact Or.inr ⟨wb, hw, rfl⟩
    · simp at h

theorem squashAt_sound (l : List Tr) : ∀ l', squashAt l l' = true →
    ∃ pre w2 ks2 post ks2', l = pre ++ .op w2 ks2 :: post ∧ l' = pre ++ ks2' ++ post ∧ List.Sublist ks2' ks2 := by
  induction l with
  | nil => intro _ h; cases h
  | cons k post ih =>
    intro l' h
    simp only [squashAt, Bool.or_eq_true] at h
    rcases h with h | h
    · split at h
      · next w2 ks2 =>
        simp only [Bool.and_eq_true, decide_eq_true_eq] at h
        obtain ⟨⟨hlen, hdrop⟩, hsub⟩ := h
        refine ⟨[], w2, ks2, post, l'.take (l'.length - post.length), rfl, ?_, ?_⟩
        · simp only [List.nil_append]
          conv => lhs; rw [← List.take_append_drop (l'.length - post.length) l']
          rw [hdrop]
        · exact List.isSublist_iff_sublist.mp hsub
      · simp at h
    · split at h
      · next k' rest' =>
        simp only [Bool.and_eq_true, decide_eq_true_eq] at h
        obtain ⟨rfl, h2⟩ := h
        obtain ⟨pre, w2, ks2, post', ks2', h1, h2, h3⟩ := ih rest' h2
        exact ⟨k' :: pre, w2, ks2, post', ks2', congrArg (k' :: ·) h1, congrArg (k' :: ·) h2, h3⟩
      · simp at h

theorem rootRule_sound {t t' : Tr} {r : Rule} : rootRule t t' = some r → Step t t' := by
  fun_cases rootRule t t' with
  -- the arms are numbered in the order of the rows of `rootRule` and, within a row, of its tests; an arm whose
  -- test passed names the `Step` constructor of that rule shape
  -- `.op, .op` (1–5: narrow, leafNarrow, opSquash, unwrap, none) and `.op, _` (6, 7: unwrap, none)
  | case1 w ks w' ks' hc => exact fun _ => Step.narrow (narB_sound _ _ _ hc.1) hc.2
  | case2 w ks w' ks' _ hc => obtain ⟨rfl, rfl, hw⟩ := hc; exact fun _ => Step.leafNarrow hw
  | case3 w ks w' ks' _ _ hc =>
    obtain ⟨pre, w2, ks2, post, ks2', rfl, rfl, hsub⟩ := squashAt_sound _ _ hc.2
    exact fun _ => Step.opSquash hsub hc.1
  | case4 w ks w' ks' _ _ _ hc => exact fun _ => Step.unwrap hc.1 hc.2
  | case6 t' w ks hc => exact fun _ => Step.unwrap hc.1 hc.2
  -- `.proj c (.op …), .op` (8–11: projThrough, projSink, projId, none)
  | case8 c w ks w' ks' hc => exact fun _ => Step.projThrough (narB_sound _ _ _ hc.1) hc.2.1 hc.2.2
  | case9 c w ks w' ks' _ hc => exact fun _ => Step.projSink (wrap1B_sound _ _ hc.1) hc.2.1 hc.2.2
  | case10 c w ks w' ks' _ _ hc => rw [hc.1]; exact fun _ => Step.projId hc.2
  -- `.proj c (.filt …), .filt w' (.proj …) p'` (12–14: projFilter, projId, none)
  | case12 c w x p w' d x' p' hc => obtain ⟨rfl, rfl, hd, hw⟩ := hc; exact fun _ => Step.projFilter hd hw
  | case13 c w x p w' d x' p' _ hc => rw [hc.1]; exact fun _ => Step.projId hc.2
  -- `.proj c (.proj …), .proj` (15–17: projSquash, projId, none) and `.proj c x, _` (18, 19: projId, none)
  | case15 c d x c' x' hc => obtain ⟨rfl, rfl⟩ := hc; exact fun _ => Step.projSquash
  | case16 c d x c' x' _ hc => rw [hc.1]; exact fun _ => Step.projId hc.2
  | case18 t' c x hc => obtain ⟨rfl, hw⟩ := hc; exact fun _ => Step.projId hw
  -- `.filt w (.op …) p, .op` (20–23: filtPush, filtAbsorb, none, `fpushB` undefined)
  | case20 w wo ks p wo' ks' n s hn hc =>
    exact fun _ => Step.filtPush (fpushB_sound _ _ _ _ _ _ hn) hc.1 hc.2.1 hc.2.2
  | case21 w wo ks p wo' ks' n s _ _ hc => obtain ⟨rfl, rfl, hw⟩ := hc; exact fun _ => Step.filtAbsorb hw
  -- `.filt w (.filt …) q, .filt w' x' (.op _ [p', q'])` (24, 25: filtSquash, none);
  -- `.filt w x p, .filt w' (.proj …) p'` (26, 27: projFilterKeep, none)
  | case24 w w2 x p q w' x' wa p' q' hc =>
    obtain ⟨rfl, rfl, hs, hw⟩ := hc; exact fun _ => Step.filtSquash (psubB_sound _ _ _ _ hs) hw
  | case26 w x p w' d x' p' _ hc => obtain ⟨rfl, rfl, hd, hw⟩ := hc; exact fun _ => Step.projFilterKeep hd hw
  -- `.blind` rows, each with its test and `none`: 28/29 blindPush, 30/31 lenPass (operator), 32/33 blindProj,
  -- 34/35 lenPass (Projection), 36/37 blindFilt, 38/39 blindSquash; 40: no row matches
  | case28 w wo ks wo' ks' hc => exact fun _ => Step.blindPush (bpushB_sound _ _ hc.1) hc.2.1 hc.2.2
  | case30 w wo ks w' k hc => exact fun _ => Step.lenPassOp hc.1 hc.2
  | case32 w c x c' wb x' hc => obtain ⟨rfl, hw⟩ := hc; exact fun _ => Step.blindProj hw
  | case34 w c x w' x' hc => obtain ⟨rfl, hw⟩ := hc; exact fun _ => Step.lenPassProj hw
  | case36 w wf x p wf' x' p' hc =>
    exact fun _ => Step.blindFilt (maybeBlindB_sound hc.1) (maybeBlindB_sound hc.2.1) hc.2.2
  | case38 w w2 x w' x' hc => obtain ⟨rfl, hw⟩ := hc; exact fun _ => Step.blindSquash hw
  -- the last test of a row failed: the row's `if` is still in the hypothesis
  | case5 | case7 | case11 | case14 | case17 | case19 =>
    intro h; rw [if_neg (by assumption)] at h; cases h
  -- the row has already evaluated to `none`
  | case22 | case23 | case25 | case27 | case29 | case31 | case33 | case35 | case37 | case39 | case40 =>
    exact fun h => nomatch h

theorem stepLB_of {ks : List Tr} (ih : ∀ k ∈ ks, ∀ k', stepB k k' = true → Step k k') :
    ∀ ks', stepLB ks ks' = true → ∃ pre a a' post, ks = pre ++ a :: post ∧ ks' = pre ++ a' :: post ∧ Step a a' := by
  induction ks with
  | nil => intro ks' h; cases h
  | cons k ks ihks =>
    intro ks' h
    cases ks' with
    | nil => cases h
    | cons k' ks' =>
      simp only [stepLB] at h
      split at h
      · next heq =>
        subst heq
        obtain ⟨pre, a, a', post, h1, h2, hs⟩ := ihks (fun a ha => ih a (List.mem_cons_of_mem _ ha)) ks' h
        exact ⟨k :: pre, a, a', post, congrArg (k :: ·) h1, congrArg (k :: ·) h2, hs⟩
      · simp only [Bool.and_eq_true, decide_eq_true_eq] at h
        obtain ⟨hs, rfl⟩ := h
        exact ⟨[], k, k', ks, rfl, rfl, ih k (List.mem_cons_self ..) k' hs⟩

theorem stepB_sound (t : Tr) : ∀ t', stepB t t' = true → Step t t' := by
  induction t using Tr.ind with
    (intro t' h; unfold stepB at h
     refine ((Bool.or_eq_true _ _).mp h).elim
       (fun h => (Option.isSome_iff_exists.mp h).elim fun _ => rootRule_sound) fun h => ?_
     cases t' <;> try cases h)
  | op w ks ih =>
    simp only [Bool.and_eq_true, decide_eq_true_eq] at h
    obtain ⟨rfl, hl⟩ := h
    obtain ⟨pre, a, a', post, rfl, rfl, hs⟩ := stepLB_of ih _ hl
    exact Step.opKid hs
  | proj c x ih =>
    simp only [Bool.and_eq_true, decide_eq_true_eq] at h
    obtain ⟨rfl, hx⟩ := h
    exact Step.projKid (ih _ hx)
  | filt w x p ihx ihp =>
    simp only [Bool.and_eq_true, Bool.or_eq_true, decide_eq_true_eq] at h
    obtain ⟨rfl, ⟨rfl, hx⟩ | ⟨rfl, hp⟩⟩ := h
    · exact Step.filtFrame (ihx _ hx)
    · exact Step.filtPred (ihp _ hp)
  | blind w x ih =>
    simp only [Bool.and_eq_true, decide_eq_true_eq] at h
    obtain ⟨rfl, hx⟩ := h
    exact Step.blindKid (ih _ hx)

theorem stepLB_sound : ∀ (ks ks' : List Tr), stepLB ks ks' = true →
    ∃ pre a a' post, ks = pre ++ a :: post ∧ ks' = pre ++ a' :: post ∧ Step a a' :=
  fun _ => stepLB_of fun k _ => stepB_sound k

end Dx.SM

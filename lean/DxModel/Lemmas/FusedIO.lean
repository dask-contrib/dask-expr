/-
  Lemmas/FusedIO.lean — `FusedIO._fusion_buckets` is an ordered partition of `_partitions`; its tasks and
  divisions are those of "select `_partitions`, then merge consecutive selected partitions at the bucket
  boundaries" (so that `divInv_sel` + `fewer_divisions_truthful` apply).
-/
import DxModel.Lemmas.Partitions
namespace Dx.Parts
open Dx Dx.Repartition

/-- the buckets, concatenated in order, are exactly `_partitions` -/
theorem buckets_flatten (P : List Nat) (step : Nat) (hs : 1 ≤ step) : (buckets P step).flatten = P := by
  unfold buckets pyRange
  rw [List.map_map, ← List.flatMap_def]
  exact (range_flatMap_take step P _).trans (List.take_of_length_le (le_nChunks_mul hs))

theorem buckets_length (P : List Nat) (step : Nat) : (buckets P step).length = nChunks P.length step := by
  simp [buckets, pyRange, nChunks]

theorem buckets_getElem? (P : List Nat) (step j : Nat) (hj : j < nChunks P.length step) :
    (buckets P step)[j]? = some ((P.drop (j * step)).take step) := by
  unfold buckets pyRange nChunks at *
  simp [hj]

/-! ### the bucket boundaries: `0, step, 2·step, …` cut off at `n` -/

theorem bucketBounds_length (n step : Nat) : (bucketBounds n step).length = nChunks n step + 1 := by
  rw [bucketBounds, List.length_append, pyRange_length]; rfl

theorem bucketBounds_getElem? (n step j : Nat) (hj : j < nChunks n step) : (bucketBounds n step)[j]? = some (j * step) := by
  unfold bucketBounds
  rw [List.getElem?_append_left (by rwa [pyRange_length])]
  exact pyRange_getElem? n step j hj

theorem bucketBounds_last (n step : Nat) : (bucketBounds n step)[nChunks n step]? = some n := by
  unfold bucketBounds
  rw [List.getElem?_append_right (Nat.le_of_eq (pyRange_length n step)), pyRange_length, Nat.sub_self]
  rfl

theorem bucketBounds_eq_min (n step j : Nat) (hs : 1 ≤ step) (hj : j ≤ nChunks n step) :
    (bucketBounds n step)[j]? = some (min (j * step) n) := by
  rcases Nat.lt_or_eq_of_le hj with hj | rfl
  · rw [bucketBounds_getElem? n step j hj, Nat.min_eq_left (Nat.le_of_lt ((lt_nChunks_iff hs).mp hj))]
  · rw [bucketBounds_last, Nat.min_eq_right (le_nChunks_mul hs)]

/-- **tasks**: bucket `j` of the fused reader is merged output `j` of the selected partitions -/
theorem fusedRows_eq_fewerSem (P : List Nat) (step : Nat) (hs : 1 ≤ step) (parts : Nat → List Row) (j : Nat)
    (hj : j < nChunks P.length step) :
    fusedRows P step parts j = fewerSem (bucketBounds P.length step) (sel P parts) j := by
  have hlt := (lt_nChunks_iff hs).mp hj
  unfold fusedRows fewerSem
  simp only [buckets_getElem? P step j hj, bucketBounds_eq_min _ step j hs (Nat.le_of_lt hj),
    bucketBounds_eq_min _ step (j + 1) hs hj, Nat.min_eq_left (Nat.le_of_lt hlt), Nat.add_mul, Nat.one_mul]
  -- the bucket is cut off where the selection ends
  rw [← Nat.sub_min_sub_right, Nat.add_sub_cancel_left,
    flatMap_sel_segment P parts (min step (P.length - j * step)) (j * step) (Nat.add_le_of_le_sub' (Nat.le_of_lt hlt) (Nat.min_le_right _ _)),
    ← List.length_drop, ← List.take_eq_take_min]

/-- over non-empty buckets, `bucketHeads` is the indexing loop of `fewerDivisions` applied to the buckets' heads -/
theorem bucketHeads_eq_fewerDivisions (full : List Int) : ∀ (bs : List (List Nat)), (∀ b ∈ bs, b ≠ []) →
    bucketHeads full bs = fewerDivisions full (bs.map (fun b => b.headD 0)) := by
  intro bs
  induction bs with
  | nil => intro _; rfl
  | cons b t ih =>
    intro h
    obtain ⟨x, b', rfl⟩ := List.exists_cons_of_ne_nil (h b (List.mem_cons_self ..))
    rw [bucketHeads, ih (fun c hc => h c (List.mem_cons_of_mem _ hc)), List.map_cons, fewerDivisions]
    simp only [List.head?_cons, List.headD_cons]
    cases hx : full[x]? <;> cases fewerDivisions full (t.map (fun b => b.headD 0)) <;> simp only [hx]

/-- bucket `j` starts with entry `j * step` of the selection -/
theorem buckets_getElem?_cons (P : List Nat) (step j : Nat) (hs : 1 ≤ step) (hj : j < nChunks P.length step) :
    ∃ ys, (buckets P step)[j]? = some (P[j * step]'((lt_nChunks_iff hs).mp hj) :: ys) := by
  have hlt := (lt_nChunks_iff hs).mp hj
  obtain ⟨ys, e⟩ := List.head?_eq_some_iff.mp (show ((P.drop (j * step)).take step).head? = some P[j * step] by
    rw [List.head?_take, if_neg (Nat.ne_of_gt hs), List.head?_drop, List.getElem?_eq_getElem hlt])
  exact ⟨ys, by rw [buckets_getElem? P step j hj, e]⟩

theorem buckets_mem_cons (P : List Nat) (step : Nat) (hs : 1 ≤ step) {b : List Nat} (hb : b ∈ buckets P step) :
    ∃ x ys, b = x :: ys ∧ x ∈ P := by
  obtain ⟨j, hj, rfl⟩ := List.getElem_of_mem hb
  obtain ⟨ys, e⟩ := buckets_getElem?_cons P step j hs (buckets_length P step ▸ hj)
  exact ⟨_, ys, (List.getElem?_eq_some_iff.mp e).2, List.getElem_mem _⟩

theorem buckets_getLast? (P : List Nat) (step : Nat) (hs : 1 ≤ step) (hne : P ≠ []) :
    ∃ lb, (buckets P step).getLast? = some lb ∧ lb.getLast? = P.getLast? := by
  have hm := nChunks_pos hs (List.length_pos_iff.mpr hne)
  have hlt := Nat.sub_lt hm Nat.one_pos
  refine ⟨_, by rw [List.getLast?_eq_getElem?, buckets_length]; exact buckets_getElem? P step _ hlt, ?_⟩
  have hle : P.length ≤ (nChunks P.length step - 1) * step + step := by
    rw [← Nat.succ_mul, Nat.succ_eq_add_one, Nat.sub_add_cancel hm]; exact le_nChunks_mul hs
  rw [List.take_of_length_le (by rw [List.length_drop]; exact Nat.sub_le_of_le_add (by rwa [Nat.add_comm] at hle)),
    List.getLast?_drop, if_neg (Nat.not_le_of_lt ((lt_nChunks_iff hs).mp hlt))]

/-- **divisions**: `[divisions[b[0]] for b in buckets] + [divisions[buckets[-1][-1] + 1]]` are the selected
    divisions read at the bucket boundaries -/
theorem fusedDivisions_eq_fewer (full : List Int) (P : List Nat) (step : Nat) (hs : 1 ≤ step) (n : Nat)
    (hfl : full.length = n + 1) (hP : ∀ p ∈ P, p < n) (hne : P ≠ []) (d' d'' : List Int)
    (hd' : selDivisions full P = .ok (some d'))
    (hd'' : fewerDivisions d' (bucketBounds P.length step) = some d'') :
    fusedDivisions full P step = some d'' := by
  obtain ⟨last, hl, _, _, hsp', hdl, hl1⟩ := selDivisions_spec full P d' hd'
  obtain ⟨lb, hlb, hlbl⟩ := buckets_getLast? P step hs hne
  have hheads : ∀ b ∈ buckets P step, b ≠ [] := by
    intro b hmem
    obtain ⟨x, ys, rfl, _⟩ := buckets_mem_cons P step hs hmem
    exact List.cons_ne_nil _ _
  have hP' : ∀ x ∈ (buckets P step).map (fun b => b.headD 0), x < full.length := by
    intro x hx
    obtain ⟨b, hmem, rfl⟩ := List.mem_map.mp hx
    obtain ⟨x, ys, rfl, hxP⟩ := buckets_mem_cons P step hs hmem
    exact hfl ▸ Nat.lt_succ_of_lt (hP x hxP)
  obtain ⟨r, hr⟩ := fewerDivisions_some full _ hP'
  have ⟨hrl, hrs⟩ := fewerDivisions_spec full _ r hr
  rw [← bucketHeads_eq_fewerDivisions full _ hheads] at hr
  rw [List.length_map] at hrl
  have ⟨hd2l, hd2s⟩ := fewerDivisions_spec d' (bucketBounds P.length step) d'' hd''
  rw [buckets_length] at hrl
  rw [bucketBounds_length] at hd2l
  unfold fusedDivisions
  simp only [hlb, hlbl, hl, hr, List.getElem?_eq_getElem hl1]
  congr 1
  apply List.ext_getElem?
  intro j
  rcases Nat.lt_trichotomy j (nChunks P.length step) with hj | rfl | hj
  · rw [List.getElem?_append_left (hrl ▸ hj), hd2s j _ (bucketBounds_getElem? _ _ j hj),
      hsp' _ _ (List.getElem?_eq_getElem ((lt_nChunks_iff hs).mp hj))]
    obtain ⟨ys, e⟩ := buckets_getElem?_cons P step j hs hj
    exact hrs j _ (by rw [List.getElem?_map, e]; rfl)
  · rw [List.getElem?_append_right (Nat.le_of_eq hrl), hrl, Nat.sub_self,
      hd2s _ _ (bucketBounds_last _ _), hdl, List.getElem?_eq_getElem hl1]
    rfl
  · rw [List.getElem?_eq_none (by rw [List.length_append, hrl]; exact hj),
      List.getElem?_eq_none (by rw [hd2l]; exact hj)]

theorem bucketBounds_ok (n step : Nat) (hs : 1 ≤ step) (hn : 1 ≤ n) :
    boundariesOK (bucketBounds n step) n = true ∧ strictMono (bucketBounds n step) = true := by
  have hsm : strictMono (bucketBounds n step) = true := by
    apply strictMono_of_getD
    intro i hi
    rw [bucketBounds_length] at hi
    have hi := Nat.lt_of_succ_lt_succ hi
    have hlt := (lt_nChunks_iff hs).mp hi
    rw [getD_of_getElem? (bucketBounds_eq_min n step i hs (Nat.le_of_lt hi)),
      getD_of_getElem? (bucketBounds_eq_min n step (i + 1) hs hi), Nat.add_mul, Nat.one_mul,
      Nat.min_eq_left (Nat.le_of_lt hlt)]
    exact Nat.lt_min.mpr ⟨Nat.lt_add_of_pos_right hs, hlt⟩
  refine ⟨boundariesOK_iff.mpr ⟨?_, ?_, mono_of_strictMono _ hsm⟩, hsm⟩
  · rw [List.head?_eq_getElem?, bucketBounds_getElem? n step 0 (nChunks_pos hs hn), Nat.zero_mul]
  · rw [List.getLast?_eq_getElem?, bucketBounds_length]
    exact bucketBounds_last n step

end Dx.Parts

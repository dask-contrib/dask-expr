/-
  Lemmas/FusionBasic.lean — what the look-ups of Fusion.lean (`getNode`, `depsOf`, `isBw`, `argKey`,
  `refGraph`) compute, and the one-step congruence of `run` used by every evaluation argument.
-/
import DxModel.Fusion
import DxModel.Lemmas.ListBasics
namespace Dx.Fusion
open Dx

theorem run_step_congr {κ} (I : Interp) {g g' : Graph κ} {inp inp' : κ → Option V} {k k' : κ} {t : Tsk κ}
    (hg : g k = some t) (hg' : g' k' = some t) {N N' : Nat}
    (h : ∀ d ∈ t.refs, run I g inp N d = run I g' inp' N' d) :
    run I g inp (N + 1) k = run I g' inp' (N' + 1) k' := by
  rw [run_defined I g inp N k t hg, run_defined I g' inp' N' k' t hg']
  exact evalTsk_congr I _ _ t h

/-! ### the node table -/

theorem getNode_mem {dag : Dag} {x : Nat} {nd : Node} (h : getNode dag x = some nd) :
    nd ∈ dag ∧ nd.name = x :=
  ⟨List.mem_of_find?_eq_some h, by simpa using List.find?_some h⟩

theorem mem_depsOf {dag : Dag} {x d : Nat} :
    d ∈ depsOf dag x ↔ ∃ nd, getNode dag x = some nd ∧ d ∈ nd.deps := by
  unfold depsOf
  cases getNode dag x <;> simp

theorem isSome_of_isBw {dag : Dag} {g : Nat} (h : isBw dag g = true) : (getNode dag g).isSome = true := by
  unfold isBw at h
  cases hg : getNode dag g with
  | none => rw [hg] at h; cases h
  | some nd => rfl

/-- `_blockwise_arg` keeps the operand's name -/
theorem argKey_name (dag : Dag) (c : Node) (i d : Nat) : ∃ j, argKey dag c i d = FKey.part d j := by
  unfold argKey
  cases getNode dag d with
  | none => exact ⟨i, rfl⟩
  | some dn => exact ⟨_, rfl⟩

/-! ### the reference graph -/

theorem refGraph_plain {dag : Dag} {x : Nat} {nd : Node} (hg : getNode dag x = some nd)
    (hb : nd.blockwise = true) (hm : nd.members = []) (i : Nat) :
    refGraph dag (.part x i) = if i < nd.npart then some (plainTask dag nd i) else none := by
  simp only [refGraph, hg, hb, hm, if_true]

theorem refGraph_fused {dag : Dag} {x r : Nat} {rs : List Nat} {nd : Node} (hg : getNode dag x = some nd)
    (hb : nd.blockwise = true) (hm : nd.members = r :: rs) (i : Nat) :
    refGraph dag (.part x i) = some (.alias (.part r i)) := by
  simp only [refGraph, hg, hb, hm, if_true]

theorem refGraph_not_bw {dag : Dag} {x : Nat} {nd : Node} (hg : getNode dag x = some nd)
    (hb : nd.blockwise = false) (i : Nat) : refGraph dag (.part x i) = none := by
  simp only [refGraph, hg, hb, Bool.false_eq_true, if_false]

theorem refGraph_no_node {dag : Dag} {x : Nat} (hg : getNode dag x = none) (i : Nat) :
    refGraph dag (.part x i) = none := by
  simp only [refGraph, hg]

end Dx.Fusion

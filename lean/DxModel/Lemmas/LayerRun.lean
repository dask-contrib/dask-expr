/-
  Lemmas/LayerRun.lean — shared by the per-layer proofs: one condition on the references of every
  task from which both `Closed` and `Ranked` follow.
-/
import DxModel.Lemmas.ListBasics
import DxModel.Graph
namespace Dx

variable {κ : Type}

/-- Every reference of every task is either a key of the graph of smaller rank or an input that the
    graph does not define.  The right disjunct asks `g d = none`, not only that `d` is an input: this
    is what lets `Ranked` follow with no rank on inputs, and what `Closed ∧ Ranked` alone does not say. -/
def Stratified (g : Graph κ) (inp : κ → Option V) (rank : κ → Nat) : Prop :=
  ∀ k t, g k = some t → ∀ d ∈ t.refs,
    ((g d).isSome ∧ rank d < rank k) ∨ (g d = none ∧ (inp d).isSome)

theorem Stratified.closed {g : Graph κ} {inp : κ → Option V} {rank : κ → Nat}
    (h : Stratified g inp rank) : Closed g inp := by
  intro k t hk d hd
  rcases h k t hk d hd with ⟨hg, _⟩ | ⟨_, hi⟩
  · exact .inl hg
  · exact .inr hi

/-- `Ranked` does not mention the inputs, so the layers obtain their `*_ranked` from their
    `*_stratified` at any total input function. -/
theorem Stratified.ranked {g : Graph κ} {inp : κ → Option V} {rank : κ → Nat}
    (h : Stratified g inp rank) : Ranked g rank := by
  intro k t hk d hd hdef
  rcases h k t hk d hd with ⟨_, hr⟩ | ⟨hn, _⟩
  · exact hr
  · rw [hn] at hdef; cases hdef

theorem Stratified.of_closed_ranked {g : Graph κ} {inp : κ → Option V} {rank : κ → Nat}
    (hc : Closed g inp) (hr : Ranked g rank) : Stratified g inp rank := by
  intro k t hk d hd
  cases hg : g d with
  | some _ => exact .inl ⟨rfl, hr k t hk d hd (by rw [hg]; rfl)⟩
  | none => exact .inr ⟨rfl, (hc k t hk d hd).resolve_left (by rw [hg]; exact Bool.false_ne_true)⟩

end Dx

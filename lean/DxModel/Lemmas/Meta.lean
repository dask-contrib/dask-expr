/-
  Lemmas/Meta.lean — the per-partition task pipelines of DxModel/Meta.lean compute the declared schema (C07).
  A chunk result is a fixed point of `combine ∘ _concat`, so a tree reduction of any shape is `aggregate` of one
  chunk (`treeReduce_squash`); the kinds an aggregation produces are closed under `join` and stable under its
  second stage (`yields`); a shuffle that adds and removes `_partitions` is the identity on safe frames.
-/
import DxModel.Meta
import DxModel.Lemmas.ListBasics
namespace Dx.Meta

/-! ### kinds

`Kind` and `Agg` are finite: statements quantified over them alone are tables, and are decided by evaluation. -/

def Kind.univ : List Kind := [.int, .float, .bool, .obj, .dt]
theorem Kind.mem_univ (k : Kind) : k ∈ Kind.univ := List.contains_iff_mem.mp (by cases k <;> rfl)
instance (p : Kind → Prop) [DecidablePred p] : Decidable (∀ k, p k) :=
  decidable_of_iff (∀ k ∈ Kind.univ, p k) ⟨fun h k => h k (Kind.mem_univ k), fun h k _ => h k⟩

def Agg.univ : List Agg := [.sum, .min, .max, .count, .mean, .any, .all, .first, .last, .size]
theorem Agg.mem_univ (f : Agg) : f ∈ Agg.univ := List.contains_iff_mem.mp (by cases f <;> rfl)
instance (p : Agg → Prop) [DecidablePred p] : Decidable (∀ f, p f) :=
  decidable_of_iff (∀ f ∈ Agg.univ, p f) ⟨fun h f => h f (Agg.mem_univ f), fun h f _ => h f⟩

theorem Kind.join_idem : ∀ (a : Kind), Kind.join a a = a := by decide
theorem Kind.join_comm : ∀ (a b : Kind), Kind.join a b = Kind.join b a := by decide
theorem Kind.join_assoc : ∀ (a b c : Kind), Kind.join (Kind.join a b) c = Kind.join a (Kind.join b c) := by decide +kernel
theorem Kind.na_idem : ∀ (a : Kind), a.na.na = a.na := by decide
theorem Kind.promotes_refl (a : Kind) : Kind.promotes a a := Or.inl rfl
theorem Kind.promotes_na : ∀ (a : Kind), Kind.promotes a a.na := by decide

/-! ### `_concat` of equal schemas, iteration -/

/-- what `_concat` makes of equal inputs -/
def squash : Sch → Sch
  | .scalar k => .series none k rangeIdx
  | s => s

theorem all_beq_replicate (n : Nat) (s : Sch) : (List.replicate n s).all (· == s) = true := by
  rw [List.all_replicate]; split <;> simp

theorem uConcat_reps (n : Nat) (s : Sch) : uConcat (reps n s) = squash s := by
  unfold reps uConcat
  rw [List.replicate_succ]
  simp only [all_beq_replicate, if_true]
  cases s <;> rfl

theorem uConcat_single (s : Sch) : uConcat [s] = squash s := uConcat_reps 0 s

theorem iter_fixed (f : Sch → Sch) (x : Sch) (h : f x = x) : ∀ n, iter f n x = x := by
  intro n
  induction n with
  | zero => rfl
  | succ n ih => rw [iter, h, ih]

/-- Every `combine` / `aggregate` of /repo applies a function to `_concat(inputs)`.  When that of `combine` leaves the
    chunk result unchanged, a tree reduction of any shape computes the `aggregate` function of one chunk … -/
theorem treeReduce_squash (chunk G H : Sch → Sch) (rt : Rt) (s : Sch) (hfix : G (squash (chunk s)) = chunk s) :
    treeReduce chunk (fun i => G (uConcat i)) (fun i => H (uConcat i)) rt s = H (squash (chunk s)) := by
  unfold treeReduce
  rw [iter_fixed _ _ (show G (uConcat (reps rt.batch (chunk s))) = chunk s by rw [uConcat_reps, hfix])]
  simp only [uConcat_reps]

/-- … and so does `ApplyConcatApply._meta` on the stand-in -/
theorem acaMeta_squash (chunk G H : Sch → Sch) (s : Sch) (hfix : G (squash (chunk s)) = chunk s) :
    acaMeta chunk (fun i => G (uConcat i)) (fun i => H (uConcat i)) s = H (squash (chunk s)) := by
  unfold acaMeta
  simp only [uConcat_single, hfix]

/-- `yields f k`: `f` can produce the kind `k` — the image of `aggKind f`, closed under `join` (`yields_join`) -/
def yields : Agg → Kind → Bool
  | .sum, .int => true
  | .sum, .float => true
  | .sum, .obj => true
  | .sum, _ => false
  | .count, .int => true
  | .count, _ => false
  | .size, .int => true
  | .size, _ => false
  | .any, .bool => true
  | .any, _ => false
  | .all, .bool => true
  | .all, _ => false
  | .mean, .float => true
  | .mean, .dt => true
  | .mean, _ => false
  | _, _ => true

theorem yields_of_aggKind {f : Agg} {k k' : Kind} (h : aggKind f k = some k') : yields f k' = true := by
  have tbl : ∀ (f : Agg) (k : Kind), (aggKind f k).all (yields f) = true := by decide +kernel
  have := tbl f k
  rwa [h] at this

theorem yields_emptyKind : ∀ (f : Agg), yields f (emptyKind f) = true := by decide

theorem yields_join : ∀ {f : Agg}, f ≠ .mean → ∀ {a : Kind}, yields f a = true → ∀ {b : Kind}, yields f b = true →
    yields f (Kind.join a b) = true := by decide +kernel

/-- re-aggregating a kind that `f` produced (with the second-stage function) does not change it -/
theorem stable_red : ∀ {f : Agg}, f ≠ .mean → ∀ {k : Kind}, yields f k = true → aggKind (redSecond f) k = some k := by
  decide +kernel

theorem stable_gb : ∀ {f : Agg}, f ≠ .mean → ∀ {k : Kind}, yields f k = true → aggKind (gbSecond f) k = some k := by
  decide +kernel

theorem yields_count : ∀ {k : Kind}, yields .count k = true → k = .int := by decide

theorem allSome_eq_some : ∀ {os : List (Option Kind)} {l : List Kind}, allSome os = some l ↔ os = l.map some
  | [], l => by cases l <;> simp [allSome]
  | none :: r, l => by cases l <;> simp [allSome]
  | some k :: r, l => by
    cases l with
    | nil => simp [allSome]
    | cons a t =>
      rw [List.map_cons, List.cons.injEq, Option.some.injEq, ← allSome_eq_some (os := r), allSome]
      cases allSome r <;> simp

theorem allSome_map_some (l : List Kind) : allSome (l.map some) = some l := allSome_eq_some.mpr rfl

theorem allSome_map_total {g : Kind → Option Kind} {h : Kind → Kind} {ks : List Kind} (hk : ∀ k, k ∈ ks → g k = some (h k)) :
    allSome (ks.map g) = some (ks.map h) := by
  rw [allSome_eq_some, List.map_map]
  exact List.map_congr_left hk

theorem foldl_join_replicate (n : Nat) (k : Kind) : (List.replicate n k).foldl Kind.join k = k := by
  induction n with
  | zero => rfl
  | succ n ih => rw [List.replicate_succ, List.foldl_cons, Kind.join_idem, ih]

theorem foldl_join_mem {S : Kind → Prop} (hj : ∀ a b, S a → S b → S (Kind.join a b)) :
    ∀ (l : List Kind) (a : Kind), S a → (∀ k, k ∈ l → S k) → S (l.foldl Kind.join a)
  | [], _, ha, _ => ha
  | b :: t, a, ha, h =>
    foldl_join_mem hj t _ (hj a b ha (h b List.mem_cons_self)) (fun k hk => h k (List.mem_cons_of_mem _ hk))

/-- the kind of `df.f()` lies in every set of kinds that is closed under `join` and holds the kind of an empty result
    and the aggregate of every column -/
theorem redKind_mem {S : Kind → Prop} (hj : ∀ a b, S a → S b → S (Kind.join a b)) {f : Agg} {ks : List Kind} {K : Kind}
    (he : S (emptyKind f)) (hS : ∀ k k', k ∈ ks → aggKind f k = some k' → S k') (h : redKind f ks = some K) : S K := by
  unfold redKind at h
  cases hl : allSome (ks.map (aggKind f)) with
  | none => rw [hl] at h; cases h
  | some l =>
    have hmem : ∀ k', k' ∈ l → S k' := by
      intro k' hk'
      have : some k' ∈ ks.map (aggKind f) := by rw [allSome_eq_some.mp hl]; exact List.mem_map_of_mem hk'
      obtain ⟨k, hk, hkk⟩ := List.mem_map.mp this
      exact hS k k' hk hkk
    rw [hl] at h
    cases l with
    | nil => cases h; exact he
    | cons a t =>
      cases h
      exact foldl_join_mem hj t a (hmem a List.mem_cons_self) (fun k hk => hmem k (List.mem_cons_of_mem _ hk))

/-- … and is defined when every column's aggregate is -/
theorem redKind_some {S : Kind → Prop} (hj : ∀ a b, S a → S b → S (Kind.join a b)) {f : Agg} {ks : List Kind}
    {h : Kind → Kind} (he : S (emptyKind f)) (hk : ∀ k, k ∈ ks → aggKind f k = some (h k) ∧ S (h k)) :
    ∃ K, redKind f ks = some K ∧ S K := by
  have hdef : ∃ K, redKind f ks = some K := by
    unfold redKind
    rw [allSome_map_total (fun k hk' => (hk k hk').1)]
    cases ks.map h <;> exact ⟨_, rfl⟩
  obtain ⟨K, hK⟩ := hdef
  exact ⟨K, hK, redKind_mem hj he (fun k k' hk' e => by rw [(hk k hk').1] at e; cases e; exact (hk k hk').2) hK⟩

theorem redKind_yields {f : Agg} (hf : f ≠ .mean) {ks : List Kind} {K : Kind} (h : redKind f ks = some K) :
    yields f K = true :=
  redKind_mem (S := fun k => yields f k = true) (fun _ _ ha hb => yields_join hf ha hb) (yields_emptyKind f)
    (fun _ _ _ e => yields_of_aggKind e) h

theorem kinds_uniform (names : List Name) (K : Kind) :
    (names.map (fun n => (n, K))).map (·.2) = List.replicate names.length K := by
  rw [List.map_map, ← List.map_const']; rfl

/-- `df.g()` over columns that all have kind `K` -/
theorem redKind_replicate (g : Agg) (K : Kind) (n : Nat) :
    redKind g (List.replicate (n + 1) K) = aggKind g K := by
  unfold redKind
  rw [List.map_replicate]
  cases aggKind g K with
  | none => rfl
  | some K' =>
    rw [show List.replicate (n + 1) (some K') = (List.replicate (n + 1) K').map some from (List.map_replicate ..).symm,
      allSome_map_some, List.replicate_succ]
    simp only [joinKinds, foldl_join_replicate]

/-- a frame whose columns all have a kind that `g` leaves alone is left alone by `redStep g` (up to the index) -/
theorem redStep_uniform {g : Agg} {K : Kind} (names : List Name) (idx : List Lvl) (h : aggKind g K = some K) :
    redStep g (.frame (names.map (fun n => (n, K))) idx) = .frame (names.map (fun n => (n, K))) rangeIdx := by
  unfold redStep
  simp only
  rw [kinds_uniform]
  cases names with
  | nil => rfl
  | cons a t =>
    rw [List.length_cons, redKind_replicate, h]
    simp only [List.map_map, Function.comp_def]

theorem redFinal_uniform {g : Agg} {K : Kind} (names : List Name) (idx : List Lvl) (h : aggKind g K = some K) :
    redFinal g (.frame (names.map (fun n => (n, K))) idx) =
      .series none (if names = [] then emptyKind g else K) [(none, .obj)] := by
  unfold redFinal
  simp only
  rw [kinds_uniform]
  cases names with
  | nil => rfl
  | cons a t => rw [List.length_cons, redKind_replicate, h]; rfl

theorem cols_as_names (cols : List Col) (K : Kind) :
    cols.map (fun c => (c.1, K)) = (labels cols).map (fun n => (n, K)) := by
  simp [labels, List.map_map, Function.comp_def]

theorem redStep_frame_some {f : Agg} {cols : List Col} {idx : List Lvl} {K : Kind}
    (h : redKind f (cols.map (·.2)) = some K) :
    redStep f (.frame cols idx) = .frame ((labels cols).map (fun n => (n, K))) rangeIdx := by
  simp only [redStep, h, cols_as_names]

theorem redStep_frame_none {f : Agg} {cols : List Col} {idx : List Lvl}
    (h : redKind f (cols.map (·.2)) = none) : redStep f (.frame cols idx) = .bad := by
  simp only [redStep, h]

theorem redStep_series_some {f : Agg} {n : Option Name} {k k' : Kind} {idx : List Lvl}
    (h : aggKind f k = some k') : redStep f (.series n k idx) = .scalar k' := by
  simp only [redStep, h]

theorem redStep_series_none {f : Agg} {n : Option Name} {k : Kind} {idx : List Lvl}
    (h : aggKind f k = none) : redStep f (.series n k idx) = .bad := by
  simp only [redStep, h]

theorem redCombine_fixed (f : Agg) (hf : f ≠ .mean) (s : Sch) :
    castCount f (redStep (redSecond f) (squash (redStep f s))) = redStep f s := by
  cases s with
  | frame cols idx =>
    cases hK : redKind f (cols.map (·.2)) with
    | none => rw [redStep_frame_none hK]; rfl
    | some K =>
      have hcl := redKind_yields hf hK
      rw [redStep_frame_some hK]
      simp only [squash]
      rw [redStep_uniform (labels cols) rangeIdx (stable_red hf hcl)]
      by_cases hfc : f = .count
      · cases yields_count (hfc ▸ hcl)
        simp only [castCount, hfc, if_true, List.map_map, Function.comp_def]
      · simp only [castCount, if_neg hfc]
  | series n k idx =>
    cases hk : aggKind f k with
    | none => rw [redStep_series_none hk]; rfl
    | some k' =>
      have hcl := yields_of_aggKind hk
      rw [redStep_series_some hk]
      simp only [squash]
      rw [redStep_series_some (stable_red hf hcl)]
      by_cases hfc : f = .count
      · cases yields_count (hfc ▸ hcl)
        simp only [castCount, if_pos hfc]
      · simp only [castCount, if_neg hfc]
  | _ => rfl

theorem treeRed_eq (f : Agg) (hf : f ≠ .mean) (rt : Rt) (s : Sch) :
    treeReduce (redChunk f) (redCombine f) (redAggregate f) rt s =
      castCount f (redFinal (redSecond f) (squash (redStep f s))) :=
  treeReduce_squash (redChunk f) (fun x => castCount f (redStep (redSecond f) x))
    (fun x => castCount f (redFinal (redSecond f) x)) rt s (redCombine_fixed f hf s)

/-- every reduction but `mean`: any tree shape computes what `_meta` declares -/
theorem taskReduce_eq (f : Agg) (hf : f ≠ .mean) (rt : Rt) (s : Sch) : taskReduce f rt s = declReduce f s := by
  unfold taskReduce declReduce
  by_cases hr : isReduction f = true
  · simp only [hr, Bool.not_true, Bool.false_eq_true, if_false, hf]
    rw [treeRed_eq f hf]
    exact (acaMeta_squash (redChunk f) (fun x => castCount f (redStep (redSecond f) x))
      (fun x => castCount f (redFinal (redSecond f) x)) s (redCombine_fixed f hf s)).symm
  · simp [hr]

/-! #### mean = sum / count on numeric columns -/

/-- the kinds a sum of numeric columns can have: the ones `mean_aggregate` can divide -/
def intOrFloat : Kind → Bool
  | .int => true
  | .float => true
  | _ => false

theorem redKind_sum_numeric {ks : List Kind} (h : ∀ k, k ∈ ks → isNumeric k = true) :
    ∃ K, redKind .sum ks = some K ∧ intOrFloat K = true :=
  have tbl : ∀ (k : Kind), isNumeric k = true →
      aggKind .sum k = some (if k = .bool then .int else k) ∧ intOrFloat (if k = .bool then .int else k) = true := by decide
  redKind_some (S := fun k => intOrFloat k = true) (by decide) rfl (fun k hk => tbl k (h k hk))

theorem redKind_mean_numeric {ks : List Kind} (h : ∀ k, k ∈ ks → isNumeric k = true) : redKind .mean ks = some .float := by
  have tbl : ∀ (k : Kind), isNumeric k = true → aggKind .mean k = some .float := by decide
  obtain ⟨K, hK, rfl⟩ := redKind_some (S := (· = .float)) (f := .mean) (h := fun _ => .float) (by decide) rfl
    (fun k hk => ⟨tbl k (h k hk), rfl⟩)
  exact hK

theorem redKind_count (ks : List Kind) : redKind .count ks = some .int := by
  have tbl : ∀ (k : Kind), aggKind .count k = some .int := by decide
  obtain ⟨K, hK, rfl⟩ := redKind_some (S := (· = .int)) (f := .count) (h := fun _ => .int) (ks := ks) (by decide) rfl
    (fun k _ => ⟨tbl k, rfl⟩)
  exact hK

theorem taskReduce_mean (rt : Rt) (s : Sch) (hg : allNumeric s = true) :
    taskReduce .mean rt s = declReduce .mean s := by
  have hs : Agg.sum ≠ Agg.mean := by decide
  have hc : Agg.count ≠ Agg.mean := by decide
  unfold taskReduce declReduce
  simp only [isReduction, Bool.not_true, Bool.false_eq_true, if_false, if_true]
  rw [treeRed_eq .sum hs, treeRed_eq .count hc]
  cases s with
  | frame cols idx =>
    have hnum : ∀ k, k ∈ cols.map (·.2) → isNumeric k = true := by
      intro k hk
      obtain ⟨c, hc, rfl⟩ := List.mem_map.mp hk
      exact List.all_eq_true.mp hg c hc
    obtain ⟨K, hK, hKif⟩ := redKind_sum_numeric hnum
    have hdiv : ∀ (K : Kind), intOrFloat K = true → aggKind .sum K = some K ∧ divKind K .int = some .float := by decide
    rw [redStep_frame_some hK, redStep_frame_some (redKind_count _)]
    simp only [squash, redSecond]
    rw [redFinal_uniform _ _ (hdiv K hKif).1, redFinal_uniform (K := .int) _ _ rfl]
    -- the sums have kind `K`, or float when there is no column; the counts are integers; the quotient is float
    simp only [castCount, reduceCtorEq, if_false, if_true, pDiv, redFinal, redKind_mean_numeric hnum]
    by_cases hl : labels cols = []
    · rw [if_pos hl]; rfl
    · rw [if_neg hl, (hdiv K hKif).2]
  | series n k idx =>
    have hk : isNumeric k = true := hg
    cases k <;> first | rfl | cases hk
  | _ => rfl

theorem aggCols_cons {f : Agg} {a : Col} {t r : List Col} (h : aggCols f (a :: t) = some r) :
    ∃ k r', aggKind f a.2 = some k ∧ aggCols f t = some r' ∧ r = (a.1, k) :: r' := by
  rw [aggCols] at h
  cases ha : aggKind f a.2 with
  | none => rw [ha] at h; cases h
  | some k =>
    cases ht : aggCols f t with
    | none => rw [ha, ht] at h; cases h
    | some r' => rw [ha, ht] at h; cases h; exact ⟨k, r', rfl, rfl, rfl⟩

theorem aggCols_yields {f : Agg} : ∀ {cs r : List Col}, aggCols f cs = some r → ∀ c, c ∈ r → yields f c.2 = true
  | [], r, h, c, hc => by cases h; cases hc
  | a :: t, r, h, c, hc => by
    obtain ⟨k, r', ha, ht, rfl⟩ := aggCols_cons h
    rcases List.mem_cons.mp hc with rfl | hc'
    · exact yields_of_aggKind ha
    · exact aggCols_yields ht c hc'

theorem aggCols_stable {g : Agg} : ∀ (r : List Col), (∀ c, c ∈ r → aggKind g c.2 = some c.2) → aggCols g r = some r
  | [], _ => rfl
  | a :: t, h => by
    simp only [aggCols, h a (by simp), aggCols_stable t (fun c hc => h c (by simp [hc]))]

/-- what a groupby chunk looks like -/
inductive GbImage (f : Agg) : Sch → Prop where
  | bad : GbImage f .bad
  | frame (r : List Col) (lv : List Lvl) (h : ∀ c, c ∈ r → yields f c.2 = true) : GbImage f (.frame r lv)
  | series (n : Option Name) (k : Kind) (lv : List Lvl) (h : yields f k = true) : GbImage f (.series n k lv)

/-- follow the branches of `pGroupby`: every leaf that is not `.bad` holds an output of `aggCols` / `aggKind`, which
    `f` yields -/
theorem pGroupby_image (keys : List Name) (sl : Slice) (f : Agg) (s : Sch) : GbImage f (pGroupby keys sl f s) := by
  cases s with
  | frame cols idx =>
    simp only [pGroupby]
    by_cases hk : keys.isEmpty = true
    · rw [if_pos hk]; exact .bad
    · rw [if_neg hk]
      cases hl : keyLevels cols keys with
      | none => exact .bad
      | some lv =>
        simp only
        by_cases hsz : f = .size
        · subst hsz
          rw [if_pos rfl]
          cases sl with
          | all => exact .series _ _ _ rfl
          | many cs => exact .series _ _ _ rfl
          | one c =>
            simp only
            by_cases hc : (labels cols).contains c = true
            · rw [if_pos hc]; exact .series _ _ _ rfl
            · rw [if_neg hc]; exact .bad
        · rw [if_neg hsz]
          cases sl with
          | all =>
            simp only
            cases hr : aggCols f (cols.filter (fun c => !keys.contains c.1)) with
            | none => exact .bad
            | some r => exact .frame _ _ (aggCols_yields hr)
          | many cs =>
            simp only
            cases hs : selectCols cols cs with
            | none => exact .bad
            | some sel =>
              simp only
              cases hr : aggCols f sel with
              | none => exact .bad
              | some r => exact .frame _ _ (aggCols_yields hr)
          | one c =>
            simp only
            cases hc : cols.lookup c with
            | none => exact .bad
            | some k =>
              simp only
              cases hk' : aggKind f k with
              | none => exact .bad
              | some k' => exact .series _ _ _ (yields_of_aggKind hk')
  | _ => exact .bad

theorem gbLevel_fixed {f : Agg} (hf : f ≠ .mean) {x : Sch} (h : GbImage f x) :
    pGroupLevel (gbSecond f) (squash x) = x := by
  cases h with
  | bad => rfl
  | frame r lv h =>
    simp only [squash, pGroupLevel]
    rw [aggCols_stable r (fun c hc => stable_gb hf (h c hc))]
  | series n k lv h =>
    simp only [squash, pGroupLevel]
    rw [stable_gb hf h]

theorem gbFixed (keys : List Name) (sl : Slice) {f : Agg} (hf : f ≠ .mean) (s : Sch) :
    pGroupLevel (gbSecond f) (squash (gbChunk keys sl f s)) = gbChunk keys sl f s :=
  gbLevel_fixed hf (pGroupby_image keys sl f s)

theorem aggCols_append {g : Agg} {a b ra rb : List Col} (ha : aggCols g a = some ra) (hb : aggCols g b = some rb) :
    aggCols g (a ++ b) = some (ra ++ rb) := by
  induction a generalizing ra with
  | nil => cases ha; exact hb
  | cons x t ih =>
    obtain ⟨k, r', hx, ht, rfl⟩ := aggCols_cons ha
    simp only [List.cons_append, aggCols, hx, ih ht]

theorem meanChunk_image (keys : List Name) (s : Sch) :
    meanChunk keys s = .bad ∨ ∃ r lv, meanChunk keys s = .frame r lv ∧ aggCols .sum r = some r := by
  cases s with
  | frame cols idx =>
    simp only [meanChunk]
    by_cases hk : keys.isEmpty = true
    · rw [if_pos hk]; exact Or.inl rfl
    · rw [if_neg hk]
      cases hl : keyLevels cols keys with
      | none => exact Or.inl rfl
      | some lv =>
        simp only
        cases hx : aggCols .sum ((cols.filter (fun c => !keys.contains c.1)).filter (fun c => isNumeric c.2)) with
        | none => exact Or.inl rfl
        | some x =>
          refine Or.inr ⟨_, lv, rfl, ?_⟩
          have h1 : aggCols .sum x = some x :=
            aggCols_stable x (fun c hc => stable_red (f := .sum) (by decide) (aggCols_yields hx c hc))
          have h2 : ∀ (l : List Col), aggCols .sum (l.map (fun c => (c.1 ++ "-count", Kind.int))) =
              some (l.map (fun c => (c.1 ++ "-count", Kind.int))) := by
            intro l
            apply aggCols_stable
            intro c hc
            obtain ⟨c0, _, rfl⟩ := List.mem_map.mp hc
            rfl
          exact aggCols_append h1 (h2 _)
  | _ => exact Or.inl rfl

theorem meanChunk_fixed (keys : List Name) (s : Sch) :
    pGroupLevel .sum (squash (meanChunk keys s)) = meanChunk keys s := by
  rcases meanChunk_image keys s with h | ⟨r, lv, h, hr⟩
  · rw [h]; rfl
  · rw [h]
    simp only [squash, pGroupLevel, hr]

theorem meanTree_eq (keys : List Name) (rt : Rt) (s : Sch) :
    treeReduce (meanChunk keys) meanCombine meanAgg rt s = acaMeta (meanChunk keys) meanCombine meanAgg s := by
  unfold treeReduce acaMeta meanCombine
  rw [iter_fixed _ _ (show pGroupLevel .sum (uConcat (reps rt.batch (meanChunk keys s))) = meanChunk keys s by
    rw [uConcat_reps, meanChunk_fixed])]
  simp only [meanAgg, uConcat_reps, uConcat_single, meanChunk_fixed]

/-! ### column selection of all columns, shuffles -/

theorem lookup_of_mem_nodup {cols : List Col} (hn : (labels cols).Nodup) (c : Col) (hc : c ∈ cols) :
    cols.lookup c.1 = some c.2 := by
  obtain ⟨l₁, l₂, rfl⟩ := List.append_of_mem hc
  rw [List.lookup_eq_some_iff]
  refine ⟨l₁, l₂, rfl, fun p hp => ?_⟩
  simp only [labels, List.map_append, List.map_cons, List.nodup_append, List.mem_cons] at hn
  exact bne_iff_ne.mpr (hn.2.2 p.1 (List.mem_map_of_mem hp) c.1 (Or.inl rfl)).symm

theorem selectCols_of_lookup (C : List Col) : ∀ (sub : List Col), (∀ c, c ∈ sub → C.lookup c.1 = some c.2) →
    selectCols C (labels sub) = some sub
  | [], _ => rfl
  | a :: t, h => by
    simp only [labels, List.map_cons, selectCols]
    rw [h a (by simp)]
    have := selectCols_of_lookup C t (fun c hc => h c (by simp [hc]))
    simp only [labels] at this
    rw [this]

/-- `df[list(df.columns)]` with duplicate-free labels is `df` -/
theorem pGetCols_self (cols extra : List Col) (idx : List Lvl) (hn : (labels cols).Nodup) :
    pGetCols (labels cols) (.frame (cols ++ extra) idx) = .frame cols idx := by
  simp only [pGetCols]
  rw [selectCols_of_lookup (cols ++ extra) cols (fun c hc => by rw [List.lookup_append, lookup_of_mem_nodup hn c hc]; rfl)]

theorem filter_ne_self (l : List Name) (x : Name) (h : l.contains x = false) : l.filter (· != x) = l :=
  List.filter_eq_self.mpr (fun a ha => bne_iff_ne.mpr (fun e => by
    subst e; rw [List.contains_iff_mem.mpr ha] at h; cases h))

/-- `RearrangeByColumn` / the shuffle of `SetPartition`: assign `_partitions`, shuffle, project it away -/
theorem shuffled_frame (cols : List Col) (idx : List Lvl) (h : shuffleSafe (.frame cols idx) = true) :
    shuffled (.frame cols idx) = .frame cols idx := by
  simp only [shuffleSafe, hasLabel, nodupLabels, Bool.and_eq_true, Bool.not_eq_true', decide_eq_true_eq] at h
  unfold shuffled pAssign valueKind setKind
  simp only [h.1, Bool.false_eq_true, if_false]
  have hl : labels (cols ++ [("_partitions", Kind.int)]) = labels cols ++ ["_partitions"] := by simp [labels]
  rw [hl, List.filter_append, filter_ne_self _ _ h.1]
  simp only [bne_self_eq_false, Bool.false_eq_true, not_false_eq_true, List.filter_cons_of_neg, List.filter_nil,
    List.append_nil]
  exact pGetCols_self cols _ idx h.2

/-- `SetPartition._lower`: the `set_index` of the shuffled frame -/
theorem taskU_setIndex (c : Name) (d : Bool) (rt : Rt) (m s : Sch) :
    taskU (.setIndex c d) rt m s = pSetIndex c d (if rt.path = 0 then s else shuffled s) := by
  unfold taskU shuffled
  by_cases hp : rt.path = 0
  · simp only [hp, if_true]
  · simp only [hp, if_false]
    cases pAssign "_partitions" s (.series none .int rangeIdx) <;> rfl

theorem pSetIndex_shuffled (c : Name) (d : Bool) (s : Sch) (h : shuffleSafe s = true) :
    pSetIndex c d (shuffled s) = pSetIndex c d s := by
  cases s with
  | frame cols idx => rw [shuffled_frame cols idx h]
  | _ => rfl

theorem shuffled_nonframe (s : Sch) (h : ∀ cols idx, s ≠ .frame cols idx) : shuffled s = .bad := by
  cases s with
  | frame cols idx => exact absurd rfl (h cols idx)
  | _ => rfl

theorem pMerge_nonframe_left (m : Dx.Cols.MergeP) (l r : Sch) (h : ∀ cols idx, l ≠ .frame cols idx) : pMerge m l r = .bad := by
  cases l with
  | frame cols idx => exact absurd rfl (h cols idx)
  | _ => rfl

theorem pMerge_shuffled (m : Dx.Cols.MergeP) (l r : Sch) (hl : shuffleSafe l = true) (hr : shuffleSafe r = true) :
    pMerge m (shuffled l) (shuffled r) = pMerge m l r := by
  cases l with
  | frame L li =>
    rw [shuffled_frame L li hl]
    cases r with
    | frame R ri => rw [shuffled_frame R ri hr]
    | _ => rfl
  | _ => rfl

/-- what pandas checks before it merges: keys given, of equal number and present, result labels duplicate-free -/
def pMergeChecks (m : Dx.Cols.MergeP) (L R : List Col) : Bool :=
  !(m.leftOn.isEmpty || m.leftOn.length != m.rightOn.length) &&
    (m.leftOn.all ((labels L).contains ·) && m.rightOn.all ((labels R).contains ·)) &&
    decide (labels (mergeCols m L R)).Nodup

theorem pMerge_frame (m : Dx.Cols.MergeP) (L : List Col) (li : List Lvl) (R : List Col) (ri : List Lvl) :
    pMerge m (.frame L li) (.frame R ri) = if pMergeChecks m L R then .frame (mergeCols m L R) rangeIdx else .bad := by
  simp only [pMerge, pMergeChecks]
  by_cases h1 : (m.leftOn.isEmpty || m.leftOn.length != m.rightOn.length) = true
  · simp only [h1, if_true, Bool.not_true, Bool.false_and, Bool.false_eq_true, if_false]
  · by_cases h2 : (m.leftOn.all ((labels L).contains ·) && m.rightOn.all ((labels R).contains ·)) = true
    · simp only [h1, h2, if_false, Bool.not_true, Bool.not_false, Bool.true_and, Bool.false_eq_true]
    · simp only [h1, h2, if_false, if_true, Bool.not_false, Bool.true_and, Bool.false_and, Bool.false_eq_true]

/-- the result of a merge is a frame with duplicate-free labels, or an error -/
theorem pMerge_cases (m : Dx.Cols.MergeP) (l r : Sch) :
    pMerge m l r = .bad ∨ ∃ out, pMerge m l r = .frame out rangeIdx ∧ (labels out).Nodup := by
  cases l with
  | frame L li =>
    cases r with
    | frame R ri =>
      rw [pMerge_frame]
      cases h : pMergeChecks m L R with
      | false => exact Or.inl rfl
      | true => exact Or.inr ⟨_, rfl, of_decide_eq_true (Bool.and_eq_true _ _ ▸ h).2⟩
    | _ => exact Or.inl rfl
  | _ => exact Or.inl rfl

/-- `out[result_meta.columns]` of `merge_chunk` with the declared merge as `result_meta` changes nothing -/
theorem pMerge_reorder (m : Dx.Cols.MergeP) (l r : Sch) :
    (match pMerge m l r with
      | .frame mc _ => pGetCols (labels mc) (pMerge m l r)
      | _ => .bad) = pMerge m l r := by
  rcases pMerge_cases m l r with hb | ⟨out, ho, hn⟩
  · rw [hb]
  · rw [ho]
    have := pGetCols_self out [] rangeIdx hn
    rwa [List.append_nil] at this

end Dx.Meta

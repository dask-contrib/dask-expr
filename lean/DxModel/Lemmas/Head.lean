/-
  Lemmas/Head.lean — evaluation of the lowered head graph, list facts about `take`, `lowerHead`,
  truthful divisions of Head.
-/
import DxModel.Layers.Head
import DxModel.Lemmas.Partitions
import DxModel.Lemmas.Blockwise
namespace Dx.Head
open Dx Dx.Parts Dx.Repartition

/-! ### list facts -/

theorem take_append_take {α} (n : Nat) (a b : List α) : (a.take n ++ b).take n = (a ++ b).take n := by
  rcases Nat.le_total n a.length with h | h
  · rw [List.take_append_of_le_length (by rw [List.length_take]; exact Nat.le_min.mpr ⟨Nat.le_refl _, h⟩),
      List.take_take, Nat.min_self, List.take_append_of_le_length h]
  · rw [List.take_of_length_le h]

theorem take_append_take_right {α} (n : Nat) (a b : List α) : (a ++ b.take n).take n = (a ++ b).take n := by
  rw [List.take_append, List.take_append, List.take_take, Nat.min_eq_left (Nat.sub_le _ _)]

theorem take_flatMap_take {α β} (n : Nat) (f : α → List β) :
    ∀ (l : List α), (l.flatMap (fun x => (f x).take n)).take n = (l.flatMap f).take n := by
  intro l
  induction l with
  | nil => rfl
  | cons x t ih =>
    simp only [List.flatMap_cons]
    rw [take_append_take, ← take_append_take_right, ih, take_append_take_right]

theorem take_take_min {α} (m n : Nat) (l : List α) : (l.take n).take m = l.take (min m n) := by
  rw [List.take_take]

/-! ### the lowered head graph

  One unit of fuel per level of the graph: alias `sel` (`F+1`), per-partition head `bh` (`F+2`), concat `rep` (`F+3`),
  final head `out` (`F+4`). -/

theorem run_head_sel (I : Interp) (pl : HeadPlan) (n : Nat) (parts : Nat → List Row) (F j : Nat)
    (hj : j < pl.parts.length) :
    run I (headTask pl n) (inputs parts) (F+1) (.sel j) = .frame (sel pl.parts parts j) := by
  have hg : headTask pl n (.sel j) = some (.alias (.dep pl.parts[j])) := by
    simp [headTask, List.getElem?_eq_getElem hj]
  rw [run_defined _ _ _ F _ _ hg]
  rw [evalTsk, run_input I (headTask pl n) (inputs parts) (.dep pl.parts[j]) (.frame (parts pl.parts[j])) rfl rfl,
    sel, List.getElem?_eq_getElem hj]

theorem run_head_bh (I : Interp) (hI : HeadInterp I) (pl : HeadPlan) (n : Nat) (parts : Nat → List Row) (F j : Nat)
    (hj : j < pl.parts.length) :
    run I (headTask pl n) (inputs parts) (F+2) (.bh j) = .frame ((sel pl.parts parts j).take n) := by
  have hg : headTask pl n (.bh j) = some (.apply (headFn n pl.safe1) [.sel j]) := by
    simp [headTask, hj]
  rw [run_defined _ _ _ (F+1) _ _ hg]
  simp only [evalTsk, List.map_cons, List.map_nil, run_head_sel I pl n parts F j hj, hI.head]

theorem run_head_rep (I : Interp) (hI : HeadInterp I) (pl : HeadPlan) (n : Nat) (parts : Nat → List Row) (F : Nat)
    (h2 : pl.second.isSome) (hne : pl.parts.length ≠ 1) :
    run I (headTask pl n) (inputs parts) (F+3) .rep =
      .frame ((List.range pl.parts.length).flatMap (fun j => (sel pl.parts parts j).take n)) := by
  have hg : headTask pl n .rep = some (.concat ((List.range pl.parts.length).map Key.bh) false) := by
    simp [headTask, h2, hne]
  rw [run_defined _ _ _ (F+2) _ _ hg]
  simp only [evalTsk]
  apply eval_concat I _ (List.range pl.parts.length) Key.bh _ _ false
  intro j hj
  have hjl := List.mem_range.mp hj
  rw [run_head_bh I hI pl n parts F j hjl]

/-- The lowered head graph: the single output is `take n` of the concatenation of the selected partitions. -/
theorem run_head (I : Interp) (hI : HeadInterp I) (pl : HeadPlan) (n : Nat) (parts : Nat → List Row)
    (hpos : pl.second = none → pl.parts.length = 1) (hne : pl.parts ≠ []) (F : Nat) :
    run I (headTask pl n) (inputs parts) (F+4) (outKey pl) = .frame ((pl.parts.flatMap parts).take n) := by
  have hlen : 0 < pl.parts.length := List.length_pos_iff.mpr hne
  have hone : pl.parts.length = 1 → sel pl.parts parts 0 = pl.parts.flatMap parts := fun h1 => by
    rw [← flatMap_sel, h1, List.range_one, List.flatMap_singleton]
  cases h2 : pl.second with
  | none =>
    rw [show outKey pl = .bh 0 by simp [outKey, h2], run_head_bh I hI pl n parts (F+2) 0 hlen, hone (hpos h2)]
  | some safe2 =>
    rw [show outKey pl = .out by simp [outKey, h2]]
    by_cases h1 : pl.parts.length = 1
    · have hg : headTask pl n .out = some (.apply (headFn n safe2) [.bh 0]) := by simp [headTask, h2, h1]
      rw [run_defined _ _ _ (F+3) _ _ hg]
      simp only [evalTsk, List.map_cons, List.map_nil, run_head_bh I hI pl n parts (F+1) 0 hlen, hI.head]
      rw [List.take_take, Nat.min_self, hone h1]
    · have hg : headTask pl n .out = some (.apply (headFn n safe2) [.rep]) := by simp [headTask, h2, h1]
      rw [run_defined _ _ _ (F+3) _ _ hg]
      simp only [evalTsk, List.map_cons, List.map_nil,
        run_head_rep I hI pl n parts F (by simp [h2]) h1, hI.head]
      rw [take_flatMap_take n (sel pl.parts parts), flatMap_sel]

theorem I0_headInterp : HeadInterp I0 := by
  -- `I0` reads the argument `n` and the kind of task function off the code `4 * n + c`
  have key : ∀ n c rows, c < 4 → I0 (4 * n + c) [.frame rows] =
      if c = 1 then .frame (rows.drop (rows.length - n)) else .frame (rows.take n) := by
    intro n c rows hc
    simp only [I0, Nat.mul_add_mod, Nat.mod_eq_of_lt hc, Nat.mul_add_div (by decide : 4 > 0),
      Nat.div_eq_of_lt hc, Nat.add_zero, beq_iff_eq]
  refine ⟨fun n safe rows => ?_, fun n rows => key n 1 rows (by decide)⟩
  cases safe
  · exact key n 0 rows (by decide)
  · exact key n 2 rows (by decide)

/-! ### `lowerHead` -/

theorem headPartitions_eq (np : Nat) (k : Int) :
    headPartitions np k = List.range (if k > -1 then min k.toNat np else np) := by
  unfold headPartitions
  split
  · rw [List.take_range]
  · rfl

theorem lowerHead_ok (np : Nat) (k : Int) (pl : HeadPlan) (h : lowerHead np k = .ok pl) :
    pl.parts = headPartitions np k ∧ (pl.second = none → k = 1) := by
  unfold lowerHead at h
  split at h
  · cases h
  · cases h
    refine ⟨rfl, ?_⟩
    intro hs
    by_cases hk : k = 1
    · exact hk
    · simp [hk] at hs

/-! ### truthful divisions of Head -/

/-- `Head._divisions` (`k` leading partitions, `k ≤ np`): `(d[0], d[k])` bounds the head. -/
theorem divInv_head (d : List Int) (np : Nat) (parts : Nat → List Row) (k n : Nat) (lo hi : Int)
    (hinv : DivInv d np parts) (hk : k ≤ np) (hlo : d[0]? = some lo) (hhi : d[k]? = some hi) :
    DivInv [lo, hi] 1 (fun _ => ((List.range k).flatMap parts).take n) := by
  rcases Nat.eq_zero_or_pos k with rfl | hk0
  · cases Option.some.inj (hhi.symm.trans hlo)
    exact ⟨rfl, by simp, fun _ _ _ _ _ r hr => absurd hr (by simp), fun _ _ => by simp⟩
  · have hb : [0, k].Pairwise (· < ·) := List.pairwise_pair.mpr hk0
    refine divInv_coarsen hinv (fun j => [0, k].getD j 0) rfl
      (fun i j hij hj => pairwise_getD hb 0 hij (Nat.lt_succ_of_le hj)) hk ?_ ?_
    · intro j hj
      rcases Nat.lt_or_eq_of_le hj with hj | rfl
      · cases Nat.lt_one_iff.mp hj
        exact (getD_of_getElem? hlo).symm
      · exact (getD_of_getElem? hhi).symm
    · intro j hj
      cases Nat.lt_one_iff.mp hj
      rw [List.range_eq_range']
      exact (List.take_sublist _ _).map _

end Dx.Head

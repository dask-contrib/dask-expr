/-
  Lemmas/FragOps.lean — per class: when a node of the fragment is defined and what it denotes, and the operator
  structures of DxModel/Cols.lean (`KeyedOp`, `SourceOp`, `BinOp`, `AssignOp`, `RelabelOp`, `ConcatOp`, `MergeOp`) instantiated
  with the frame functions of DxModel/Fragment.lean — the instances to which the C04 theorems are applied (`binB` to
  none: the Binop rules are proved from `binopSide` itself).
-/
import DxModel.Lemmas.FragSem
import DxModel.Lemmas.ColsAssign
import DxModel.Lemmas.ColsInst
namespace Dx.Frag
open Dx Dx.Cols

variable {γ ι : Type}

/-! ### normal frames -/

theorem normal_guard (cs : List Name) (g : Name → Option γ) : Normal ⟨cs, fun c => if cs.contains c then g c else none⟩ :=
  fun _ hc => if_neg (Bool.eq_false_iff.mp hc)

theorem normal_mapFrame (f : γ → γ) (F : Frame γ) : Normal (mapFrame f F) := normal_guard _ _

theorem normal_srcFrame (I : Interp γ ι) (l : SrcLit) (cs : List Name) : Normal (srcFrame I l cs) := normal_guard _ _

theorem normal_binFrame (g : γ → γ → γ) (A B : Frame γ) : Normal (binFrame g A B) := by
  intro c (hc : A.cols.contains c = false)
  show bin2 g (if A.cols.contains c = true then A.val c else none) _ = none
  rw [if_neg (Bool.eq_false_iff.mp hc)]
  rfl

theorem normal_serFrame (n : Name) (x : γ) : Normal (serFrame n x) := normal_guard _ _

theorem normal_assignFrame (kv : List (Name × γ)) (F : Frame γ) : Normal (assignFrame kv F) := normal_guard _ _

theorem find?_none_of_contains_false {α : Type} (f : α → Name) (l : List α) (c : Name) (h : (l.map f).contains c = false) :
    l.find? (fun x => f x == c) = none :=
  find?_none_of_not_mem_map f l c (fun hm => Bool.eq_false_iff.mp h (List.contains_iff_mem.mpr hm))

theorem normal_renameFrame (m : List (Name × Name)) (F : Frame γ) : Normal (renameFrame m F) := by
  intro c hc
  simp only [renameFrame, find?_none_of_contains_false (renameFwd m) F.cols c hc]

theorem normal_mergeFrame (I : Interp γ ι) (how : Nat) (m : MergeP) (A B : Frame γ) : Normal (mergeFrame I how m A B) := by
  intro c hc
  obtain ⟨h1, h2⟩ := Bool.or_eq_false_iff.mp (List.contains_append.symm.trans hc)
  simp only [mergeFrame, find?_none_of_contains_false _ _ c h1, find?_none_of_contains_false _ _ c h2]

theorem normal_concatFrame (I : Interp γ ι) (inner : Bool) (Fs : List (Frame γ)) : Normal (concatFrame I inner Fs) :=
  normal_select _ _

/-! ### the operator structures -/

/-- elementwise operations (Abs, Neg, `+ k`, `> k`) and Filter for a fixed predicate column -/
def mapK (f : γ → γ) : KeyedOp γ where
  keys := []
  outCols := id
  op := mapFrame f
  T := fun _ _ x => x.map f
  fresh := fun _ => none
  T_keys := fun _ _ _ => rfl
  op_cols := fun _ => rfl
  op_val := by intro F c hc; simp only [mapFrame, hc, if_true]
  op_fresh := by intro F c hc; simp only [mapFrame, hc, Bool.false_eq_true, if_false]

theorem mapK_id (f : γ → γ) (l : List Name) : (mapK f).outCols l = l := rfl

def srcS (I : Interp γ ι) (l : SrcLit) : SourceOp γ := SourceOp.ofData (I.data l.tid)

def binB (g : γ → γ → γ) : BinOp γ where
  op := binFrame g
  g := fun _ => bin2 g
  outCols := fun a _ => a
  op_cols := fun _ _ => rfl
  op_val := fun _ _ _ => rfl

theorem mem_assignCols {keys frame : List Name} {c : Name} : c ∈ assignCols keys frame ↔ c ∈ frame ∨ c ∈ keys :=
  mem_assignLabels

theorem contains_eq_of_mem_iff {a b : List Name} {c : Name} (h : c ∈ a ↔ c ∈ b) : a.contains c = b.contains c :=
  Bool.eq_iff_iff.mpr (List.contains_iff_mem.trans (h.trans List.contains_iff_mem.symm))

/-- the assignment as `AssignOp` states it: no restriction of the columns to the labels -/
def assignRaw (kv : List (Name × γ)) (F : Frame γ) : Frame γ :=
  ⟨assignCols (kv.map (·.1)) F.cols, fun c =>
    if (kv.map (·.1)).contains c then (kv.reverse.find? (fun e => e.1 == c)).map (·.2) else F.val c⟩

def assignA : AssignOp γ := AssignOp.std

theorem assignFrame_val (kv : List (Name × γ)) (F : Frame γ) (c : Name) (hc : c ∈ assignCols (kv.map (·.1)) F.cols) :
    (assignFrame kv F).val c = (assignRaw kv F).val c :=
  if_pos (List.contains_iff_mem.mpr hc)

def renameR (m : List (Name × Name)) : RelabelOp γ := RelabelOp.ofFun (renameFwd m)

/-- row-wise concatenation with a fixed label list: every label's stacked column -/
def concatC (I : Interp γ ι) (cols : List Name) : ConcatOp γ := ConcatOp.ofStack (fun _ => cols) I.stack

/-- the fragment's join is the `MergeOp` of its row matching -/
def mergeM (I : Interp γ ι) (how : Nat) (m : MergeP) : MergeOp γ := MergeOp.ofJoin m (I.joinL how) (I.joinR how)

theorem mergeM_op (I : Interp γ ι) (how : Nat) (m : MergeP) : (mergeM I how m).op = mergeFrame I how m := rfl
theorem mergeM_m (I : Interp γ ι) (how : Nat) (m : MergeP) : (mergeM I how m).m = m := rfl

/-! ### what the nodes denote -/

theorem semOp_eq {I : Interp γ ι} {o : Op} {vs : List (FVal γ)} {s : Schema}
    (h : schOp o (vs.map FVal.sch) = some s) (hc : (frameOp I o vs).cols = s.cols) (hn : Normal (frameOp I o vs)) :
    semOp I o vs = some ⟨frameOp I o vs, s.ser⟩ := by
  rw [semOp_of_sch h, ← hc, select_self hn]

/-- the shape of every per-class characterisation: the labels are accepted iff `cond`, and then the node denotes
    what `frameOp` computes -/
theorem semOp_iff {I : Interp γ ι} {o : Op} {vs : List (FVal γ)} {cond : Bool} {s : Schema}
    (hsch : schOp o (vs.map FVal.sch) = if cond = true then some s else none)
    (hc : cond = true → (frameOp I o vs).cols = s.cols) (hn : Normal (frameOp I o vs)) (v : FVal γ) :
    semOp I o vs = some v ↔ cond = true ∧ v = ⟨frameOp I o vs, s.ser⟩ := by
  cases cond with
  | true => rw [semOp_eq hsch (hc rfl) hn, Option.some.injEq, eq_comm, and_iff_right rfl]
  | false =>
    rw [Option.map_eq_none_iff.mp ((semOp_sch I o vs).trans hsch)]
    exact ⟨nofun, fun h => nomatch h.1⟩

theorem semOp_elem (I : Interp γ ι) (op : Nat) (F : FVal γ) :
    semOp I (.elem op) [F] = some ⟨mapFrame (I.un op) F.fr, F.ser⟩ :=
  semOp_eq (s := F.sch) rfl rfl (normal_mapFrame _ _)

theorem semOp_bink (I : Interp γ ι) (op k : Nat) (F : FVal γ) :
    semOp I (.bink op k) [F] = some ⟨mapFrame (I.bink op k) F.fr, F.ser⟩ :=
  semOp_eq (s := F.sch) rfl rfl (normal_mapFrame _ _)

theorem semOp_filter_iff (I : Interp γ ι) (F P v : FVal γ) :
    semOp I .filter [F, P] = some v ↔ P.ser = true ∧ v = ⟨mapFrame (I.mask (P.col I)) F.fr, F.ser⟩ :=
  semOp_iff (I := I) (o := .filter) (vs := [F, P]) (cond := P.ser) (s := F.sch) rfl (fun _ => rfl) (normal_mapFrame _ _) v

theorem semOp_filter (I : Interp γ ι) (F P : FVal γ) (hP : P.ser = true) :
    semOp I .filter [F, P] = some ⟨mapFrame (I.mask (P.col I)) F.fr, F.ser⟩ :=
  (semOp_filter_iff I F P _).mpr ⟨hP, rfl⟩

theorem semOp_filter_some {I : Interp γ ι} {F P v : FVal γ} (h : semOp I .filter [F, P] = some v) :
    P.ser = true ∧ v = ⟨mapFrame (I.mask (P.col I)) F.fr, F.ser⟩ :=
  (semOp_filter_iff I F P v).mp h

/-- `Sel.one` gives a Series -/
def _root_.Dx.Cols.Sel.isOne : Sel → Bool
  | .one _ => true
  | .many _ => false

theorem subsetB_iff {a b : List Name} : subsetB a b = true ↔ ∀ c, c ∈ a → c ∈ b := by
  simp only [subsetB, List.all_eq_true, List.contains_iff_mem]

/-- the labels of a projection, both forms of selector at once -/
theorem schOp_proj (sel : Sel) (s : Schema) : schOp (.proj sel) [s] =
    if (!s.ser && decide sel.toList.Nodup && subsetB sel.toList s.cols) = true then some ⟨sel.toList, Sel.isOne sel⟩
    else none := by
  cases sel with
  | many cs => rfl
  | one c =>
    show (if (!s.ser && s.cols.contains c) = true then _ else _) = _
    simp only [Sel.toList, Sel.isOne, List.Nodup, List.pairwise_singleton, decide_true, subsetB, List.all_cons,
      List.all_nil, Bool.and_true]

/-- a projection is defined iff it selects duplicate-free existing labels of a frame; it denotes the selection -/
theorem semOp_proj_iff (I : Interp γ ι) (sel : Sel) (F v : FVal γ) :
    semOp I (.proj sel) [F] = some v ↔
      F.ser = false ∧ sel.toList.Nodup ∧ (∀ c, c ∈ sel.toList → c ∈ F.fr.cols) ∧
        v = ⟨F.fr.select sel.toList, Sel.isOne sel⟩ := by
  refine (semOp_iff (I := I) (o := .proj sel) (vs := [F]) (schOp_proj sel F.sch) (fun _ => rfl)
    (normal_select _ _) v).trans ?_
  simp only [Bool.and_eq_true, Bool.not_eq_true', decide_eq_true_eq, subsetB_iff, and_assoc]
  rfl

end Dx.Frag

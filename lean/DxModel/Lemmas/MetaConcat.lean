/-
  Lemmas/MetaConcat.lean — Concat: every output partition (passed through, or re-indexed against the declared meta by
  `methods.concat([meta, part])`) carries the declared schema.
-/
import DxModel.Meta
import DxModel.Lemmas.Meta
namespace Dx.Meta

/-! ### index levels: `mergeLvl` is associative, commutative, idempotent -/

theorem mergeLvl_idem (a : Lvl) : mergeLvl a a = a := by
  obtain ⟨n, k⟩ := a
  simp [mergeLvl, Kind.join_idem]

theorem mergeLvl_comm (a b : Lvl) : mergeLvl a b = mergeLvl b a := by
  obtain ⟨n, k⟩ := a
  obtain ⟨n', k'⟩ := b
  simp only [mergeLvl, Kind.join_comm k k']
  by_cases h : n = n'
  · subst h; rfl
  · have h' : ¬ n' = n := fun e => h e.symm
    simp [h, h']

theorem mergeLvl_assoc (a b c : Lvl) : mergeLvl (mergeLvl a b) c = mergeLvl a (mergeLvl b c) := by
  obtain ⟨n, k⟩ := a
  obtain ⟨n', k'⟩ := b
  obtain ⟨n'', k''⟩ := c
  simp only [mergeLvl, Kind.join_assoc]
  congr 1
  by_cases h1 : n = n'
  · subst h1
    by_cases h2 : n = n''
    · subst h2; simp
    · simp only [beq_self_eq_true, if_true, h2, beq_iff_eq, if_false]
      cases n <;> simp
  · by_cases h2 : n' = n''
    · subst h2; simp [h1]
    · simp only [beq_iff_eq, h1, if_false, h2]
      cases n'' <;> cases n <;> simp

/-- the index `pd.concat` gives two inputs stacked row-wise: level by level; `commonIdx` is its fold over all inputs, so
    the laws below say that the common index absorbs the index of every input -/
abbrev stackIdx (a b : List Lvl) : List Lvl := List.zipWith mergeLvl a b

theorem stackIdx_idem : ∀ (a : List Lvl), stackIdx a a = a
  | [] => rfl
  | x :: t => by simp [stackIdx, mergeLvl_idem]

theorem stackIdx_comm (a b : List Lvl) : stackIdx a b = stackIdx b a := List.zipWith_comm_of_comm mergeLvl_comm

theorem stackIdx_assoc : ∀ (a b c : List Lvl), stackIdx (stackIdx a b) c = stackIdx a (stackIdx b c)
  | [], _, _ => by simp [stackIdx]
  | _ :: _, [], _ => by simp [stackIdx]
  | _ :: _, _ :: _, [] => by simp [stackIdx]
  | x :: t, y :: u, z :: v => by
    simp only [stackIdx, List.zipWith_cons_cons, mergeLvl_assoc]
    congr 1
    exact stackIdx_assoc t u v

/-- absorption survives further folding -/
theorem foldl_absorb : ∀ (t : List (List Lvl)) (x p : List Lvl), stackIdx x p = x → stackIdx (t.foldl stackIdx x) p = t.foldl stackIdx x
  | [], _, _, h => h
  | c :: t, x, p, h => by
    rw [List.foldl_cons]
    apply foldl_absorb t
    rw [stackIdx_assoc, stackIdx_comm c p, ← stackIdx_assoc, h]

/-- the common index absorbs the index of every input -/
theorem commonIdx_absorb : ∀ (i : List Lvl) (is : List (List Lvl)) (p : List Lvl), p ∈ i :: is →
    stackIdx (commonIdx (i :: is)) p = commonIdx (i :: is)
  | i, [], p, hp => by
    have : p = i := by simpa using hp
    subst this
    exact stackIdx_idem p
  | i, b :: t, p, hp => by
    show stackIdx ((b :: t).foldl stackIdx i) p = (b :: t).foldl stackIdx i
    rw [List.foldl_cons]
    rcases List.mem_cons.mp hp with rfl | hp'
    · apply foldl_absorb
      rw [stackIdx_comm p b, stackIdx_assoc, stackIdx_idem]
    · rcases List.mem_cons.mp hp' with rfl | hp''
      · apply foldl_absorb
        rw [stackIdx_assoc, stackIdx_idem]
      · exact commonIdx_absorb (stackIdx i b) t p (List.mem_cons_of_mem _ hp'')

theorem commonIdx_pair (a b : List Lvl) : commonIdx [a, b] = stackIdx a b := rfl

theorem lvls_eq_of_names_kinds : ∀ (a b : List Lvl), lvlNames a = lvlNames b → lvlKinds a = lvlKinds b → a = b
  | [], [], _, _ => rfl
  | [], _ :: _, h, _ => by simp [lvlNames] at h
  | _ :: _, [], h, _ => by simp [lvlNames] at h
  | (n, k) :: t, (n', k') :: u, h1, h2 => by
    simp only [lvlNames, List.map_cons, List.cons.injEq] at h1
    simp only [lvlKinds, List.map_cons, List.cons.injEq] at h2
    rw [h1.1, h2.1, lvls_eq_of_names_kinds t u h1.2 h2.2]

theorem seriesName_some {names : List (Option Name)} {x : Name} (h : seriesName names = some x) :
    ∀ n, n ∈ names → n = some x := by
  cases names with
  | nil => simp [seriesName] at h
  | cons a t =>
    simp only [seriesName] at h
    by_cases hall : t.all (· == a) = true
    · rw [if_pos hall] at h
      subst h
      intro n hn
      rcases List.mem_cons.mp hn with rfl | hn'
      · rfl
      · have := List.all_eq_true.mp hall n hn'
        simpa using this
    · rw [if_neg hall] at h; cases h

theorem seriesName_pair (mn pn : Option Name) (names : List (Option Name)) (hm : mn = seriesName names) (hp : pn ∈ names) :
    seriesName [mn, pn] = mn := by
  simp only [seriesName, List.all_cons, List.all_nil, Bool.and_true]
  cases hmn : mn with
  | none => simp
  | some x =>
    have := seriesName_some (hm ▸ hmn) pn hp
    rw [this]
    simp

theorem labels_castTo (m pc : List Col) : labels (castTo m pc) = labels pc := by
  unfold castTo labels
  rw [List.map_map]
  apply List.map_congr_left
  intro c _
  simp only [Function.comp]
  cases m.lookup c.1 <;> rfl

theorem lookup_none_iff (cols : List Col) (c : Name) : cols.lookup c = none ↔ c ∉ labels cols := by
  rw [List.lookup_eq_none_iff, labels, List.mem_map]
  exact ⟨fun h ⟨p, hp, e⟩ => by simpa [e] using h p hp, fun h p hp => by simpa using fun e => h ⟨p, hp, e.symm⟩⟩

theorem lookup_some_mem {cols : List Col} {c : Name} {k : Kind} (h : cols.lookup c = some k) : c ∈ labels cols := by
  by_cases hm : c ∈ labels cols
  · exact hm
  · rw [(lookup_none_iff cols c).mpr hm] at h; cases h

theorem lookup_mapKinds (g : Name → Kind → Kind) : ∀ (l : List Col) (y : Name),
    (l.map (fun c => (c.1, g c.1 c.2))).lookup y = (l.lookup y).map (g y)
  | [], _ => rfl
  | (n, k) :: t, y => by
    rw [List.map_cons, List.lookup_cons, List.lookup_cons]
    cases hb : (y == n) with
    | true => cases eq_of_beq hb; rfl
    | false => exact lookup_mapKinds g t y

/-- looking a label up in the cast partition: present exactly when the partition has it, with the declared kind when
    the declaration has the label -/
theorem lookup_castTo (m pc : List Col) (c : Name) :
    (castTo m pc).lookup c = (pc.lookup c).map (fun k => match m.lookup c with | some k' => k' | none => k) := by
  rw [← lookup_mapKinds (fun n k => match m.lookup n with | some k' => k' | none => k)]
  unfold castTo
  congr 1
  exact List.map_congr_left (fun x _ => by cases m.lookup x.1 <;> rfl)

theorem castTo_eq_of_labels (m : List Col) (hn : (labels m).Nodup) (pc : List Col) (hl : labels pc = labels m) :
    castTo m pc = m := by
  -- both are the declared labels, each with the kind the declaration gives it
  have h1 : castTo m pc = (labels pc).map (fun n => (n, (m.lookup n).getD .obj)) := by
    unfold castTo labels
    rw [List.map_map]
    refine List.map_congr_left (fun c hc => ?_)
    have : c.1 ∈ labels m := hl ▸ List.mem_map_of_mem hc
    cases hk : m.lookup c.1 with
    | none => exact absurd this ((lookup_none_iff m c.1).mp hk)
    | some k => simp only [Function.comp, hk, Option.getD_some]
  have h2 : (labels m).map (fun n => (n, (m.lookup n).getD .obj)) = m.map id := by
    unfold labels
    rw [List.map_map]
    exact List.map_congr_left (fun c hc => by simp only [Function.comp, lookup_of_mem_nodup hn c hc, Option.getD_some, id])
  rw [h1, hl, h2, List.map_id]

/-- some (outer) / every (inner) input has the label `y` -/
def presentIn (inner : Bool) (cs : List (List Col)) (y : Name) : Bool :=
  if inner then !cs.isEmpty && cs.all (fun f => (labels f).contains y) else cs.any (fun f => (labels f).contains y)

/-- the stacked kind of `y`, promoted when an input lacks it -/
def kindIn (cs : List (List Col)) (y : Name) : Kind :=
  if cs.all (fun f => (labels f).contains y) then stackKind cs y else (stackKind cs y).na

theorem lookup_ofLabels (g : Name → Kind) : ∀ (names : List Name) (y : Name),
    (names.map (fun c => (c, g c))).lookup y = if names.contains y then some (g y) else none
  | [], _ => rfl
  | n :: t, y => by
    simp only [List.map_cons, List.lookup_cons, List.contains_cons]
    cases hb : (y == n) with
    | true =>
      have : y = n := by simpa using hb
      subst this
      simp
    | false => simp only [Bool.false_or]; exact lookup_ofLabels g t y

theorem lookup_setKinds (g : Name → Kind) (l : List Col) (y : Name) :
    (l.map (fun c => (c.1, g c.1))).lookup y = if (labels l).contains y then some (g y) else none := by
  rw [← lookup_ofLabels g (labels l) y, labels, List.map_map]
  rfl

theorem contains_unionNames (frames : List (List Col)) (y : Name) : (unionNames frames).contains y = frames.any (fun f => (labels f).contains y) := by
  apply Bool.eq_iff_iff.mpr
  rw [List.contains_iff_mem, unionNames, mem_foldl_union]
  simp only [List.not_mem_nil, false_or, List.mem_flatten, List.mem_map, List.any_eq_true]
  constructor
  · rintro ⟨l, ⟨f, hf, rfl⟩, hy⟩
    exact ⟨f, hf, List.contains_iff_mem.mpr hy⟩
  · rintro ⟨f, hf, hy⟩
    exact ⟨labels f, ⟨f, hf, rfl⟩, List.contains_iff_mem.mp hy⟩

theorem labels_filter (f : List Col) (pred : Name → Bool) : labels (f.filter (fun c => pred c.1)) = (labels f).filter pred := by
  unfold labels
  rw [List.filter_map]
  rfl

/-- the column of a row-wise concat under label `y`: present iff some (outer) / every (inner) input has it, with the
    stacked kind, promoted when an input lacks it -/
theorem rowCols_lookup (inner : Bool) : ∀ (cs : List (List Col)) (y : Name),
    (rowCols inner cs).lookup y = if presentIn inner cs y then some (kindIn cs y) else none
  | [], y => by cases inner <;> rfl
  | f :: fs, y => by
    -- the three branches of `rowCols`: identical label lists, inner, outer
    simp only [rowCols]
    by_cases hid : fs.all (fun g => labels g == labels f) = true
    · -- all inputs have the labels of the first: "some input has `y`" and "every input has `y`" say that it has
      rw [if_pos hid, lookup_setKinds]
      have hsame : ∀ g, g ∈ fs → (labels g).contains y = (labels f).contains y := fun g hg => by
        rw [beq_iff_eq.mp (List.all_eq_true.mp hid g hg)]
      have hall : (f :: fs).all (fun g => (labels g).contains y) = (labels f).contains y := by
        rw [List.all_cons]
        cases hyf : (labels f).contains y with
        | false => rfl
        | true => exact List.all_eq_true.mpr (fun g hg => (hsame g hg).trans hyf)
      have hany : (f :: fs).any (fun g => (labels g).contains y) = (labels f).contains y := by
        rw [List.any_cons]
        cases hyf : (labels f).contains y with
        | true => rfl
        | false =>
          refine Bool.eq_false_iff.mpr (fun h => ?_)
          obtain ⟨g, hg, hh⟩ := List.any_eq_true.mp h
          rw [hsame g hg, hyf] at hh
          cases hh
      have hpres : presentIn inner (f :: fs) y = (labels f).contains y := by
        cases inner with
        | true => simp only [presentIn, if_true, List.isEmpty_cons, Bool.not_false, Bool.true_and, hall]
        | false => simp only [presentIn, Bool.false_eq_true, if_false, hany]
      rw [hpres, kindIn, hall]
      cases (labels f).contains y <;> rfl
    · rw [if_neg hid]
      cases inner with
      | true =>
        simp only [if_true, interCols]
        rw [lookup_setKinds, labels_filter f (fun c => fs.all (fun g => (labels g).contains c)), contains_filter_eq]
        have hpres : presentIn true (f :: fs) y = ((labels f).contains y && fs.all (fun g => (labels g).contains y)) := by
          simp only [presentIn, if_true, List.isEmpty_cons, Bool.not_false, Bool.true_and, List.all_cons]
        rw [hpres]
        by_cases hp : ((labels f).contains y && fs.all (fun g => (labels g).contains y)) = true
        · rw [if_pos hp, if_pos hp]
          simp only [kindIn, List.all_cons, hp, if_true]
        · rw [if_neg hp, if_neg hp]
      | false =>
        simp only [Bool.false_eq_true, if_false, unionCols]
        have := lookup_ofLabels (fun c => if (f :: fs).all (fun g => (labels g).contains c) then stackKind (f :: fs) c
            else (stackKind (f :: fs) c).na) (unionNames (f :: fs)) y
        rw [this, contains_unionNames]
        simp only [presentIn, Bool.false_eq_true, if_false, kindIn]

/-- a declared column that this input lacks is filled with missing values, and its declared kind already says so -/
theorem rowCols_na (inner : Bool) {cs : List (List Col)} (hn : (labels (rowCols inner cs)).Nodup) {c : Col}
    (hc : c ∈ rowCols inner cs) {pc : List Col} (hp : pc ∈ cs) (hl : pc.lookup c.1 = none) : c.2.na = c.2 := by
  have h := lookup_of_mem_nodup hn c hc
  rw [rowCols_lookup] at h
  by_cases hpres : presentIn inner cs c.1 = true
  · rw [if_pos hpres] at h
    have hnot : cs.all (fun f => (labels f).contains c.1) = false :=
      Bool.eq_false_iff.mpr (fun hall => (lookup_none_iff pc c.1).mp hl
        (List.contains_iff_mem.mp (List.all_eq_true.mp hall pc hp)))
    rw [← Option.some.inj h, kindIn, hnot]
    exact Kind.na_idem _
  · rw [if_neg hpres] at h
    cases h

/-- re-indexing the cast partition against the declared columns gives the declared columns -/
theorem stack_cols (m pc : List Col) (hn : (labels m).Nodup)
    (hna : ∀ c, c ∈ m → pc.lookup c.1 = none → c.2.na = c.2) :
    m.map (fun c => (c.1, fillKind c.2 ((castTo m pc).lookup c.1))) = m := by
  have : ∀ c, c ∈ m → (c.1, fillKind c.2 ((castTo m pc).lookup c.1)) = c := by
    intro c hc
    rw [lookup_castTo, lookup_of_mem_nodup hn c hc]
    cases hp : pc.lookup c.1 with
    | none => simp only [Option.map_none, fillKind]; rw [hna c hc hp]
    | some k => simp only [Option.map_some, fillKind, Kind.join_idem]
  calc m.map _ = m.map id := List.map_congr_left this
    _ = m := List.map_id m

/-! ### which input a partition comes from -/

theorem frameParts_eq_some : ∀ {ss : List Sch} {fr : List (List Col × List Lvl)},
    frameParts ss = some fr → ss = fr.map (fun p => .frame p.1 p.2)
  | [], _, h => by cases h; rfl
  | .frame c i :: t, fr, h => by
    rw [frameParts] at h
    cases ht : frameParts t with
    | none => rw [ht] at h; cases h
    | some fr' => rw [ht] at h; cases h; rw [List.map_cons, ← frameParts_eq_some ht]
  | .series _ _ _ :: _, _, h => by cases h
  | .index _ :: _, _, h => by cases h
  | .scalar _ :: _, _, h => by cases h
  | .bad :: _, _, h => by cases h

theorem seriesParts_eq_some : ∀ {ss : List Sch} {sr : List (Option Name × Kind × List Lvl)},
    seriesParts ss = some sr → ss = sr.map (fun p => .series p.1 p.2.1 p.2.2)
  | [], _, h => by cases h; rfl
  | .series n k i :: t, sr, h => by
    rw [seriesParts] at h
    cases ht : seriesParts t with
    | none => rw [ht] at h; cases h
    | some sr' => rw [ht] at h; cases h; rw [List.map_cons, ← seriesParts_eq_some ht]
  | .frame _ _ :: _, _, h => by cases h
  | .index _ :: _, _, h => by cases h
  | .scalar _ :: _, _, h => by cases h
  | .bad :: _, _, h => by cases h

theorem frameParts_mem {ss : List Sch} {fr : List (List Col × List Lvl)} (h : frameParts ss = some fr) (s : Sch)
    (hs : s ∈ ss) : ∃ pc pi, s = .frame pc pi ∧ (pc, pi) ∈ fr := by
  rw [frameParts_eq_some h] at hs
  obtain ⟨p, hp, rfl⟩ := List.mem_map.mp hs
  exact ⟨p.1, p.2, rfl, hp⟩

theorem seriesParts_mem {ss : List Sch} {sr : List (Option Name × Kind × List Lvl)} (h : seriesParts ss = some sr) (s : Sch)
    (hs : s ∈ ss) : ∃ pn pk pi, s = .series pn pk pi ∧ (pn, pk, pi) ∈ sr := by
  rw [seriesParts_eq_some h] at hs
  obtain ⟨p, hp, rfl⟩ := List.mem_map.mp hs
  exact ⟨p.1, p.2.1, p.2.2, rfl, hp⟩

theorem commonIdx_absorb_mem (idxs : List (List Lvl)) (p : List Lvl) (hp : p ∈ idxs) :
    commonIdx [commonIdx idxs, p] = commonIdx idxs := by
  cases idxs with
  | nil => cases hp
  | cons i is => rw [commonIdx_pair]; exact commonIdx_absorb i is p hp

/-- one output partition of a row-wise Concat (the body of `taskConcat`: cast to the declared kinds, passed through
    when `check_meta` holds, otherwise re-stacked onto the declared meta) has the declared schema -/
theorem concat_part_declared (inner : Bool) (ss : List Sch) (s : Sch) (hs : s ∈ ss)
    (hnd : nodupLabels (pConcatRows inner ss) = true)
    (hk : idxKindsOk (pConcatRows inner ss) s = true) :
    (let part := castPart (pConcatRows inner ss) s
     if checkMeta part (pConcatRows inner ss) then part else pStack (pConcatRows inner ss) part) =
      pConcatRows inner ss := by
  have hne : ss.isEmpty = false := by
    cases ss with
    | nil => cases hs
    | cons a t => rfl
  unfold pConcatRows at hnd hk ⊢
  simp only [hne, Bool.false_eq_true, if_false] at hnd hk ⊢
  cases hfp : frameParts ss with
  | some fr =>
    simp only [hfp] at hnd hk ⊢
    obtain ⟨pc, pi, rfl, hmem⟩ := frameParts_mem hfp s hs
    have hpc : pc ∈ fr.map (·.1) := List.mem_map.mpr ⟨_, hmem, rfl⟩
    have hpi : pi ∈ fr.map (·.2) := List.mem_map.mpr ⟨_, hmem, rfl⟩
    have hn : (labels (rowCols inner (fr.map (·.1)))).Nodup := by simpa [nodupLabels] using hnd
    simp only [castPart, checkMeta, labels_castTo]
    by_cases hchk : (labels pc == labels (rowCols inner (fr.map (·.1))) &&
        lvlNames pi == lvlNames (commonIdx (fr.map (·.2)))) = true
    · rw [if_pos hchk]
      simp only [Bool.and_eq_true, beq_iff_eq] at hchk
      have hkk : lvlKinds (commonIdx (fr.map (·.2))) = lvlKinds pi := by simpa [idxKindsOk] using hk
      rw [castTo_eq_of_labels _ hn pc hchk.1, lvls_eq_of_names_kinds pi _ hchk.2 hkk.symm]
    · rw [if_neg hchk]
      simp only [pStack]
      rw [stack_cols _ pc hn (fun c hc hl => rowCols_na inner hn hc hpc hl), commonIdx_absorb_mem _ pi hpi]
  | none =>
    clear hnd
    simp only [hfp] at hk ⊢
    generalize hsp : seriesParts ss = osr at hk ⊢
    cases osr with
    | some sr =>
      simp only at hk ⊢
      obtain ⟨pn, pk, pi, rfl, hmem⟩ := seriesParts_mem hsp s hs
      have hpn : pn ∈ sr.map (·.1) := List.mem_map.mpr ⟨_, hmem, rfl⟩
      have hpi : pi ∈ sr.map (·.2.2) := List.mem_map.mpr ⟨_, hmem, rfl⟩
      simp only [castPart]
      by_cases hchk : checkMeta (.series pn (joinOr (sr.map (·.2.1))) pi)
          (.series (seriesName (sr.map (·.1))) (joinOr (sr.map (·.2.1))) (commonIdx (sr.map (·.2.2)))) = true
      · simp only [hchk, if_true]
        simp only [checkMeta, Bool.and_eq_true, beq_iff_eq] at hchk
        have hkk : lvlKinds (commonIdx (sr.map (·.2.2))) = lvlKinds pi := by simpa [idxKindsOk] using hk
        rw [hchk.1, lvls_eq_of_names_kinds pi _ hchk.2 hkk.symm]
      · simp only [hchk, Bool.false_eq_true, if_false]
        simp only [pStack]
        rw [seriesName_pair _ pn _ rfl hpn, commonIdx_absorb_mem _ pi hpi, Kind.join_idem]
    | none =>
      simp only
      cases s <;> rfl

/-! ### D99: the index names all inputs agree on are the names pandas gives (when no RangeIndex stand-in interferes) -/

theorem lvlNames_stackIdx (a b : List Lvl) : lvlNames (stackIdx a b) = List.zipWith meetName (lvlNames a) (lvlNames b) := by
  unfold lvlNames stackIdx
  rw [List.map_zipWith, List.zipWith_map]
  rfl

theorem lvlNames_foldl : ∀ (is : List (List Lvl)) (i : List Lvl),
    lvlNames (is.foldl stackIdx i) = (is.map lvlNames).foldl (List.zipWith meetName) (lvlNames i)
  | [], _ => rfl
  | b :: t, i => by
    rw [List.foldl_cons, List.map_cons, List.foldl_cons, lvlNames_foldl t (stackIdx i b), lvlNames_stackIdx]

theorem lvlNames_commonIdx (i : List Lvl) (is : List (List Lvl)) :
    lvlNames (commonIdx (i :: is)) = commonNames ((i :: is).map lvlNames) := by
  show lvlNames (is.foldl stackIdx i) = _
  rw [lvlNames_foldl]
  rfl

theorem setNames_self (idx : List Lvl) : setNames idx (lvlNames idx) = idx := by
  unfold setNames lvlNames
  rw [List.zipWith_map_right, List.zipWith_self]
  exact List.map_id' idx

theorem allIdx_map {α : Type} (g : α → Sch) (ix : α → List Lvl) (hg : ∀ a, idxOf (g a) = some (ix a)) :
    ∀ (l : List α), allIdx (l.map g) = some (l.map ix)
  | [] => rfl
  | a :: t => by simp only [List.map_cons, allIdx, hg, allIdx_map g ix hg t]

theorem allIdx_frames {ss : List Sch} {fr : List (List Col × List Lvl)} (h : frameParts ss = some fr) :
    allIdx ss = some (fr.map (·.2)) := by
  rw [frameParts_eq_some h]
  exact allIdx_map _ _ (fun _ => rfl) fr

theorem allIdx_series {ss : List Sch} {sr : List (Option Name × Kind × List Lvl)} (h : seriesParts ss = some sr) :
    allIdx ss = some (sr.map (·.2.2)) := by
  rw [seriesParts_eq_some h]
  exact allIdx_map _ _ (fun _ => rfl) sr

theorem setNames_commonIdx (idxs : List (List Lvl)) (hne : idxs ≠ []) :
    setNames (commonIdx idxs) (commonNames (idxs.map lvlNames)) = commonIdx idxs := by
  cases idxs with
  | nil => exact absurd rfl hne
  | cons i is => rw [← lvlNames_commonIdx, setNames_self]

/-- with every input taking part in the declaration, the override changes nothing -/
theorem overrideNames_id (inner : Bool) (ss : List Sch) : overrideNames (pConcatRows inner ss) ss = pConcatRows inner ss := by
  cases hss : ss with
  | nil => rfl
  | cons s0 t =>
    rw [← hss]
    have hne : ss.isEmpty = false := by rw [hss]; rfl
    unfold pConcatRows
    simp only [hne, Bool.false_eq_true, if_false]
    cases hfp : frameParts ss with
    | some fr =>
      simp only [overrideNames, allIdx_frames hfp]
      have hfr : fr.map (·.2) ≠ [] := fun h0 => by
        have := frameParts_eq_some hfp
        rw [List.map_eq_nil_iff.mp h0, hss] at this
        cases this
      split
      · rw [setNames_commonIdx _ hfr]
      · rfl
    | none =>
      simp only
      cases hsp : seriesParts ss with
      | some sr =>
        simp only [overrideNames, allIdx_series hsp]
        have hsr : sr.map (·.2.2) ≠ [] := fun h0 => by
          have := seriesParts_eq_some hsp
          rw [List.map_eq_nil_iff.mp h0, hss] at this
          cases this
        split
        · rw [setNames_commonIdx _ hsr]
        · rfl
      | none =>
        simp only [overrideNames]
        cases allIdx ss <;> rfl

/-- a row-wise Concat whose inputs all have columns declares `pd.concat` of all of them -/
theorem declConcat_rows_all (i : Bool) (ss : List Sch) (h : ss.all hasColumns = true) :
    declConcat false i ss = pConcatRows i ss := by
  unfold declConcat
  simp only [Bool.false_eq_true, if_false, List.filter_eq_self.mpr (List.all_eq_true.mp h), overrideNames_id]

/-- the partition of a row-wise Concat: it comes from one of the inputs, and is cast and, if need be, re-stacked to
    the declared schema -/
theorem taskConcat_rows (i : Bool) (rt : Rt) (ss : List Sch) (hnd : nodupLabels (pConcatRows i ss) = true)
    (hk : ∀ s, s ∈ ss → idxKindsOk (pConcatRows i ss) s = true) :
    taskConcat false i rt (pConcatRows i ss) ss = pConcatRows i ss := by
  unfold taskConcat
  simp only [Bool.false_eq_true, if_false]
  cases hss : ss with
  | nil => rfl
  | cons s0 t =>
    rw [← hss]
    have hidx : rt.which % ss.length < ss.length := Nat.mod_lt _ (by rw [hss]; exact Nat.succ_pos _)
    rw [List.getElem?_eq_getElem hidx]
    exact concat_part_declared i ss _ (List.getElem_mem hidx) hnd (hk _ (List.getElem_mem hidx))

end Dx.Meta

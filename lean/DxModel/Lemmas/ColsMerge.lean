/-
  Lemmas/ColsMerge.lean — closed forms of the two loops of Merge._simplify_up and what the pushed lists contain
-/
import DxModel.Cols
import DxModel.Lemmas.Cols
import DxModel.Lemmas.ColsSem
namespace Dx.Cols

/-! The two loops of `Merge._simplify_up` as four tests on a column `c` (`A`, `B`: left loop over the left schema;
`H`, `G`: right loop over the right schema): `mA` the left column is pushed left, `mB` its namesake is pushed right as
collision partner, `mH` the right column is pushed right, `mG` its namesake is pushed left as collision partner.
`mB_iff`, `mG_iff`, `mH_iff` list the conditions in the order of the code. -/

/-- left loop: a left column is kept -/
def mA (m : MergeP) (proj : List Name) (c : Name) : Bool :=
  m.leftOn.contains c || proj.contains c || proj.contains (c ++ m.ls)

/-- left loop: a right column is kept as the collision partner of a suffixed left column -/
def mB (m : MergeP) (R proj : List Name) (c : Name) : Bool :=
  !(m.leftOn.contains c || proj.contains c) && proj.contains (c ++ m.ls) && R.contains c

theorem snoc_if_append (b : Bool) (l t : List Name) (x : Name) :
    (if b then l ++ [x] else l) ++ t = l ++ if b then x :: t else t := by
  cases b
  · rfl
  · exact List.append_assoc l [x] t

theorem contains_snoc_if_ne (b : Bool) {l : List Name} {x col : Name} (h : x ≠ col) :
    (if b then l ++ [col] else l).contains x = l.contains x := by
  cases b
  · rfl
  · rw [if_pos rfl, List.contains_append, List.contains_cons, beq_false_of_ne h]
    exact Bool.or_false _

/-- one round of the left loop, its three branches read as two independent decisions (`kp`: key or requested, `s`: the
    suffixed label is requested, `r`: the right side has the column too) -/
theorem leftStep {β : Type} (kp s r : Bool) (f : List Name × List Name → β) (pl pr : List Name) (col : Name) :
    (if kp then f (pl ++ [col], pr) else if s then f (pl ++ [col], if r then pr ++ [col] else pr) else f (pl, pr)) =
      f (if kp || s then pl ++ [col] else pl, if !kp && s && r then pr ++ [col] else pr) := by
  cases kp
  · cases s
    · rfl
    · cases r <;> rfl
  · rfl

theorem leftPass_eq (m : MergeP) (R proj l pl pr : List Name) :
    mergeLeftPass m R proj l (pl, pr) = (pl ++ l.filter (mA m proj), pr ++ l.filter (mB m R proj)) := by
  induction l generalizing pl pr with
  | nil => rw [mergeLeftPass, List.filter_nil, List.filter_nil, List.append_nil, List.append_nil]
  | cons col rest ih =>
    rw [mergeLeftPass, leftStep, ih, snoc_if_append, snoc_if_append, List.filter_cons, List.filter_cons]
    rfl

/-- right loop: a right column is appended -/
def mH (m : MergeP) (proj pr0 : List Name) (c : Name) : Bool :=
  !pr0.contains c && (m.rightOn.contains c || proj.contains c || proj.contains (c ++ m.rs))

/-- right loop: a left column is appended as the collision partner of a suffixed right column -/
def mG (m : MergeP) (L proj pl0 pr0 : List Name) (c : Name) : Bool :=
  !pr0.contains c && !(m.rightOn.contains c || proj.contains c) && proj.contains (c ++ m.rs) &&
    L.contains c && !pl0.contains c

theorem filter_contains_false {l : List Name} {pred : Name → Bool} {c : Name} (h : pred c = false) :
    (l.filter pred).contains c = false := by
  rw [contains_filter_eq, h, Bool.and_false]

/-- one round of the right loop (`c0`: already pushed right, `kp`: key or requested, `s`: the suffixed label is
    requested, `lc`: the left side has the column, `plc`: it is pushed left already) -/
theorem rightStep {β : Type} (c0 kp s lc plc : Bool) (f : List Name × List Name → β) (pl pr : List Name) (col : Name) :
    (if c0 then f (pl, pr) else if kp then f (pl, pr ++ [col])
      else if s then f (if lc && !plc then pl ++ [col] else pl, pr ++ [col]) else f (pl, pr)) =
      f (if !c0 && !kp && s && lc && !plc then pl ++ [col] else pl, if !c0 && (kp || s) then pr ++ [col] else pr) := by
  cases c0
  · cases kp
    · cases s
      · rfl
      · cases lc <;> rfl
    · rfl
  · rfl

theorem rightPass_eq (m : MergeP) (L proj rest pl pr : List Name) (hnd : rest.Nodup) :
    mergeRightPass m L proj rest (pl, pr) =
      (pl ++ rest.filter (mG m L proj pl pr), pr ++ rest.filter (mH m proj pr)) := by
  induction rest generalizing pl pr with
  | nil => rw [mergeRightPass, List.filter_nil, List.filter_nil, List.append_nil, List.append_nil]
  | cons col t ih =>
    obtain ⟨hcol, hnt⟩ := List.nodup_cons.mp hnd
    -- appending `col` to either list is invisible to the later (distinct) columns
    have hne : ∀ x, x ∈ t → x ≠ col := fun x hx he => hcol (he ▸ hx)
    rw [mergeRightPass, rightStep, ih _ _ hnt,
      List.filter_congr (fun x hx => by
        rw [mG, contains_snoc_if_ne _ (hne x hx), contains_snoc_if_ne _ (hne x hx)]; rfl :
        ∀ x, x ∈ t → mG m L proj _ _ x = mG m L proj pl pr x),
      List.filter_congr (fun x hx => by rw [mH, contains_snoc_if_ne _ (hne x hx)]; rfl :
        ∀ x, x ∈ t → mH m proj _ x = mH m proj pr x),
      snoc_if_append, snoc_if_append, List.filter_cons, List.filter_cons]
    rfl

/-- closed form of both pushed lists. Only the right schema has to be duplicate-free: the left loop never reads its
    accumulators, the right loop tests membership in them, and a repeated right column would see its own first copy -/
theorem mergeLists_eq (m : MergeP) (L R proj : List Name) (hR : R.Nodup) :
    mergeLists m L R proj =
      (L.filter (mA m proj) ++ R.filter (mG m L proj (L.filter (mA m proj)) (L.filter (mB m R proj))),
       L.filter (mB m R proj) ++ R.filter (mH m proj (L.filter (mB m R proj)))) := by
  unfold mergeLists
  rw [leftPass_eq, List.nil_append, List.nil_append, rightPass_eq _ _ _ _ _ _ hR]

section props
variable (m : MergeP) (L R proj : List Name)

theorem mB_iff {c : Name} : mB m R proj c = true ↔
    (m.leftOn.contains c || proj.contains c) = false ∧ proj.contains (c ++ m.ls) = true ∧ R.contains c = true := by
  rw [mB, Bool.and_eq_true, Bool.and_eq_true, Bool.not_eq_true', and_assoc]

theorem mG_iff {pl pr : List Name} {c : Name} : mG m L proj pl pr c = true ↔
    pr.contains c = false ∧ (m.rightOn.contains c || proj.contains c) = false ∧ proj.contains (c ++ m.rs) = true ∧
      L.contains c = true ∧ pl.contains c = false := by
  simp only [mG, Bool.and_eq_true, Bool.not_eq_true', and_assoc]

theorem mH_iff {pr : List Name} {c : Name} : mH m proj pr c = true ↔
    pr.contains c = false ∧ (m.rightOn.contains c || proj.contains c || proj.contains (c ++ m.rs)) = true := by
  rw [mH, Bool.and_eq_true, Bool.not_eq_true']

theorem mB_imp_mA {c : Name} (h : mB m R proj c = true) : mA m proj c = true := by
  rw [mA, ((mB_iff m R proj).mp h).2.1]
  exact Bool.or_true _

/-- the left list: the left columns the left loop keeps, then the right loop's collision partners -/
theorem mem_merge_left (hR : R.Nodup) {c : Name} : c ∈ (mergeLists m L R proj).1 ↔
    (c ∈ L ∧ mA m proj c = true) ∨
      (c ∈ R ∧ mG m L proj (L.filter (mA m proj)) (L.filter (mB m R proj)) c = true) := by
  rw [mergeLists_eq m L R proj hR, List.mem_append, List.mem_filter, List.mem_filter]

/-- the right list: the left loop's collision partners, then the right columns the right loop keeps -/
theorem mem_merge_right (hR : R.Nodup) {c : Name} : c ∈ (mergeLists m L R proj).2 ↔
    (c ∈ L ∧ mB m R proj c = true) ∨ (c ∈ R ∧ mH m proj (L.filter (mB m R proj)) c = true) := by
  rw [mergeLists_eq m L R proj hR, List.mem_append, List.mem_filter, List.mem_filter]

theorem merge_left_sub (hR : R.Nodup) : ∀ c, c ∈ (mergeLists m L R proj).1 → c ∈ L := fun _ hc =>
  ((mem_merge_left m L R proj hR).mp hc).elim And.left fun h =>
    have ⟨_, _, _, hinL, _⟩ := (mG_iff m L proj).mp h.2
    List.contains_iff_mem.mp hinL

theorem merge_right_sub (hR : R.Nodup) : ∀ c, c ∈ (mergeLists m L R proj).2 → c ∈ R := fun _ hc =>
  ((mem_merge_right m L R proj hR).mp hc).elim
    (fun h => List.contains_iff_mem.mp ((mB_iff m R proj).mp h.2).2.2) And.left

theorem merge_left_nodup (hL : L.Nodup) (hR : R.Nodup) : (mergeLists m L R proj).1.Nodup := by
  rw [mergeLists_eq m L R proj hR, List.nodup_append]
  refine ⟨List.Nodup.sublist List.filter_sublist hL, List.Nodup.sublist List.filter_sublist hR, ?_⟩
  rintro a ha _ hb rfl
  -- the right loop only appends what the left loop did not push
  obtain ⟨_, _, _, _, hnotLeft⟩ := (mG_iff m L proj).mp (List.mem_filter.mp hb).2
  rw [List.contains_iff_mem.mpr ha] at hnotLeft
  cases hnotLeft

theorem merge_right_nodup (hL : L.Nodup) (hR : R.Nodup) : (mergeLists m L R proj).2.Nodup := by
  rw [mergeLists_eq m L R proj hR, List.nodup_append]
  refine ⟨List.Nodup.sublist List.filter_sublist hL, List.Nodup.sublist List.filter_sublist hR, ?_⟩
  rintro a ha _ hb rfl
  have := ((mH_iff m proj).mp (List.mem_filter.mp hb).2).1
  rw [List.contains_iff_mem.mpr ha] at this
  cases this

theorem merge_left_keys (hR : R.Nodup) {k : Name} (hk : k ∈ m.leftOn) (hkL : k ∈ L) :
    k ∈ (mergeLists m L R proj).1 :=
  (mem_merge_left m L R proj hR).mpr (Or.inl ⟨hkL, by rw [mA, List.contains_iff_mem.mpr hk]; rfl⟩)

/-- a right column that the right loop wants (a key, requested, or requested under its suffixed label) is pushed right
    by one of the two loops -/
theorem merge_right_of_want (hR : R.Nodup) {c : Name} (hc : c ∈ R)
    (hw : (m.rightOn.contains c || proj.contains c || proj.contains (c ++ m.rs)) = true) :
    c ∈ (mergeLists m L R proj).2 := by
  rw [mergeLists_eq m L R proj hR]
  cases h : (L.filter (mB m R proj)).contains c
  · exact List.mem_append_right _ (List.mem_filter.mpr ⟨hc, (mH_iff m proj).mpr ⟨h, hw⟩⟩)
  · exact List.mem_append_left _ (List.contains_iff_mem.mp h)

theorem merge_right_keys (hR : R.Nodup) {k : Name} (hk : k ∈ m.rightOn) (hkR : k ∈ R) :
    k ∈ (mergeLists m L R proj).2 :=
  merge_right_of_want m L R proj hR hkR (by rw [List.contains_iff_mem.mpr hk]; rfl)

theorem merge_right_of_proj (hR : R.Nodup) {c : Name} (hc : c ∈ R) (hp : proj.contains c = true) :
    c ∈ (mergeLists m L R proj).2 :=
  merge_right_of_want m L R proj hR hc (by rw [hp, Bool.or_true]; rfl)

/-- a kept left column that collides with a right non-key column has its partner pushed right: the left loop pushes
    it, unless the column is kept as a key (excluded: such a key is common to both sides) or under its own name
    (then the right loop keeps it) -/
theorem merge_right_of_mA (hR : R.Nodup) (hkey : ∀ c, c ∈ m.leftOn → c ∈ R → commonKey m c = true)
    {c : Name} (hc : c ∈ L) (hcR : c ∈ R) (hck : commonKey m c = false) (hA : mA m proj c = true) :
    c ∈ (mergeLists m L R proj).2 := by
  cases hkp : (m.leftOn.contains c || proj.contains c)
  · rw [mA, hkp, Bool.false_or] at hA
    exact (mem_merge_right m L R proj hR).mpr
      (Or.inl ⟨hc, (mB_iff m R proj).mpr ⟨hkp, hA, List.contains_iff_mem.mpr hcR⟩⟩)
  · rcases Bool.or_eq_true_iff.mp hkp with hk | hp
    · rw [hkey c (List.contains_iff_mem.mp hk) hcR] at hck
      cases hck
    · exact merge_right_of_proj m L R proj hR hcR hp

/-- a right column the right loop wants that collides with a left non-key column has its partner pushed left: by the
    left loop, or else by the right loop as the partner of the suffixed label -/
theorem merge_left_of_want (hR : R.Nodup) (hkey : ∀ c, c ∈ m.rightOn → c ∈ L → commonKey m c = true)
    {c : Name} (hc : c ∈ R) (hcL : c ∈ L) (hck : commonKey m c = false)
    (hw : (m.rightOn.contains c || proj.contains c || proj.contains (c ++ m.rs)) = true) :
    c ∈ (mergeLists m L R proj).1 := by
  cases hA : mA m proj c
  · have hp : proj.contains c = false := by
      rw [mA, Bool.or_eq_false_iff, Bool.or_eq_false_iff] at hA
      exact hA.1.2
    have hk : m.rightOn.contains c = false := Bool.eq_false_iff.mpr fun hk => by
      rw [hkey c (List.contains_iff_mem.mp hk) hcL] at hck
      cases hck
    rw [hk, hp] at hw
    refine (mem_merge_left m L R proj hR).mpr (Or.inr ⟨hc, (mG_iff m L proj).mpr
      ⟨filter_contains_false (Bool.eq_false_iff.mpr fun hB => ?_), by rw [hk, hp]; rfl, hw,
        List.contains_iff_mem.mpr hcL, filter_contains_false hA⟩⟩)
    rw [mB_imp_mA m R proj hB] at hA
    cases hA
  · exact (mem_merge_left m L R proj hR).mpr (Or.inl ⟨hcL, hA⟩)

/-- source of a requested left label is kept, and so is its collision partner:
    needs that a left join key which also names a right column is a key common to both sides (N1 otherwise) -/
theorem merge_left_source (hR : R.Nodup)
    (hkey : ∀ c, c ∈ m.leftOn → c ∈ R → commonKey m c = true)
    {c : Name} (hc : c ∈ L) (hreq : proj.contains (labelL m R c) = true) :
    c ∈ (mergeLists m L R proj).1 ∧
    ((R.contains c && !commonKey m c) = true → c ∈ (mergeLists m L R proj).2) := by
  have hA : mA m proj c = true := by
    unfold labelL at hreq
    split at hreq
    · rw [mA, hreq]; exact Bool.or_true _
    · rw [mA, hreq, Bool.or_true]; rfl
  refine ⟨(mem_merge_left m L R proj hR).mpr (Or.inl ⟨hc, hA⟩), fun hcol => ?_⟩
  rw [Bool.and_eq_true, Bool.not_eq_true'] at hcol
  exact merge_right_of_mA m L R proj hR hkey hc (List.contains_iff_mem.mp hcol.1) hcol.2 hA

/-- source of a requested right label is kept, and so is its collision partner -/
theorem merge_right_source (hR : R.Nodup)
    (hkey : ∀ c, c ∈ m.rightOn → c ∈ L → commonKey m c = true)
    {c : Name} (hc : c ∈ R) (hreq : proj.contains (labelR m L c) = true) :
    c ∈ (mergeLists m L R proj).2 ∧
    ((L.contains c && !commonKey m c) = true → c ∈ (mergeLists m L R proj).1) := by
  have hw : (m.rightOn.contains c || proj.contains c || proj.contains (c ++ m.rs)) = true := by
    unfold labelR at hreq
    split at hreq
    · rw [hreq]; exact Bool.or_true _
    · rw [hreq, Bool.or_true]; rfl
  refine ⟨merge_right_of_want m L R proj hR hc hw, fun hcol => ?_⟩
  rw [Bool.and_eq_true, Bool.not_eq_true'] at hcol
  exact merge_left_of_want m L R proj hR hkey hc (List.contains_iff_mem.mp hcol.1) hcol.2 hw

end props

/-! ### labels of the pruned merge -/

/-- a join key that also names a column of the other side must be a key common to both sides -/
def KeysDoNotCollide (m : MergeP) (L R : List Name) : Prop :=
  (∀ c, c ∈ m.leftOn → c ∈ R → commonKey m c = true) ∧ (∀ c, c ∈ m.rightOn → c ∈ L → commonKey m c = true)

/-- whether a column gets its side's suffix depends on the other side only through the column's own presence there -/
theorem suffixed_pruned {A A' : List Name} {ck : Bool} {c : Name} (hsub : ∀ x, x ∈ A' → x ∈ A)
    (hpart : (A.contains c && !ck) = true → c ∈ A') : (A'.contains c && !ck) = (A.contains c && !ck) :=
  Bool.eq_iff_iff.mpr ⟨fun h => by
      rw [Bool.and_eq_true] at h ⊢
      exact ⟨List.contains_iff_mem.mpr (hsub c (List.contains_iff_mem.mp h.1)), h.2⟩,
    fun h => by
      have hc := hpart h
      rw [Bool.and_eq_true] at h ⊢
      exact ⟨List.contains_iff_mem.mpr hc, h.2⟩⟩

theorem labelL_pruned (m : MergeP) (R pr : List Name) (c : Name) (hsub : ∀ x, x ∈ pr → x ∈ R)
    (hpart : (R.contains c && !commonKey m c) = true → c ∈ pr) : labelL m pr c = labelL m R c := by
  rw [labelL, labelL, suffixed_pruned hsub hpart]

theorem labelR_pruned (m : MergeP) (L pl : List Name) (c : Name) (hsub : ∀ x, x ∈ pl → x ∈ L)
    (hpart : (L.contains c && !commonKey m c) = true → c ∈ pl) : labelR m pl c = labelR m L c := by
  rw [labelR, labelR, suffixed_pruned hsub hpart]

/-! ### the pruned join keeps the labels of the columns it keeps -/

/-- the collision partner of every kept left column is kept on the right -/
theorem merge_left_twin {m : MergeP} {L R proj : List Name} (hR : R.Nodup) (hk : KeysDoNotCollide m L R) {c : Name}
    (hc : c ∈ (mergeLists m L R proj).1) (h : (R.contains c && !commonKey m c) = true) :
    c ∈ (mergeLists m L R proj).2 := by
  rw [Bool.and_eq_true, Bool.not_eq_true'] at h
  rcases (mem_merge_left m L R proj hR).mp hc with h1 | h1
  · exact merge_right_of_mA m L R proj hR hk.1 h1.1 (List.contains_iff_mem.mp h.1) h.2 h1.2
  · -- appended by the right loop as the partner of a suffixed right column
    obtain ⟨_, _, hsuffixed, _, _⟩ := (mG_iff m L proj).mp h1.2
    exact merge_right_of_want m L R proj hR h1.1 (by rw [hsuffixed]; exact Bool.or_true _)

/-- … and symmetrically -/
theorem merge_right_twin {m : MergeP} {L R proj : List Name} (hR : R.Nodup) (hk : KeysDoNotCollide m L R) {c : Name}
    (hc : c ∈ (mergeLists m L R proj).2) (h : (L.contains c && !commonKey m c) = true) :
    c ∈ (mergeLists m L R proj).1 := by
  rw [Bool.and_eq_true, Bool.not_eq_true'] at h
  rcases (mem_merge_right m L R proj hR).mp hc with h1 | h1
  · exact (mem_merge_left m L R proj hR).mpr (Or.inl ⟨h1.1, mB_imp_mA m R proj h1.2⟩)
  · exact merge_left_of_want m L R proj hR hk.2 h1.1 (List.contains_iff_mem.mp h.1) h.2 ((mH_iff m proj).mp h1.2).2

/-- images of two duplicate-free sub-collections stay duplicate-free side by side -/
theorem nodup_map_append_of_subset {α β : Type} (f g : α → β) {A A' B B' : List α} (hA : A.Nodup) (hB : B.Nodup)
    (hAs : ∀ a, a ∈ A → a ∈ A') (hBs : ∀ b, b ∈ B → b ∈ B') (h : (A'.map f ++ B'.map g).Nodup) :
    (A.map f ++ B.map g).Nodup := by
  obtain ⟨h1, h2, h3⟩ := List.nodup_append.mp h
  refine List.nodup_append.mpr
    ⟨nodup_map_of_inj f A hA fun a ha b hb => inj_of_nodup_map f A' h1 a (hAs a ha) b (hAs b hb),
     nodup_map_of_inj g B hB fun a ha b hb => inj_of_nodup_map g B' h2 a (hBs a ha) b (hBs b hb), ?_⟩
  intro x hx y hy hxy
  obtain ⟨a, ha, rfl⟩ := List.mem_map.mp hx
  obtain ⟨b, hb, rfl⟩ := List.mem_map.mp hy
  exact h3 _ (List.mem_map_of_mem (hAs a ha)) _ (List.mem_map_of_mem (hBs b hb)) hxy

theorem mergeLabels_pruned_nodup {m : MergeP} {L R proj : List Name} (hL : L.Nodup) (hR : R.Nodup)
    (hk : KeysDoNotCollide m L R) (hn : (mergeLabels m L R).Nodup) :
    (mergeLabels m (mergeLists m L R proj).1 (mergeLists m L R proj).2).Nodup := by
  have hplsub := merge_left_sub m L R proj hR
  have hprsub := merge_right_sub m L R proj hR
  unfold mergeLabels at hn ⊢
  -- the kept columns keep their labels: the collision partner of each is kept too
  rw [List.map_congr_left (fun x hx => labelL_pruned m R _ x hprsub (merge_left_twin hR hk hx)),
    List.map_congr_left (fun x hx => labelR_pruned m L _ x hplsub (merge_right_twin hR hk (List.mem_filter.mp hx).1))]
  exact nodup_map_append_of_subset _ _ (merge_left_nodup m L R proj hL hR)
    (List.Nodup.sublist List.filter_sublist (merge_right_nodup m L R proj hL hR)) hplsub
    (fun b hb => List.mem_filter.mpr ⟨hprsub b (List.mem_filter.mp hb).1, (List.mem_filter.mp hb).2⟩) hn

/-- the pruned inputs of a join agree with the full ones on the key columns, so the rows are matched the same way -/
theorem merge_T_pruned {γ : Type} (M : MergeOp γ) (X Y : Frame γ) (hR : Y.cols.Nodup)
    (hlo : ∀ k, k ∈ M.m.leftOn → k ∈ X.cols) (hro : ∀ k, k ∈ M.m.rightOn → k ∈ Y.cols) (proj : List Name) :
    M.TL (X.select (mergeLists M.m X.cols Y.cols proj).1).val (Y.select (mergeLists M.m X.cols Y.cols proj).2).val =
        M.TL X.val Y.val ∧
      M.TR (X.select (mergeLists M.m X.cols Y.cols proj).1).val (Y.select (mergeLists M.m X.cols Y.cols proj).2).val =
        M.TR X.val Y.val :=
  M.T_keys _ _ _ _
    (fun k hk => select_val_mem
      (merge_left_keys M.m X.cols Y.cols proj hR (List.contains_iff_mem.mp hk) (hlo k (List.contains_iff_mem.mp hk))))
    (fun k hk => select_val_mem
      (merge_right_keys M.m X.cols Y.cols proj hR (List.contains_iff_mem.mp hk) (hro k (List.contains_iff_mem.mp hk))))

end Dx.Cols

/-
  Lemmas/LayerBoundary.lean — `LayerWF` of the two layers that import a FOREIGN graph:
  `FromGraph._layer` (Cut.lean: `fromGraphLayer`) and `_DelayedExpr._layer` (Layers/Boundary.lean:
  `delayedExprLayer`).  Both are well formed relative to the imported graph being closed (no inputs), ranked
  and bounded, plus, for `_DelayedExpr`,
  that no task of the Delayed's graph reads the Delayed's own key (which `_layer` pops).
-/
import DxModel.LayerOK
import DxModel.Layers.Boundary
namespace Dx
namespace Boundary

variable {κ : Type}

/-- A task copied from a graph that is closed without inputs and ranked, its keys renamed by `f`, may stand at any
    key `k` of a layer that defines the renamed references and ranks them below `k` as the graph ranks the
    originals below the task's key. -/
theorem refOK_of_copy {ι : Type} {L : LSpec ι} {depN : List Nat} {G : Graph κ} {rank : κ → Nat}
    (hc : Closed G (fun _ => none)) (hr : Ranked G rank) {f : κ → ι} {k0 : κ} {t0 : Tsk κ} (h : G k0 = some t0)
    (hf : ∀ r ∈ t0.refs, (G r).isSome → (L.task (f r)).isSome) {k : ι}
    (hlt : ∀ r, rank r < rank k0 → L.rank (f r) < L.rank k) {r : ι} (hr' : r ∈ (t0.mapKeys f).refs) :
    L.RefOK depN k r := by
  rw [Tsk.refs_mapKeys] at hr'
  obtain ⟨r0, hr0, rfl⟩ := List.mem_map.mp hr'
  have hs : (G r0).isSome := (hc k0 t0 h r0 hr0).resolve_right Bool.false_ne_true
  exact .own (hf r0 hr0 hs) (hlt r0 (hr k0 t0 h r0 hr0 hs))

/-! ### FromGraph -/

def fromGraphSpec (L : Graph κ) (keys : List κ) (rank : κ → Nat) (bound : Nat) : LSpec (κ ⊕ Nat) :=
  { task := fromGraphLayer L keys
    nout := keys.length
    out := Sum.inr
    outIdx := fun k => match k with | .inr i => some i | .inl _ => none
    depOf := fun _ => none
    rank := fun k => match k with | .inl k => rank k | .inr _ => bound + 1
    bound := bound + 1 }

theorem fromGraph_inl_isSome (L : Graph κ) (keys : List κ) (k : κ) :
    (fromGraphLayer L keys (.inl k)).isSome = (L k).isSome := Option.isSome_map

theorem fromGraph_inr (L : Graph κ) (keys : List κ) (i : Nat) :
    fromGraphLayer L keys (.inr i) = keys[i]?.map fun k => .alias (.inl k) := by
  rw [fromGraphLayer]
  cases keys[i]? <;> rfl

theorem fromGraph_inr_isSome (L : Graph κ) (keys : List κ) (i : Nat) :
    (fromGraphLayer L keys (.inr i)).isSome ↔ i < keys.length := by
  rw [fromGraph_inr, Option.isSome_map, isSome_getElem?]

theorem fromGraph_wf (L : Graph κ) (keys : List κ) (rank : κ → Nat) (bound : Nat)
    (hc : Closed L (fun _ => none)) (hr : Ranked L rank) (hb : ∀ k, (L k).isSome → rank k ≤ bound)
    (hk : ∀ k ∈ keys, (L k).isSome) : LayerWF (fromGraphSpec L keys rank bound) [] := by
  refine .ofRefs (fun _ _ => rfl) (fun i => (fromGraph_inr_isSome L keys i).mpr) ?_ (fun _ _ => rfl) ?_ ?_
  · intro k i hk' hidx
    cases k <;> cases hidx
    exact ⟨(fromGraph_inr_isSome L keys _).mp hk', rfl⟩
  · intro k t hk' r hr'
    cases k with
    | inl k =>
      obtain ⟨t0, h, rfl⟩ := Option.map_eq_some_iff.mp hk'
      exact refOK_of_copy hc hr h (fun r _ hs => (fromGraph_inl_isSome L keys r).trans hs) (fun _ h => h) hr'
    | inr j =>
      obtain ⟨k, hj, rfl⟩ := Option.map_eq_some_iff.mp ((fromGraph_inr L keys j).symm.trans hk')
      cases List.mem_singleton.mp hr'
      have hs := hk k (List.mem_of_getElem? hj)
      exact .own ((fromGraph_inl_isSome L keys k).trans hs) (Nat.lt_succ_of_le (hb k hs))
  · intro k hk'
    cases k with
    | inl k => exact Nat.le_succ_of_le (hb k ((fromGraph_inl_isSome L keys k).symm.trans hk'))
    | inr _ => exact Nat.le_refl _

/-! ### _DelayedExpr -/

variable [DecidableEq κ]

def delayedSpec (d : Delayed κ) (rank : κ → Nat) (bound : Nat) : LSpec (BKey κ) :=
  { task := delayedExprLayer d
    nout := 1
    out := fun _ => .wrap d.key
    outIdx := fun k => match k with | .wrap k => if k = d.key then some 0 else none | _ => none
    depOf := fun _ => none
    rank := fun k => match k with | .orig k => rank k | .wrap k => rank k | .out _ => 0
    bound := bound }

theorem delayed_orig_isSome (d : Delayed κ) (k : κ) (hne : k ≠ d.key) :
    (delayedExprLayer d (.orig k)).isSome = (d.graph k).isSome :=
  (congrArg Option.isSome (if_neg hne)).trans Option.isSome_map

/-- every task of the layer is a task of the Delayed's graph, ranked as its key is there -/
theorem delayed_task {d : Delayed κ} {k : BKey κ} {t : Tsk (BKey κ)} (h : delayedExprLayer d k = some t)
    (rank : κ → Nat) (bound : Nat) :
    ∃ k0 t0, d.graph k0 = some t0 ∧ t = t0.mapKeys .orig ∧ (delayedSpec d rank bound).rank k = rank k0 := by
  cases k with
  | orig k =>
    obtain ⟨t0, h0, rfl⟩ := Option.map_eq_some_iff.mp (Option.ite_none_left_eq_some.mp h).2
    exact ⟨k, t0, h0, rfl, rfl⟩
  | wrap k =>
    obtain ⟨rfl, h'⟩ := Option.ite_none_right_eq_some.mp h
    obtain ⟨t0, h0, rfl⟩ := Option.map_eq_some_iff.mp h'
    exact ⟨_, t0, h0, rfl, rfl⟩
  | out _ => cases h

/-- `hself`: no task of the Delayed's graph reads the Delayed's own key (the key `_layer` pops) -/
theorem delayed_wf (d : Delayed κ) (rank : κ → Nat) (bound : Nat)
    (hc : Closed d.graph (fun _ => none)) (hr : Ranked d.graph rank) (hb : ∀ k, (d.graph k).isSome → rank k ≤ bound)
    (hkey : (d.graph d.key).isSome) (hself : ∀ k t, d.graph k = some t → d.key ∉ t.refs) :
    LayerWF (delayedSpec d rank bound) [] := by
  refine .ofRefs ?_ ?_ ?_ (fun _ _ => rfl) ?_ ?_
  · intro i hi
    obtain rfl : i = 0 := Nat.lt_one_iff.mp hi
    exact if_pos rfl
  · intro i _
    exact (congrArg Option.isSome (if_pos rfl)).trans (Option.isSome_map.trans hkey)
  · intro k i _ hidx
    cases k with
    | wrap k =>
      obtain ⟨rfl, hi⟩ := Option.ite_none_right_eq_some.mp hidx
      cases hi
      exact ⟨Nat.one_pos, rfl⟩
    | _ => cases hidx
  · intro k t hk' r hr'
    obtain ⟨k0, t0, h0, rfl, hk0⟩ := delayed_task hk' rank bound
    refine refOK_of_copy hc hr h0 (fun r hr0 hs => ?_) (fun _ h => hk0 ▸ h) hr'
    -- `r` is read by a task of the Delayed's graph, so it is not the popped key
    exact (delayed_orig_isSome d r fun he => hself k0 t0 h0 (he ▸ hr0)).trans hs
  · intro k hk'
    obtain ⟨t, ht⟩ := Option.isSome_iff_exists.mp hk'
    obtain ⟨k0, t0, h0, _, hk0⟩ := delayed_task ht rank bound
    exact hk0 ▸ hb k0 (h0 ▸ rfl)

end Boundary
end Dx

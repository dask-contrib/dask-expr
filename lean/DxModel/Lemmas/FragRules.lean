/-
  Lemmas/FragRules.lean — soundness of the `_simplify_up` rules of the fragment (DxModel/Fragment.lean `fragUp`), one
  lemma per rule function: a rule output is defined, with the same value, whenever the expression it takes the place of is.
  Every rule with a Projection parent is an instance of `projOver_sound`; what a rule adds is its column fact, taken
  from the C04 theorems about the rule function it calls (Binop: from `binopSide` itself).
  (Assign, Merge, Concat and the OR-factoring of Filter are in their own files.)
-/
import DxModel.Lemmas.FragOps
import DxModel.Props.C04
import DxModel.Lemmas.ListBasics
namespace Dx.Frag
open Dx Dx.Cols

variable {γ ι : Type}

theorem den_args0 (I : Interp γ ι) {e : Expr} (h : e.args = []) : den I e = semOp I e.op [] := by
  rw [den_expr, h]; rfl

theorem den_args1 (I : Interp γ ι) {e x : Expr} (h : e.args = [x]) :
    den I e = (den I x).bind (fun v => semOp I e.op [v]) := by
  rw [den_expr, h]
  simp only [List.map_cons, List.map_nil]
  cases den I x <;> rfl

theorem den_args2 (I : Interp γ ι) {e x y : Expr} (h : e.args = [x, y]) :
    den I e = (den I x).bind (fun v => (den I y).bind (fun w => semOp I e.op [v, w])) := by
  rw [den_expr, h]
  simp only [List.map_cons, List.map_nil]
  cases den I x with
  | none => rfl
  | some v => cases den I y <;> rfl

theorem den_mk1 (I : Interp γ ι) (o : Op) (x : Expr) : den I (mk o [x]) = (den I x).bind (fun v => semOp I o [v]) := by
  rw [den_args1 I (mk_args o [x]), mk_op]

theorem den_mk2 (I : Interp γ ι) (o : Op) (x y : Expr) :
    den I (mk o [x, y]) = (den I x).bind (fun v => (den I y).bind (fun w => semOp I o [v, w])) := by
  rw [den_args2 I (mk_args o [x, y]), mk_op]

theorem parentOf_cols (sel : Sel) : (parentOf sel).cols = sel.toList := by cases sel <;> rfl
theorem parentOf_operand (sel : Sel) : (parentOf sel).operand = sel := by cases sel <;> rfl
theorem parentOf_overFrame (sel : Sel) : (parentOf sel).overFrame := by cases sel <;> trivial
theorem parentOf_ndim1 (sel : Sel) : (parentOf sel).ndim1 = Sel.isOne sel := by cases sel <;> rfl

theorem den_unary {I : Interp γ ι} {e x : Expr} {o : Op} {v : FVal γ} (ho : e.op = o) (ha : e.args = [x])
    (h : den I e = some v) : ∃ vx, den I x = some vx ∧ semOp I o [vx] = some v := by
  rw [den_args1 I ha, ho] at h
  exact Option.bind_eq_some_iff.mp h

theorem den_binary {I : Interp γ ι} {e x y : Expr} {o : Op} {v : FVal γ} (ho : e.op = o) (ha : e.args = [x, y])
    (h : den I e = some v) : ∃ vx vy, den I x = some vx ∧ den I y = some vy ∧ semOp I o [vx, vy] = some v := by
  rw [den_args2 I ha, ho] at h
  obtain ⟨vx, hx, h⟩ := Option.bind_eq_some_iff.mp h
  obtain ⟨vy, hy, h⟩ := Option.bind_eq_some_iff.mp h
  exact ⟨vx, vy, hx, hy, h⟩

/-- a defined Projection parent: its frame is defined, a frame, has the requested labels -/
theorem projOver_den {I : Interp γ ι} {p c : Expr} {sel : Sel} (hp : projOver p c = some sel) {v : FVal γ}
    (hv : den I p = some v) :
    ∃ vc, den I c = some vc ∧ vc.ser = false ∧ sel.toList.Nodup ∧ (∀ x, x ∈ sel.toList → x ∈ vc.fr.cols) ∧
      v = ⟨vc.fr.select sel.toList, Sel.isOne sel⟩ := by
  unfold projOver at hp
  split at hp
  · next sel' x hop hargs =>
    obtain ⟨hx, rfl⟩ := ite_some hp
    obtain rfl : x = c := eq_of_beq hx
    obtain ⟨vc, hc, hv⟩ := den_unary hop hargs hv
    exact ⟨vc, hc, (semOp_proj_iff I sel' vc v).mp hv⟩
  · cases hp

theorem den_proj_some {I : Interp γ ι} {s : Sel} {x : Expr} {vx : FVal γ} (hx : den I x = some vx)
    (h1 : vx.ser = false) (h2 : s.toList.Nodup) (h3 : ∀ c, c ∈ s.toList → c ∈ vx.fr.cols) :
    den I (proj s x) = some ⟨vx.fr.select s.toList, Sel.isOne s⟩ := by
  rw [proj, den_mk1, hx]
  exact (semOp_proj_iff I s vx _).mpr ⟨h1, h2, h3, rfl⟩

/-- `x[s]` denotes the selection from any frame `G` that has the same columns under the selected labels: how every
    rule with a Projection parent ends (`G` the frame of the replaced child) -/
theorem den_proj_agree {I : Interp γ ι} {s : Sel} {x : Expr} {vx : FVal γ} {G : Frame γ} (hx : den I x = some vx)
    (h1 : vx.ser = false) (h2 : s.toList.Nodup) (h3 : ∀ c, c ∈ s.toList → c ∈ vx.fr.cols)
    (h4 : ∀ c, c ∈ s.toList → vx.fr.val c = G.val c) :
    den I (proj s x) = some ⟨G.select s.toList, Sel.isOne s⟩ := by
  rw [den_proj_some hx h1 h2 h3, select_congr _ h4]

/-- **The shape of every `_simplify_up` rule with a Projection parent** `p = c[sel]`: the parent becomes `c'[sel]`.
    It suffices that, whenever `c` denotes a frame with the requested labels, `c'` denotes a frame that has them too,
    with the same columns under them. -/
theorem projOver_sound {I : Interp γ ι} {p c c' : Expr} {sel : Sel} (hpo : projOver p c = some sel)
    (H : ∀ vc, den I c = some vc → vc.ser = false → (∀ y, y ∈ sel.toList → y ∈ vc.fr.cols) →
      ∃ F', den I c' = some ⟨F', false⟩ ∧ ∀ y, y ∈ sel.toList → y ∈ F'.cols ∧ F'.val y = vc.fr.val y) :
    ∀ v, den I p = some v → den I (proj sel c') = some v := by
  intro v hv
  obtain ⟨vc, hvc, hser, hnd, hsub, rfl⟩ := projOver_den hpo hv
  obtain ⟨F', hF', hag⟩ := H vc hvc hser hsub
  exact den_proj_agree hF' rfl hnd (fun y hy => (hag y hy).1) (fun y hy => (hag y hy).2)

/-- the same when the rule drops the parent's projection (`keep = false`) because `c'` already denotes the selection -/
theorem projOver_sound_keep {I : Interp γ ι} {p c c' : Expr} {sel : Sel} (keep : Bool) (hpo : projOver p c = some sel)
    (H : ∀ vc, den I c = some vc → vc.ser = false → sel.toList.Nodup → (∀ y, y ∈ sel.toList → y ∈ vc.fr.cols) →
      ∃ v', den I c' = some v' ∧
        (keep = true → v'.ser = false ∧ ∀ y, y ∈ sel.toList → y ∈ v'.fr.cols ∧ v'.fr.val y = vc.fr.val y) ∧
        (keep = false → v' = ⟨vc.fr.select sel.toList, Sel.isOne sel⟩)) :
    ∀ v, den I p = some v → den I (reproj keep sel c') = some v := by
  intro v hv
  obtain ⟨vc, hvc, hser, hnd, hsub, rfl⟩ := projOver_den hpo hv
  obtain ⟨v', hv', hk, hnk⟩ := H vc hvc hser hnd hsub
  cases keep with
  | true =>
    obtain ⟨hs', hag⟩ := hk rfl
    exact den_proj_agree hv' hs' hnd (fun y hy => (hag y hy).1) (fun y hy => (hag y hy).2)
  | false => rw [← hnk rfl]; exact hv'

theorem schema_of_den {I : Interp γ ι} {x : Expr} {vx : FVal γ} {sx : Schema} (hx : den I x = some vx)
    (hs : schemaOf x = some sx) : sx = vx.sch := by
  rw [den_schema hx] at hs
  exact (Option.some.inj hs).symm

/-! ### `plain_column_projection` over an elementwise operator (Abs, Neg, …; Filter with its predicate) -/

theorem evalRw_child (op : Frame γ → Frame γ) (P : List Name) (rwr : Rw) (F : Frame γ) (cu : Sel)
    (hch : rwr.childs = [some cu]) (hg : rwr.gone = false) :
    evalRw op P rwr F = if rwr.keep then (op (F.select cu.toList)).select P else op (F.select cu.toList) := by
  simp only [evalRw, hch, hg, Bool.false_eq_true, if_false]

/-- what the C04 theorems about `plain` give the two `plain_column_projection` rules: the rebuilt node `mkNew (x[cu])`
    maps every column of its frame operand by `f`, as the replaced child did — in the form `projOver_sound_keep` asks for -/
theorem plain_reproj_den (I : Interp γ ι) {sel cu : Sel} {rwr : Rw} {x : Expr} {deps : List Dep} {vx : FVal γ} {f : γ → γ}
    {mkNew : Expr → Expr} (hvx : den I x = some vx) (hser : vx.ser = false)
    (hsub : ∀ c, c ∈ sel.toList → c ∈ vx.fr.cols) (hpl : plain vx.fr.cols (parentOf sel) deps [] = some rwr)
    (hch : rwr.childs = [some cu])
    (hnew : ∀ vy : FVal γ, den I (proj cu x) = some vy → den I (mkNew (proj cu x)) = some ⟨mapFrame f vy.fr, vy.ser⟩) :
    ∃ v', den I (mkNew (proj cu x)) = some v' ∧
      (rwr.keep = true → v'.ser = false ∧
        ∀ y, y ∈ sel.toList → y ∈ v'.fr.cols ∧ v'.fr.val y = (mapFrame f vx.fr).val y) ∧
      (rwr.keep = false → v' = ⟨(mapFrame f vx.fr).select sel.toList, Sel.isOne sel⟩) := by
  obtain ⟨s, hs, hg, had, hnk, hone⟩ := C04_plain_wf vx.fr.cols (parentOf sel) (parentOf_overFrame sel) deps [] rwr hpl
  rw [hch] at hs
  have hcu : cu = s := by simpa using hs
  subst hcu
  have hval := C04_plain_values (mapK f) vx.fr (parentOf sel) deps [] rwr hpl (fun k hk => nomatch hk)
  rw [parentOf_cols] at had hval
  refine ⟨_, hnew _ (den_proj_some hvx hser (had.nodup (den_nodup hvx)) had.sub),
    fun hk => ⟨?_, fun y hy => ⟨had.req y hy (hsub y hy), ?_⟩⟩, fun hk => ?_⟩
  · cases hcu : cu with
    | many _ => rfl
    | one c0 =>
      have := (hone c0 hcu).2
      rw [hk] at this; cases this
  · have := hval y hy
    rw [evalRw_child _ _ _ _ cu hch hg, hk, if_pos rfl] at this
    exact (select_val_mem hy).symm.trans (this.trans (select_val_mem hy))
  · have hcs : cu = sel := by rw [hnk hk, parentOf_operand]
    subst hcs
    refine congrArg (FVal.mk · _) (frame_ext (by rfl) (normal_mapFrame _ _) (normal_select _ _) ?_)
    intro c hc
    have hc' : c ∈ cu.toList := hc
    have := hval c hc'
    rw [evalRw_child _ _ _ _ cu hch hg, hk, if_neg Bool.false_ne_true] at this
    exact this

/-- Blockwise/Unaryop: `Projection(Abs(x), sel)` → `[Projection](Abs(x[cu]))` -/
theorem upElem_sound (I : Interp γ ι) {op : Nat} {x c p o : Expr} {d : Deps} (hc : c.op = .elem op) (ha : c.args = [x])
    (h : upElem op x c p d = some o) : ∀ v, den I p = some v → den I o = some v := by
  unfold upElem at h
  split at h
  · next sel sx hpo hsx =>
    obtain ⟨hns, h⟩ := Option.ite_none_left_eq_some.mp h
    split at h
    · next rwr hpl =>
      split at h
      · rename_i cu hch
        cases h
        refine projOver_sound_keep rwr.keep hpo fun vc hvc hcser _ hsub => ?_
        obtain ⟨vx, hvx, hvc⟩ := den_unary hc ha hvc
        rw [semOp_elem] at hvc
        cases hvc
        obtain rfl := schema_of_den hvx hsx
        exact plain_reproj_den I (mkNew := fun y => mk (.elem op) [y]) hvx hcser hsub hpl hch
          (fun vy hy => by rw [den_mk1, hy, Option.bind_some]; exact semOp_elem I op vy)
      · cases h
    · cases h
  · cases h

/-- Filter, Projection branch: `Projection(Filter(x, q), sel)` → `[Projection](Filter(x[cu], q))` -/
theorem upFilterProj_sound (I : Interp γ ι) {x q c p o : Expr} {d : Deps} (hc : c.op = .filter) (ha : c.args = [x, q])
    (h : upFilterProj x q c p d = some o) : ∀ v, den I p = some v → den I o = some v := by
  unfold upFilterProj at h
  split at h
  · next sel sx hpo hsx =>
    obtain ⟨hpf, h⟩ := Option.ite_none_left_eq_some.mp h
    split at h
    · next rwr hpl =>
      -- `filterRule false` is `plain` without extra columns
      have hpl : plain sx.cols (parentOf sel) (depsOf d c) [] = some rwr := hpl
      split at h
      · rename_i cu hch
        cases h
        refine projOver_sound_keep rwr.keep hpo fun vc hvc hcser _ hsub => ?_
        obtain ⟨vx, vq, hvx, hvq, hvc⟩ := den_binary hc ha hvc
        obtain ⟨hqser, rfl⟩ := semOp_filter_some hvc
        obtain rfl := schema_of_den hvx hsx
        exact plain_reproj_den I (mkNew := fun y => mk .filter [y, q]) hvx hcser hsub hpl hch
          (fun vy hy => by rw [den_mk2, hy, hvq, Option.bind_some, Option.bind_some]; exact semOp_filter I vy vq hqser)
      · cases h
    · cases h
  · cases h

/-! ### Binop -/

/-- an operand of a Binop after the rule: projected onto `cols`, unless it has exactly these labels already; either way
    a frame over `cols` with the operand's columns -/
theorem den_binopSide {I : Interp γ ι} {y : Expr} {vy : FVal γ} (hy : den I y = some vy) (hys : vy.ser = false)
    {cols : List Name} (hnd : cols.Nodup) (hsub : ∀ c, c ∈ cols → c ∈ vy.sch.cols) :
    ∃ F', den I (selOpt (binopSide cols (some vy.sch.cols)) y) = some ⟨F', false⟩ ∧ F'.cols = cols ∧
      ∀ c, c ∈ cols → F'.val c = vy.fr.val c := by
  simp only [binopSide]
  by_cases h : vy.sch.cols = cols
  · rw [if_pos h]
    refine ⟨vy.fr, ?_, h, fun _ _ => rfl⟩
    rw [← hys]; exact hy
  · rw [if_neg h]
    exact ⟨_, den_proj_some hy hys hnd hsub, rfl, fun c hc => select_val_mem hc⟩

/-- Binop with a python scalar on the right: `Projection(x + k, sel)` → `Projection(x[columns] + k, sel)` -/
theorem upBinK_sound (I : Interp γ ι) {op k : Nat} {x c p o : Expr} {d : Deps} (hc : c.op = .bink op k) (ha : c.args = [x])
    (h : upBinK op k x c p d = some o) : ∀ v, den I p = some v → den I o = some v := by
  unfold upBinK at h
  split at h
  · next sel sx hpo hsx =>
    obtain ⟨hns, h⟩ := Option.ite_none_left_eq_some.mp h
    split at h
    · next rwr hb =>
      obtain rfl := binop_spec hb
      cases h
      refine projOver_sound hpo fun vc hvc hcser hsub => ?_
      obtain ⟨vx, hvx, hvc⟩ := den_unary hc ha hvc
      rw [semOp_bink] at hvc
      cases hvc
      obtain rfl := schema_of_den hvx hsx
      have had := adequate_union_contains vx.sch.cols (parentOf sel) (depsOf d c) []
      rw [parentOf_cols] at had
      obtain ⟨F', hF', hF'c, hF'v⟩ := den_binopSide hvx hcser (had.nodup (den_nodup hvx)) had.sub
      refine ⟨mapFrame (I.bink op k) F', ?_, fun y hy => ?_⟩
      · rw [den_mk1, hF', Option.bind_some]
        exact semOp_bink I op k _
      have hyx : y ∈ vx.fr.cols := hsub y hy
      have hyc := had.req y hy hyx
      have hyF : y ∈ F'.cols := hF'c ▸ hyc
      refine ⟨hyF, ?_⟩
      show (if F'.cols.contains y then (F'.val y).map _ else none) =
        (if vx.fr.cols.contains y then (vx.fr.val y).map _ else none)
      rw [List.contains_iff_mem.mpr hyF, List.contains_iff_mem.mpr hyx, hF'v y hyc]
    · cases h
  · cases h

theorem binFrame_cols (g : γ → γ → γ) (A B : Frame γ) : (binFrame g A B).cols = A.cols := rfl

theorem semOp_bin_frames (I : Interp γ ι) (op : Nat) (A B : FVal γ) (hA : A.ser = false) (hB : B.ser = false)
    (hc : A.fr.cols = B.fr.cols) : semOp I (.bin op) [A, B] = some ⟨binFrame (I.bin op) A.fr B.fr, false⟩ := by
  have h1 : ¬(A.ser && B.ser) = true := by rw [hA]; exact Bool.false_ne_true
  have h2 : (!A.ser && !B.ser && decide (A.fr.cols = B.fr.cols)) = true := by rw [hA, hB, decide_eq_true hc]; rfl
  have hs : schOp (.bin op) ([A, B].map FVal.sch) = some ⟨A.fr.cols, false⟩ := (if_neg h1).trans (if_pos h2)
  have hf : frameOp I (.bin op) [A, B] = binFrame (I.bin op) A.fr B.fr := if_neg (Bool.eq_false_iff.mp hA)
  rw [semOp_eq hs (by rw [hf]; rfl) (by rw [hf]; exact normal_binFrame _ _ _), hf]

/-- the two ways a Binop is well-formed: two Series, or two frames with the same labels -/
theorem schOp_bin_some {op : Nat} {a b s : Schema} (h : schOp (.bin op) [a, b] = some s) :
    (a.ser = true ∧ b.ser = true ∧ s.ser = true) ∨ (a.ser = false ∧ b.ser = false ∧ a.cols = b.cols ∧ s = ⟨a.cols, false⟩) := by
  have h' : (if (a.ser && b.ser) = true then some (⟨[if a.name = b.name then a.name else ""], true⟩ : Schema) else
      if (!a.ser && !b.ser && decide (a.cols = b.cols)) = true then some ⟨a.cols, false⟩ else none) = some s := h
  by_cases c : (a.ser && b.ser) = true
  · rw [if_pos c] at h'
    cases h'
    exact .inl ⟨((Bool.and_eq_true _ _).mp c).1, ((Bool.and_eq_true _ _).mp c).2, rfl⟩
  · rw [if_neg c] at h'
    obtain ⟨hc, he⟩ := ite_some h'
    simp only [Bool.and_eq_true, Bool.not_eq_true', decide_eq_true_eq] at hc
    exact .inr ⟨hc.1.1, hc.1.2, hc.2, he.symm⟩

theorem semOp_bin_some {I : Interp γ ι} {op : Nat} {A B v : FVal γ} (h : semOp I (.bin op) [A, B] = some v)
    (hv : v.ser = false) : A.sch.ser = false ∧ B.sch.ser = false ∧ A.sch.cols = B.sch.cols ∧
      v = ⟨binFrame (I.bin op) A.fr B.fr, false⟩ := by
  obtain ⟨s, hs, hvs⟩ := semOp_some h
  rcases schOp_bin_some hs with ⟨_, _, hs'⟩ | ⟨hA, hB, hc, _⟩
  · rw [hvs] at hv
    exact absurd (hs'.symm.trans hv) (by decide)
  · rw [semOp_bin_frames I op A B hA hB hc] at h
    exact ⟨hA, hB, hc, (Option.some.inj h).symm⟩

/-- Binop of two frames with the same labels: both operands are projected onto `columns` -/
theorem upBin_sound (I : Interp γ ι) {op : Nat} {a b c p o : Expr} {d : Deps} (hc : c.op = .bin op) (ha : c.args = [a, b])
    (h : upBin op a b c p d = some o) : ∀ v, den I p = some v → den I o = some v := by
  unfold upBin at h
  split at h
  · next sel sa sb sc hpo hsa hsb hsc =>
    obtain ⟨hns, h⟩ := Option.ite_none_left_eq_some.mp h
    split at h
    · next rwr hb =>
      obtain rfl := binop_spec hb
      cases h
      refine projOver_sound hpo fun vc hvc hcser hsub => ?_
      obtain rfl := schema_of_den hvc hsc
      have had := adequate_union_contains vc.sch.cols (parentOf sel) (depsOf d c) []
      rw [parentOf_cols] at had
      obtain ⟨va, vb, hva, hvb, hvc⟩ := den_binary hc ha hvc
      obtain ⟨hA, hB, hAB, rfl⟩ := semOp_bin_some hvc hcser
      obtain rfl := schema_of_den hva hsa
      obtain rfl := schema_of_den hvb hsb
      rw [hA, hB, if_neg Bool.false_ne_true, if_neg Bool.false_ne_true]
      have hnd := had.nodup (den_nodup hva : va.fr.cols.Nodup)
      obtain ⟨Fa, hFa, hFac, hFav⟩ := den_binopSide hva hA hnd had.sub
      obtain ⟨Fb, hFb, hFbc, hFbv⟩ := den_binopSide hvb hB hnd
        (fun x hx => (hAB ▸ had.sub x hx : x ∈ vb.sch.cols))
      refine ⟨binFrame (I.bin op) Fa Fb, ?_, fun x hx => ?_⟩
      · rw [den_mk2, hFa, hFb, Option.bind_some, Option.bind_some]
        exact semOp_bin_frames I op ⟨Fa, false⟩ ⟨Fb, false⟩ rfl rfl (hFac.trans hFbc.symm)
      have hcA : x ∈ va.fr.cols := hsub x hx
      have hcB : x ∈ vb.fr.cols := (hAB ▸ hcA : x ∈ vb.sch.cols)
      have hcC := had.req x hx hcA
      refine ⟨hFac ▸ hcC, ?_⟩
      show bin2 _ (if Fa.cols.contains x then Fa.val x else none) (if Fb.cols.contains x then Fb.val x else none) =
        bin2 _ (if va.fr.cols.contains x then va.fr.val x else none) (if vb.fr.cols.contains x then vb.fr.val x else none)
      rw [hFac, hFbc, List.contains_iff_mem.mpr hcC, List.contains_iff_mem.mpr hcA,
        List.contains_iff_mem.mpr hcB, hFav x hcC, hFbv x hcC]
    · cases h
  · cases h

/-! ### FromPandas absorbs the projection -/

theorem semOp_src_iff (I : Interp γ ι) (l : SrcLit) (v : FVal γ) :
    semOp I (.src l) [] = some v ↔
      l.full.Nodup ∧ (l.cols.getD l.full).Nodup ∧ (∀ c, c ∈ l.cols.getD l.full → c ∈ l.full) ∧
        v = ⟨srcFrame I l (l.cols.getD l.full), false⟩ := by
  refine (semOp_iff (I := I) (o := .src l) (vs := []) (s := ⟨l.cols.getD l.full, false⟩) rfl (fun _ => rfl)
    (normal_srcFrame I l _) v).trans ?_
  simp only [Bool.and_eq_true, decide_eq_true_eq, subsetB_iff, and_assoc]
  rfl

/-- BlockwiseIO: `Projection(FromPandas(columns=cs), sel)` → `[Projection](FromPandas(columns=proposed))` -/
theorem upSrc_sound (I : Interp γ ι) {l : SrcLit} {c p o : Expr} {d : Deps} (hc : c.op = .src l) (ha : c.args = [])
    (h : upSrc l c p d = some o) : ∀ v, den I p = some v → den I o = some v := by
  unfold upSrc at h
  split at h
  · next sel sc hpo hsc =>
    obtain ⟨hns, h⟩ := Option.ite_none_left_eq_some.mp h
    split at h
    · next rwr hio =>
      obtain ⟨proposed, hch, had, hnk⟩ := C04_io_wf sc.cols (parentOf sel) (depsOf d c) rwr hio
      have hval := C04_io_values (srcS I l) sc.cols (parentOf sel) (depsOf d c) rwr hio
      rw [parentOf_cols] at had hval
      rw [hch] at h
      cases h
      refine projOver_sound_keep rwr.keep hpo fun vc hvc _ hnd hsub => ?_
      obtain rfl := schema_of_den hvc hsc
      rw [den_args0 I ha, hc] at hvc
      obtain ⟨hfull, hcnd, hcsub, rfl⟩ := (semOp_src_iff I l vc).mp hvc
      refine ⟨⟨srcFrame I l proposed, false⟩, ?_, fun hk => ⟨rfl, fun x hx => ⟨had.req x hx (hsub x hx), ?_⟩⟩,
        fun hk => ?_⟩
      · rw [den_args0 I (mk_args _ _), mk_op]
        exact (semOp_src_iff I _ _).mpr ⟨hfull, had.nodup hcnd, fun x hx => hcsub x (had.sub x hx), rfl⟩
      · have := hval x hx (hsub x hx)
        simp only [evalSource, hch, hk, if_true, Sel.toList_many] at this
        exact (select_val_mem hx).symm.trans (this.trans (select_val_mem hx))
      · -- the parent goes exactly when the proposed columns are the requested selection
        have hsel : Sel.many proposed = sel := (hnk hk).trans (parentOf_operand sel)
        subst hsel
        simp only [evalSource, hch, hk, Bool.false_eq_true, if_false, Sel.toList_many] at hval
        refine congrArg (FVal.mk · false) (frame_ext (by rfl) (normal_srcFrame _ _ _) (normal_select _ _) ?_)
        exact fun x hx => hval x hx (hsub x hx)
    · cases h
  · cases h

/-! ### RenameFrame -/

theorem semOp_rename_iff (I : Interp γ ι) (m : List (Name × Name)) (F v : FVal γ) :
    semOp I (.rename m) [F] = some v ↔
      F.ser = false ∧ (m.map (·.1)).Nodup ∧ (F.fr.cols.map (renameFwd m)).Nodup ∧ v = ⟨renameFrame m F.fr, false⟩ := by
  refine (semOp_iff (I := I) (o := .rename m) (vs := [F]) (s := ⟨F.fr.cols.map (renameFwd m), false⟩) rfl (fun _ => rfl)
    (normal_renameFrame m F.fr) v).trans ?_
  simp only [Bool.and_eq_true, Bool.not_eq_true', decide_eq_true_eq, and_assoc]
  rfl

/-- RenameFrame: `Projection(x.rename(m), sel)` → `Projection(x[child].rename(m), sel)` -/
theorem upRename_sound (I : Interp γ ι) {m : List (Name × Name)} {x c p o : Expr} {d : Deps} (hc : c.op = .rename m)
    (ha : c.args = [x]) (h : upRename m x c p d = some o) : ∀ v, den I p = some v → den I o = some v := by
  unfold upRename at h
  split at h
  · next sel sx hpo hsx =>
    split at h
    · next rwr hr =>
      obtain ⟨hch, _, _⟩ := rename_spec hr
      rw [hch] at h
      cases h
      refine projOver_sound hpo fun vc hvc _ hsub => ?_
      obtain ⟨vx, hvx, hvc⟩ := den_unary hc ha hvc
      obtain ⟨hser, hkn, hon, rfl⟩ := (semOp_rename_iff I m vx vc).mp hvc
      obtain rfl := schema_of_den hvx hsx
      obtain ⟨child, hk1, hcsub, hcnd, hsrc⟩ := C04_rename_wf vx.fr.cols m hkn (parentOf sel) (depsOf d c) rwr hr
      -- the pushed list is a filter of the input's labels; from here on it is just `child`
      have hchild := hk1.1.symm.trans hch
      simp only [List.cons.injEq, Option.some.injEq, Sel.many.injEq, and_true] at hchild
      rw [← hchild]
      have hsl : child.Sublist vx.fr.cols := hchild ▸ List.filter_sublist
      have hinj := inj_of_nodup_map (renameFwd m) vx.fr.cols hon
      refine ⟨renameFrame m (vx.fr.select child), ?_, fun l hl => ?_⟩
      · rw [den_mk1, den_proj_some (s := .many child) hvx hser (hcnd (den_nodup hvx)) hcsub, Option.bind_some]
        exact (semOp_rename_iff I m _ _).mpr ⟨rfl, hkn, List.Nodup.sublist (List.Sublist.map _ hsl) hon, rfl⟩
      -- the requested label has its (unique) source column in the pruned input
      obtain ⟨c0, hc0, rfl⟩ := List.mem_map.mp (hsub _ hl)
      have huniq : ∀ c', c' ∈ vx.fr.cols → renameFwd m c' = renameFwd m c0 → c' = c0 :=
        fun c' hc' he => hinj c' hc' c0 hc0 he
      have hc0c : c0 ∈ child := hsrc c0 hc0 huniq (by rw [parentOf_cols]; exact hl)
      refine ⟨List.mem_map.mpr ⟨c0, hc0c, rfl⟩, ?_⟩
      have := C04_rename_values (renameR m) m rfl hkn vx.fr (parentOf sel) (depsOf d c) rwr hr c0 hc0 huniq
        (by rw [parentOf_cols]; exact hl)
      rw [evalRw_keep1 _ _ _ _ _ hk1, parentOf_cols] at this
      exact (select_val_mem hl).symm.trans (this.trans (select_val_mem hl))
    · cases h
  · cases h

end Dx.Frag

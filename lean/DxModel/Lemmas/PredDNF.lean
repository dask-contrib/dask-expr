/-
  Lemmas/PredDNF.lean — `_DNF.normalize/combine/extract_pq_filters` keep the meaning of a filter;
  Kleene evaluation of negation-free filters; agreement with pandas on null-compatible atoms.
-/
import DxModel.Pred
import DxModel.Lemmas.ListBasics
namespace Dx.Pred

variable {α : Type}

theorem evalDNF_append (t : α → Bool) (a b : DNF α) : evalDNF t (a ++ b) = (evalDNF t a || evalDNF t b) := by
  simp [evalDNF, List.any_append]

theorem evalDNF_flatten (t : α → Bool) (ds : List (DNF α)) :
    evalDNF t ds.flatten = ds.any (evalDNF t) := by
  induction ds with
  | nil => rfl
  | cons d ds ih => simp only [List.flatten_cons, evalDNF_append, ih, List.any_cons]

theorem evalDNF_map_append (t : α → Bool) (c : List α) (d : DNF α) :
    evalDNF t (d.map (fun c' => c ++ c')) = (c.all t && evalDNF t d) := by
  induction d with
  | nil => simp [evalDNF]
  | cons x xs ih =>
    simp only [evalDNF, List.map_cons, List.any_cons, List.all_append] at ih ⊢
    rw [ih]
    cases c.all t <;> simp

theorem evalDNF_flatMap (t : α → Bool) (d : DNF α) (g : List α → DNF α) :
    evalDNF t (d.flatMap g) = d.any (fun c => evalDNF t (g c)) := by
  induction d with
  | nil => rfl
  | cons x xs ih => simp only [List.flatMap_cons, evalDNF_append, ih, List.any_cons]

theorem any_and_left {β} (R : Bool) (g : β → Bool) (l : List β) :
    l.any (fun c => R && g c) = (R && l.any g) := by
  induction l with
  | nil => exact (Bool.and_false R).symm
  | cons a t ih => simp only [List.any_cons, ih, Bool.and_or_distrib_left]

theorem evalDNF_product (t : α → Bool) (ds : List (DNF α)) :
    evalDNF t (dnfProduct ds) = ds.all (evalDNF t) := by
  induction ds with
  | nil => simp [dnfProduct, evalDNF]
  | cons d ds ih =>
    simp only [dnfProduct, evalDNF_flatMap, evalDNF_map_append, ih, List.all_cons]
    rw [any_congr_mem _ (fun c => ds.all (evalDNF t) && c.all t) d (fun c _ => Bool.and_comm _ _), any_and_left,
      Bool.and_comm]
    rfl

mutual
theorem eval_dnfNormalize (t : α → Bool) : ∀ f : Filt α, evalDNF t (dnfNormalize f) = evalFilt t f
  | .tup a => by
      simp only [dnfNormalize, evalFilt, evalDNF, List.any_cons, List.all_cons, List.all_nil, List.any_nil,
        Bool.and_true, Bool.or_false]
  | .lst l => by simp only [dnfNormalize, evalFilt]
  | .orS fs => by
      simp only [dnfNormalize, evalFilt, evalDNF_flatten]
      exact eval_dnfNormalizeList_any t fs
  | .andS fs => by
      simp only [dnfNormalize, evalFilt, evalDNF_product]
      exact eval_dnfNormalizeList_all t fs
theorem eval_dnfNormalizeList_any (t : α → Bool) : ∀ fs : List (Filt α),
    (dnfNormalizeList fs).any (evalDNF t) = evalFiltAny t fs
  | [] => by simp only [dnfNormalizeList, evalFiltAny, List.any_nil]
  | f :: fs => by
      simp only [dnfNormalizeList, evalFiltAny, List.any_cons]
      rw [eval_dnfNormalize t f, eval_dnfNormalizeList_any t fs]
theorem eval_dnfNormalizeList_all (t : α → Bool) : ∀ fs : List (Filt α),
    (dnfNormalizeList fs).all (evalDNF t) = evalFiltAll t fs
  | [] => by simp only [dnfNormalizeList, evalFiltAll, List.all_nil]
  | f :: fs => by
      simp only [dnfNormalizeList, evalFiltAll, List.all_cons]
      rw [eval_dnfNormalize t f, eval_dnfNormalizeList_all t fs]
end

/-! #### normalised values are fixed points -/

theorem dnfNormalizeList_map_tup (c : List α) : dnfNormalizeList (c.map Filt.tup) = c.map (fun a => [[a]]) := by
  induction c with
  | nil => rfl
  | cons a t ih => simp [dnfNormalizeList, dnfNormalize, ih]

theorem dnfProduct_singletons (c : List α) : dnfProduct (c.map (fun a => [[a]])) = [c] := by
  induction c with
  | nil => rfl
  | cons a t ih => simp [dnfProduct, ih]

theorem dnfNormalize_conj (c : List α) : dnfNormalize (.andS (c.map .tup)) = [c] := by
  simp [dnfNormalize, dnfNormalizeList_map_tup, dnfProduct_singletons]

theorem dnfNormalizeList_conjs (d : DNF α) :
    dnfNormalizeList (d.map (fun c => Filt.andS (c.map .tup))) = d.map (fun c => [c]) := by
  induction d with
  | nil => rfl
  | cons c t ih => simp [dnfNormalizeList, dnfNormalize_conj, ih]

theorem dnfNormalize_ofDNF (d : DNF α) : dnfNormalize (Filt.ofDNF d) = d := by
  simp only [Filt.ofDNF, dnfNormalize, dnfNormalizeList_conjs]
  induction d with
  | nil => rfl
  | cons c t ih => simp [ih]

theorem evalFilt_ofDNF (t : α → Bool) (d : DNF α) : evalFilt t (Filt.ofDNF d) = evalDNF t d := by
  rw [← eval_dnfNormalize, dnfNormalize_ofDNF]

theorem ofDNF_truthy (d : DNF α) : (Filt.ofDNF d).truthy = !d.isEmpty := by
  cases d <;> simp [Filt.ofDNF, Filt.truthy]

/-! #### frozenset equality of normalised values -/

theorem conjSubset_all [DecidableEq α] (t : α → Bool) (c1 c2 : List α) (h : conjSubset c1 c2 = true)
    (h2 : c2.all t = true) : c1.all t = true := by
  simp only [conjSubset, List.all_eq_true, List.contains_iff_mem] at h h2 ⊢
  intro a ha
  exact h2 a (by simpa using h a ha)

theorem conjSetEq_all [DecidableEq α] (t : α → Bool) (c1 c2 : List α) (h : conjSetEq c1 c2 = true) :
    c1.all t = c2.all t := by
  simp only [conjSetEq, Bool.and_eq_true] at h
  rw [Bool.eq_iff_iff]
  exact ⟨conjSubset_all t c2 c1 h.2, conjSubset_all t c1 c2 h.1⟩

theorem dnfSubset_eval [DecidableEq α] (t : α → Bool) (d1 d2 : DNF α) (h : dnfSubset d1 d2 = true)
    (h1 : evalDNF t d1 = true) : evalDNF t d2 = true := by
  simp only [dnfSubset, List.all_eq_true, List.any_eq_true] at h
  simp only [evalDNF, List.any_eq_true] at h1 ⊢
  obtain ⟨c, hc, hct⟩ := h1
  obtain ⟨c', hc', heq⟩ := h c hc
  exact ⟨c', hc', by rw [← conjSetEq_all t c c' heq]; exact hct⟩

theorem dnfSetEq_eval [DecidableEq α] (t : α → Bool) (d1 d2 : DNF α) (h : dnfSetEq d1 d2 = true) :
    evalDNF t d1 = evalDNF t d2 := by
  simp only [dnfSetEq, Bool.and_eq_true] at h
  rw [Bool.eq_iff_iff]
  exact ⟨dnfSubset_eval t d1 d2 h.1, dnfSubset_eval t d2 d1 h.2⟩

theorem evalAll_pairSet [DecidableEq α] (t : α → Bool) (l r : DNF α) :
    evalFiltAll t (pairSet l r) = (evalDNF t l && evalDNF t r) := by
  unfold pairSet
  cases h : dnfSetEq l r with
  | true => simp [evalFiltAll, evalFilt_ofDNF, ← dnfSetEq_eval t l r h]
  | false => simp [evalFiltAll, evalFilt_ofDNF]

theorem evalAny_pairSet [DecidableEq α] (t : α → Bool) (l r : DNF α) :
    evalFiltAny t (pairSet l r) = (evalDNF t l || evalDNF t r) := by
  unfold pairSet
  cases h : dnfSetEq l r with
  | true => simp [evalFiltAny, evalFilt_ofDNF, ← dnfSetEq_eval t l r h]
  | false => simp [evalFiltAny, evalFilt_ofDNF]

theorem pairSet_ne_nil [DecidableEq α] (l r : DNF α) : (pairSet l r).isEmpty = false := by
  unfold pairSet; cases dnfSetEq l r <;> rfl

theorem normalize_and_pairSet_ne_nil [DecidableEq α] (l r : DNF α) (hl : l ≠ []) (hr : r ≠ []) :
    dnfNormalize (.andS (pairSet l r)) ≠ [] := by
  unfold pairSet
  cases l with
  | nil => exact absurd rfl hl
  | cons cl _ =>
    cases r with
    | nil => exact absurd rfl hr
    | cons cr _ =>
      cases dnfSetEq (cl :: _) (cr :: _) <;>
        simp [dnfNormalize, dnfNormalizeList, dnfNormalize_ofDNF, dnfProduct]

theorem normalize_or_pairSet_ne_nil [DecidableEq α] (l r : DNF α) (hl : l ≠ []) :
    dnfNormalize (.orS (pairSet l r)) ≠ [] := by
  unfold pairSet
  cases l with
  | nil => exact absurd rfl hl
  | cons cl _ =>
    cases dnfSetEq (cl :: _) r <;> simp [dnfNormalize, dnfNormalizeList, dnfNormalize_ofDNF]

/-! #### extract_pq_filters -/

theorem extractPq_atom_inv {a : Atom} {d : DNF Atom} (h : extractPq (.atom a) = some d) :
    (∃ col op c, a = .cmp col op c ∧ op ≠ .ne) ∧ d = [[a]] := by
  cases a with
  | cmp col op c =>
    simp only [extractPq] at h
    split at h
    · cases h
    · next hop => exact ⟨⟨col, op, c, rfl, hop⟩, (Option.some.inj h).symm⟩
  | isin _ _ _ => cases h
  | isna _ _ => cases h
  | colcmp _ _ _ => cases h

/-- a successful extraction of `l & r` / `l | r`: both sides are extracted, and the result is the normalised
    `_And` / `_Or` (`mk`) of the frozenset of the two -/
theorem extractPq_node_inv (mk : List (Filt Atom) → Filt Atom) (hmk : ∀ fs, (mk fs).truthy = !fs.isEmpty)
    {xl xr : Option (DNF Atom)} {d : DNF Atom}
    (h : (match xl, xr with
      | some dl, some dr =>
          if !dl.isEmpty && !dr.isEmpty then dnfNormalizeTop (some (mk (pairSet dl dr))) else none
      | _, _ => none) = some d) :
    ∃ dl dr, xl = some dl ∧ xr = some dr ∧ d = dnfNormalize (mk (pairSet dl dr)) := by
  split at h
  · next dl dr =>
    split at h
    · simp only [dnfNormalizeTop, hmk, pairSet_ne_nil, Bool.not_false, if_true] at h
      exact ⟨dl, dr, rfl, rfl, (Option.some.inj h).symm⟩
    · cases h
  · cases h

/-! #### Kleene evaluation of negation-free trees is a Boolean homomorphism on "is (non-null) true" -/

theorem and3_true (x y : Option Bool) : (and3 x y == some true) = ((x == some true) && (y == some true)) := by
  rcases x with _ | _ | _ <;> rcases y with _ | _ | _ <;> rfl

theorem or3_true (x y : Option Bool) : (or3 x y == some true) = ((x == some true) || (y == some true)) := by
  rcases x with _ | _ | _ <;> rcases y with _ | _ | _ <;> rfl

theorem keep3_negFree (v : Cells) : ∀ p : T Atom, p.negFree = true →
    keep3 v p = eval2 (fun a => a.eval3 v == some true) p := by
  intro p
  induction p with
  | atom a => intro _; rfl
  | not a _ => intro h; simp [T.negFree] at h
  | and l r ihl ihr =>
    intro h
    simp only [T.negFree, Bool.and_eq_true] at h
    have hl := ihl h.1; have hr := ihr h.2
    simp only [keep3] at hl hr ⊢
    simp only [eval3, eval2, and3_true, hl, hr]
  | or l r ihl ihr =>
    intro h
    simp only [T.negFree, Bool.and_eq_true] at h
    have hl := ihl h.1; have hr := ihr h.2
    simp only [keep3] at hl hr ⊢
    simp only [eval3, eval2, or3_true, hl, hr]

theorem some_beq_some_true (b : Bool) : (some b == some true) = b := by cases b <;> rfl

/-- a null cell makes the reader's test fail; pandas agrees except for `!=` and "not in" -/
theorem atom_nullCompatible (v : Cells) (a : Atom) (h : a.NullCompatible = true) :
    (a.eval3 v == some true) = a.eval2 v := by
  cases a with
  | cmp col op c =>
    have hne : (op == Op.ne) = false := by rw [← Bool.not_eq_true']; exact h
    simp only [Atom.eval3, Atom.eval2]
    cases v col with
    | none => exact hne.symm
    | some x => exact some_beq_some_true _
  | isin col neg cs =>
    have hneg : neg = false := by rw [← Bool.not_eq_true']; exact h
    simp only [Atom.eval3, Atom.eval2]
    cases v col with
    | none => exact hneg.symm
    | some x => exact some_beq_some_true _
  | isna col neg =>
    simp only [Atom.eval3, Atom.eval2]
    cases v col <;> exact some_beq_some_true _
  | colcmp col op col2 =>
    have hne : (op == Op.ne) = false := by rw [← Bool.not_eq_true']; exact h
    simp only [Atom.eval3, Atom.eval2]
    cases v col with
    | none => exact hne.symm
    | some x =>
      cases v col2 with
      | none => exact hne.symm
      | some y => exact some_beq_some_true _

theorem eval2_congr_atoms (t₁ t₂ : α → Bool) (p : T α) (h : ∀ a ∈ p.atoms, t₁ a = t₂ a) : eval2 t₁ p = eval2 t₂ p := by
  induction p with
  | atom a => exact h a (List.mem_singleton.mpr rfl)
  | not a ih => exact congrArg (!·) (ih h)
  | and l r ihl ihr =>
    show (eval2 t₁ l && eval2 t₁ r) = (eval2 t₂ l && eval2 t₂ r)
    rw [ihl (fun a ha => h a (List.mem_append_left _ ha)), ihr (fun a ha => h a (List.mem_append_right _ ha))]
  | or l r ihl ihr =>
    show (eval2 t₁ l || eval2 t₁ r) = (eval2 t₂ l || eval2 t₂ r)
    rw [ihl (fun a ha => h a (List.mem_append_left _ ha)), ihr (fun a ha => h a (List.mem_append_right _ ha))]

theorem evalDNF_congr (t₁ t₂ : α → Bool) (d : DNF α) (h : ∀ c ∈ d, ∀ a ∈ c, t₁ a = t₂ a) :
    evalDNF t₁ d = evalDNF t₂ d := by
  -- some conjunction holds throughout under `t₁` iff the same one does under `t₂`
  rw [Bool.eq_iff_iff]
  simp only [evalDNF, List.any_eq_true, List.all_eq_true]
  exact ⟨fun ⟨c, hc, ha⟩ => ⟨c, hc, fun a haa => h c hc a haa ▸ ha a haa⟩,
    fun ⟨c, hc, ha⟩ => ⟨c, hc, fun a haa => (h c hc a haa).symm ▸ ha a haa⟩⟩

end Dx.Pred

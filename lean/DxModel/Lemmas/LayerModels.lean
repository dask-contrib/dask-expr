/-
  Lemmas/LayerModels.lean — `LayerWF` (LayerOK.lean) of the layer models that have internal keys.
  Gather (Lengths, SeriesQuantile*) and CumG (GroupByCumulativeFinalizer) go through `LayerWF.ofRefs`.
  Blockwise, CumulativeFinalize, CreateOverlappingPartitions, TreeReduce, BroadcastJoin and Simple/Task/DiskShuffle
  have their reference pass (`Stratified`, Lemmas/LayerRun.lean) proven next to their semantics, for every input
  function that defines the partitions the dependencies have; `LSpec.refOK_of_stratified` turns it into the obligation
  of `LayerWF.ofRefs`, and what is left here is which output keys `(name, i)` a layer defines and the bound of its ranks.
-/
import DxModel.LayerOK
import DxModel.Lemmas.LayerRun
import DxModel.Layers.Gather
import DxModel.Lemmas.Blockwise
import DxModel.Lemmas.Cumulative
import DxModel.Lemmas.Overlap
import DxModel.Lemmas.TreeReduce
import DxModel.Lemmas.Knobs
import DxModel.Lemmas.ShuffleWF
namespace Dx

/-- `Stratified` over the partitions the dependencies have is the graph-level form of the obligation of
    `LayerWF.ofRefs`: a layer whose reference pass is known for every input function that defines those partitions
    needs no further look at its tasks. -/
theorem LSpec.refOK_of_stratified {κ} {L : LSpec κ} {depN : List Nat} (vals : Nat → Nat → V)
    (hs : Stratified L.task (L.extInputs depN vals) L.rank) :
    ∀ k t, L.task k = some t → ∀ r ∈ t.refs, L.RefOK depN k r :=
  fun k t hk r hr => (hs k t hk r hr).imp_right fun h => (L.extInputs_isSome depN vals r).mp h.2

/-! ### Gather: Lengths, SeriesQuantileTdigest, SeriesQuantileDask -/
namespace Gather

def spec (n : Nat) : LSpec Key :=
  { task := layer n
    nout := 1
    out := fun _ => .out
    outIdx := fun k => match k with | .out => some 0 | _ => none
    depOf := fun k => match k with | .dep i => some (0, i) | _ => none
    rank := fun k => match k with | .dep _ => 0 | .aux _ => 1 | .out => 2
    bound := 2 }

theorem gather_wf (n : Nat) : LayerWF (spec n) [n] := by
  refine .ofRefs ?_ (fun _ _ => rfl) ?_ ?_ ?_ ?_
  · intro i hi
    obtain rfl : i = 0 := Nat.lt_one_iff.mp hi
    rfl
  · intro k i _ hidx
    cases k <;> cases hidx
    exact ⟨Nat.one_pos, rfl⟩
  · intro k hk; cases k <;> first | rfl | cases hk
  · intro k t hk r hr
    match k, hk with
    | .aux i, hk =>
      obtain ⟨hi, ht⟩ := Option.ite_none_right_eq_some.mp hk
      cases ht
      cases List.mem_singleton.mp hr
      exact .dep rfl rfl hi
    | .out, hk =>
      cases hk
      obtain ⟨i, hi, rfl⟩ := List.mem_map.mp hr
      exact .own (by simp [spec, layer, List.mem_range.mp hi]) (Nat.lt_succ_self 1)
  -- per constructor `rank k` and `bound` are numerals: `Nat.ble` evaluates (the same step closes the other layers' bounds)
  · intro k _; cases k <;> exact Nat.le_of_ble_eq_true rfl

theorem gather_listed (n : Nat) : Listed (spec n) (keys n) := by
  intro k
  cases k <;> simp [spec, layer, keys]

end Gather

/-! ### CumG: GroupByCumulativeFinalizer -/
namespace CumG

def spec (p : Params) : LSpec Key :=
  { task := layer p
    nout := p.n
    out := Key.out
    outIdx := fun k => match k with | .out i => some i | _ => none
    depOf := fun k => match k with | .dep d i => some (d, i) | _ => none
    rank := fun k => match k with | .dep _ _ => 0 | .inter i => i | .out i => i + 1
    bound := p.n + 1 }

/-- what the layer needs of its dependencies: `frame` has `n` partitions, `cum_raw` at least one,
    `cum_last` at least `n - 1` -/
def DepsOK (p : Params) (depN : List Nat) : Prop :=
  (∃ nF, depN[p.dF]? = some nF ∧ p.n ≤ nF) ∧ (∃ nR, depN[p.dR]? = some nR ∧ 1 ≤ nR) ∧
  (∃ nL, depN[p.dL]? = some nL ∧ p.n ≤ nL + 1)

theorem layer_isSome_out (p : Params) (hn : 1 ≤ p.n) (i : Nat) : (layer p (.out i)).isSome ↔ i < p.n :=
  match i with
  | 0 => ⟨fun _ => hn, fun _ => rfl⟩
  | _ + 1 => Option.isSome_ite

theorem layer_isSome_inter (p : Params) (i : Nat) : (layer p (.inter i)).isSome ↔ 1 ≤ i ∧ i < p.n :=
  match i with
  | 0 => ⟨nofun, fun h => absurd h.1 (by decide)⟩
  | 1 => Option.isSome_ite.trans ⟨fun h => ⟨Nat.le_refl 1, h⟩, And.right⟩
  | _ + 2 => Option.isSome_ite.trans ⟨fun h => ⟨Nat.le_add_left 1 _, h⟩, And.right⟩

theorem cumg_wf (p : Params) (depN : List Nat) (hn : 1 ≤ p.n) (hd : DepsOK p depN) : LayerWF (spec p) depN := by
  obtain ⟨⟨nF, hF1, hF2⟩, ⟨nR, hR1, hR2⟩, ⟨nL, hL1, hL2⟩⟩ := hd
  refine .ofRefs (fun _ _ => rfl) (fun i hi => (layer_isSome_out p hn i).mpr hi) ?_ ?_ ?_ ?_
  · intro k i hk hidx
    cases k <;> cases hidx
    exact ⟨(layer_isSome_out p hn _).mp hk, rfl⟩
  · intro k hk; cases k <;> first | rfl | cases hk
  · intro k t hk r hr
    match k, hk with
    | .out 0, hk =>
      cases hk
      cases List.mem_singleton.mp hr
      exact .dep rfl hR1 hR2
    | .out (i + 1), hk =>
      obtain ⟨hi, ht⟩ := Option.ite_none_right_eq_some.mp hk
      cases ht
      rcases List.mem_cons.mp hr with rfl | hr
      · exact .dep rfl hF1 (Nat.lt_of_lt_of_le hi hF2)
      · cases List.mem_singleton.mp hr
        exact .own ((layer_isSome_inter p _).mpr ⟨Nat.succ_pos i, hi⟩) (Nat.lt_succ_self _)
    | .inter 1, hk =>
      obtain ⟨h1, ht⟩ := Option.ite_none_right_eq_some.mp hk
      cases ht
      cases List.mem_singleton.mp hr
      exact .dep rfl hL1 (by omega)
    | .inter (i + 2), hk =>
      obtain ⟨hi, ht⟩ := Option.ite_none_right_eq_some.mp hk
      cases ht
      rcases List.mem_cons.mp hr with rfl | hr
      · exact .own ((layer_isSome_inter p _).mpr ⟨Nat.succ_pos i, Nat.lt_of_succ_lt hi⟩) (Nat.lt_succ_self _)
      · cases List.mem_singleton.mp hr
        exact .dep rfl hL1 (by omega)
  · intro k hk
    match k with
    | .dep _ _ => cases hk
    | .out i => exact Nat.succ_le_succ (Nat.le_of_lt ((layer_isSome_out p hn i).mp hk))
    | .inter i => exact Nat.le_succ_of_le (Nat.le_of_lt ((layer_isSome_inter p i).mp hk).2)

end CumG

/-! ### Blockwise (`Blockwise._task` / `_blockwise_arg` / `_broadcast_dep`, the default `Expr._layer`) -/
namespace Blockwise

def spec (p : Params) : LSpec Key :=
  { task := layer p
    nout := p.n
    out := Key.out
    outIdx := fun k => match k with | .out i => some i | _ => none
    depOf := fun k => match k with | .dep d i => some (d, i) | _ => none
    rank := bwRank
    bound := 1 }

/-- the partition count an operand carries is the one of the dependency it names -/
def ArgsOK (p : Params) (depN : List Nat) : Prop :=
  ∀ d np nd, Arg.expr d np nd ∈ p.args → depN[d]? = some np

theorem layer_out_eq_some {p : Params} {i : Nat} {t : Tsk Key} :
    layer p (.out i) = some t ↔ i < p.n ∧ .apply opFn (p.args.filterMap (argKey p i)) = t := by
  simp only [layer, Option.ite_none_right_eq_some, Option.some.injEq]

/-- under what `Blockwise._divisions` asserts (`WF`: a non-broadcast dependency is partitioned like `self`) -/
theorem bw_wf (p : Params) (depN : List Nat) (hwf : WF p) (ha : ArgsOK p depN) : LayerWF (spec p) depN := by
  refine .ofRefs (fun _ _ => rfl) (fun i hi => ?_) ?_ ?_
    (LSpec.refOK_of_stratified (fun _ _ => .unit) (bw_stratified' p hwf _ fun d np nd hmem i hi =>
      (LSpec.extInputs_isSome ..).mpr ⟨d, i, np, rfl, ha d np nd hmem, hi⟩)) ?_
  · exact Option.isSome_iff_exists.mpr ⟨_, layer_out_eq_some.mpr ⟨hi, rfl⟩⟩
  · intro k i hk hidx
    cases k <;> cases hidx
    obtain ⟨t, ht⟩ := Option.isSome_iff_exists.mp hk
    exact ⟨(layer_out_eq_some.mp ht).1, rfl⟩
  · intro k hk; cases k <;> first | rfl | cases hk
  · intro k _; cases k <;> exact Nat.le_of_ble_eq_true rfl

end Blockwise

/-! ### CumulativeFinalize -/
namespace Cum

def spec (n : Nat) : LSpec Key :=
  { task := layer n
    nout := n
    out := Key.out
    outIdx := fun k => match k with | .out i => some i | _ => none
    depOf := fun k => match k with | .dep i => some (0, i) | .prev i => some (1, i) | _ => none
    rank := cumRank
    bound := n + 1 }

theorem cum_isSome_out (n : Nat) (hn : 1 ≤ n) (i : Nat) : (layer n (.out i)).isSome ↔ i < n :=
  match i with
  | 0 => ⟨fun _ => hn, fun _ => rfl⟩
  | _ + 1 => Option.isSome_ite

theorem cum_isSome_inter (n : Nat) (i : Nat) : (layer n (.inter i)).isSome ↔ 1 ≤ i ∧ i < n :=
  match i with
  | 0 => ⟨nofun, fun h => absurd h.1 (by decide)⟩
  | 1 => Option.isSome_ite.trans ⟨fun h => ⟨Nat.le_refl 1, h⟩, And.right⟩
  | _ + 2 => Option.isSome_ite.trans ⟨fun h => ⟨Nat.le_add_left 1 _, h⟩, And.right⟩

/-- `frame` (the CumulativeBlockwise stage) and `previous_partitions` (TakeLast) both have `n` partitions -/
theorem cum_wf (n : Nat) (hn : 1 ≤ n) : LayerWF (spec n) [n, n] := by
  have hin : ∀ i, i < n → ((spec n).extInputs [n, n] (fun _ _ => .unit) (.dep i)).isSome ∧
      ((spec n).extInputs [n, n] (fun _ _ => .unit) (.prev i)).isSome := fun i hi =>
    ⟨(LSpec.extInputs_isSome ..).mpr ⟨0, i, n, rfl, rfl, hi⟩, (LSpec.extInputs_isSome ..).mpr ⟨1, i, n, rfl, rfl, hi⟩⟩
  refine .ofRefs (fun _ _ => rfl) (fun i hi => (cum_isSome_out n hn i).mpr hi) ?_ ?_
    (LSpec.refOK_of_stratified _ (cum_stratified' n _ (hin 0 hn).1 hin)) ?_
  · intro k i hk hidx
    cases k <;> cases hidx
    exact ⟨(cum_isSome_out n hn _).mp hk, rfl⟩
  · intro k hk; cases k <;> first | rfl | cases hk
  · intro k hk
    match k with
    | .dep _ => cases hk
    | .prev _ => cases hk
    | .out i => exact Nat.succ_le_succ (Nat.le_of_lt ((cum_isSome_out n hn i).mp hk))
    | .inter i => exact Nat.le_succ_of_le (Nat.le_of_lt ((cum_isSome_inter n i).mp hk).2)

end Cum

/-! ### restriction of a closed, ranked graph to the keys below a rank -/

/-- the graph `g` without its keys of rank above `b` -/
def belowRank {κ} (g : Graph κ) (rank : κ → Nat) (b : Nat) : Graph κ := fun k => if rank k ≤ b then g k else none

theorem belowRank_stratified {κ} {g : Graph κ} {inp : κ → Option V} {rank : κ → Nat} (b : Nat)
    (h : Stratified g inp rank) : Stratified (belowRank g rank b) inp rank := by
  intro k t hk d hd
  obtain ⟨hle, hk⟩ := Option.ite_none_right_eq_some.mp hk
  rcases h k t hk d hd with ⟨hs, hlt⟩ | ⟨hn, hi⟩
  · exact .inl ⟨(congrArg Option.isSome (if_pos (Nat.le_trans (Nat.le_of_lt hlt) hle))).trans hs, hlt⟩
  · refine .inr ⟨?_, hi⟩
    unfold belowRank
    split
    · exact hn
    · rfl

/-! ### CreateOverlappingPartitions (integer windows).  `Overlap.layer` also carries the `_overlap_chunk`
    stage (`res`, rank 3) of the MapPartitions expression above it; the layer of the expression itself is the
    part of rank ≤ 2. -/
namespace Overlap

def ownLayer (p : Params) : Graph Key := belowRank (layer p) ovRank 2

def spec (p : Params) : LSpec Key :=
  { task := ownLayer p
    nout := p.n
    out := Key.out
    outIdx := fun k => match k with | .out i => some i | _ => none
    depOf := fun k => match k with | .dep i => some (0, i) | _ => none
    rank := ovRank
    bound := 2 }

theorem ownLayer_out (p : Params) (i : Nat) : ownLayer p (.out i) = layer p (.out i) := by
  simp [ownLayer, belowRank, ovRank]

theorem ownLayer_prep (p : Params) (i : Nat) : ownLayer p (.prep i) = layer p (.prep i) := by
  simp [ownLayer, belowRank, ovRank]

theorem ownLayer_app (p : Params) (i : Nat) : ownLayer p (.app i) = layer p (.app i) := by
  simp [ownLayer, belowRank, ovRank]

theorem ov_wf (p : Params) (hn : 1 ≤ p.n) : LayerWF (spec p) [p.n] := by
  have hout : ∀ i, (ownLayer p (.out i)).isSome ↔ i < p.n := by
    intro i
    rw [ownLayer_out]
    exact Option.isSome_ite.trans (by rw [lenPrevs_eq p hn, lenNexts_eq p hn, and_self])
  refine .ofRefs (fun _ _ => rfl) (fun i hi => (hout i).mpr hi) ?_ ?_
    (LSpec.refOK_of_stratified (fun _ _ => .unit) (belowRank_stratified 2 (ov_stratified' p hn _ fun i hi =>
      (LSpec.extInputs_isSome ..).mpr ⟨0, i, p.n, rfl, rfl, hi⟩))) ?_
  · intro k i hk hidx
    cases k <;> cases hidx
    exact ⟨(hout _).mp hk, rfl⟩
  · intro k hk; cases k <;> first | rfl | cases hk
  · intro k hk
    obtain ⟨t, ht⟩ := Option.isSome_iff_exists.mp hk
    exact (Option.ite_none_right_eq_some.mp ht).1

end Overlap

/-! ### TreeReduce -/
namespace Tree

def spec (p : Params) : LSpec Key :=
  { task := layer p
    nout := 1
    out := fun _ => .out
    outIdx := fun k => match k with | .out => some 0 | _ => none
    depOf := fun k => match k with | .dep i => some (0, i) | _ => none
    rank := treeRank p.n
    bound := p.n + 1 }

theorem layer_out_isSome (p : Params) : (layer p .out).isSome := by
  have key : ∀ k f j keys, (graphLoop p k f j keys .out).isSome := by
    intro k f
    induction f with
    | zero => intro j keys; rfl
    | succ f ih =>
      intro j keys
      by_cases hlt : keys.length > k
      · rw [graphLoop_step p k f j keys .out hlt (fun _ => nofun)]
        exact ih _ _
      · rw [graphLoop_le p k f j keys hlt]
        rfl
  obtain ⟨k, f, _, e, _⟩ := layer_eq_loop p
  exact e ▸ key k f 1 _

theorem rank_le (p : Params) (q : Key) (h : (layer p q).isSome) : treeRank p.n q ≤ p.n + 1 := by
  cases q with
  | dep i => exact Nat.zero_le _
  | out => exact Nat.le_refl _
  | node j i =>
    -- levels are numbered from 1 and the loop runs at most `n` times
    have key : ∀ k f j0 keys, (graphLoop p k f j0 keys (.node j i)).isSome → j < j0 + f := by
      intro k f
      induction f with
      | zero => intro j0 keys h; cases h
      | succ f ih =>
        intro j0 keys h
        by_cases hlt : keys.length > k
        · by_cases hj : j = j0
          · exact hj ▸ Nat.lt_add_of_pos_right (Nat.succ_pos f)
          · rw [graphLoop_step p k f j0 keys _ hlt (fun _ h' => hj (Key.node.inj h').1)] at h
            exact Nat.add_right_comm j0 1 f ▸ ih _ _ h
        · rw [graphLoop_le p k f j0 keys hlt] at h
          cases h
    obtain ⟨k, f, hf, e, _⟩ := layer_eq_loop p
    have := key k f 1 (depKeys p.n) (e ▸ h)
    exact Nat.le_of_lt (Nat.lt_of_lt_of_le this (Nat.add_comm 1 f ▸ Nat.succ_le_succ hf))

theorem tree_wf (p : Params) : LayerWF (spec p) [p.n] := by
  refine .ofRefs ?_ (fun _ _ => layer_out_isSome p) ?_ ?_
    (LSpec.refOK_of_stratified (fun _ _ => .unit)
      (tree_stratified p _ fun i hi => (LSpec.extInputs_isSome ..).mpr ⟨0, i, p.n, rfl, rfl, hi⟩))
    (rank_le p)
  · intro i hi
    obtain rfl : i = 0 := Nat.lt_one_iff.mp hi
    rfl
  · intro k i _ hidx
    cases k <;> cases hidx
    exact ⟨Nat.one_pos, rfl⟩
  · intro k hk
    cases k with
    | dep i => rw [show (spec p).task = layer p from rfl, layer_dep_none] at hk; cases hk
    | node _ _ => rfl
    | out => rfl

end Tree

/-! ### BroadcastJoin.  The output keys are `(name, part_out)` for `part_out in self._partitions`, while
    `__dask_keys__` asks for `(name, i)`, `i < len(_partitions)`: the layer defines exactly its output keys only
    for the unfiltered expression (`parts = range n`) — see `bj_filtered_counterexample` (finding D66). -/
namespace KJ

def otherDep (p : Params) : Nat := if p.side = .left then 1 else 0
def bcDep (p : Params) : Nat := if p.side = .left then 0 else 1

def spec (p : Params) : LSpec Key :=
  { task := layer p
    nout := p.parts.length
    out := Key.out
    outIdx := fun k => match k with | .out i => some i | _ => none
    depOf := fun k => match k with | .other i => some (otherDep p, i) | .bc j => some (bcDep p, j) | _ => none
    rank := bjRank
    bound := 3 }

/-- `dependencies() = [left, right]` -/
def depN (p : Params) (nother : Nat) : List Nat := if p.side = .left then [p.bsize, nother] else [nother, p.bsize]

theorem depN_other (p : Params) (nother : Nat) : (depN p nother)[otherDep p]? = some nother := by
  unfold depN otherDep; split <;> simp

theorem depN_bc (p : Params) (nother : Nat) : (depN p nother)[bcDep p]? = some p.bsize := by
  unfold depN bcDep; split <;> simp

theorem layer_out_isSome (p : Params) (i : Nat) : (layer p (.out i)).isSome ↔ i ∈ p.parts := by
  simp only [layer]; split <;> simp [*]

theorem bj_wf (p : Params) (n : Nat) (hP : p.parts = List.range n) : LayerWF (spec p) (depN p n) := by
  have hout : ∀ i, (layer p (.out i)).isSome ↔ i < p.parts.length := by
    intro i; rw [layer_out_isSome, hP, List.length_range]; exact List.mem_range
  refine .ofRefs (fun _ _ => rfl) (fun i hi => (hout i).mpr hi) ?_ ?_
    (LSpec.refOK_of_stratified (fun _ _ => .unit) (bj_stratified' p _
      (fun i hi => (LSpec.extInputs_isSome ..).mpr
        ⟨otherDep p, i, n, rfl, depN_other p n, List.mem_range.mp (hP ▸ hi)⟩)
      (fun j hj => (LSpec.extInputs_isSome ..).mpr ⟨bcDep p, j, p.bsize, rfl, depN_bc p n, hj⟩))) ?_
  · intro k i hk hidx
    cases k <;> cases hidx
    exact ⟨(hout _).mp hk, rfl⟩
  · intro k hk; cases k <;> first | rfl | cases hk
  · intro k _; cases k <;> exact Nat.le_of_ble_eq_true rfl

/-- D66: with the selection `_partitions = [2]` the requested key `(name, 0)` is not defined by the layer -/
theorem bj_filtered_counterexample :
    (layer { how := .inner, side := .right, parts := [2], bsize := 1 } (.out 0)).isSome = false := by decide

end KJ

/-! ### SimpleShuffle, DiskShuffle, staged TaskShuffle -/
namespace Shuffle

def outIdx : Key → Option Nat
  | .out .self j => some j
  | _ => none

def depOf : Key → Option (Nat × Nat)
  | .dep i => some (0, i)
  | _ => none

def simpleSpec (p : Params) : LSpec Key :=
  { task := simpleTask p, nout := p.parts.length, out := Key.out .self, outIdx := outIdx, depOf := depOf
    rank := simpleRank, bound := 2 }

/-- What the three shuffle layers share: outputs `(self._name, j)`, the frame as only dependency.  The reference
    pass of each (Lemmas/ShuffleWF.lean) holds for any inputs that define the partitions of the frame. -/
theorem wf_of {task : Graph Key} {rank : Key → Nat} {nout bound nin : Nat}
    (hs : ∀ inp : Key → Option V, (∀ i, i < nin → (inp (.dep i)).isSome) → Stratified task inp rank)
    (hout : ∀ j, (task (.out .self j)).isSome ↔ j < nout)
    (hown : ∀ k, (task k).isSome → depOf k = none)
    (hbound : ∀ k, (task k).isSome → rank k ≤ bound) :
    LayerWF { task := task, nout := nout, out := Key.out .self, outIdx := outIdx, depOf := depOf,
              rank := rank, bound := bound } [nin] := by
  refine LayerWF.ofRefs (fun _ _ => rfl) (fun j hj => (hout j).mpr hj) ?_ hown
    (LSpec.refOK_of_stratified (fun _ _ => .unit)
      (hs _ fun i hi => (LSpec.extInputs_isSome ..).mpr ⟨0, i, nin, rfl, rfl, hi⟩)) hbound
  intro k i hk hidx
  cases k with
  | out n j =>
    cases n <;> cases hidx
    exact ⟨(hout _).mp hk, rfl⟩
  | _ => cases hidx

theorem simple_wf (p : Params) : LayerWF (simpleSpec p) [p.nin] := by
  refine wf_of (simple_stratified p) ?_ ?_ ?_
  · intro j; simp only [simpleTask]; split <;> simp [*]
  · intro k hk; cases k <;> first | rfl | cases hk
  · intro k _; cases k <;> exact Nat.le_of_ble_eq_true rfl

def diskSpec (p : Params) : LSpec Key :=
  { task := diskTask p, nout := p.parts.length, out := Key.out .self, outIdx := outIdx, depOf := depOf
    rank := diskRank, bound := 3 }

theorem disk_wf (p : Params) : LayerWF (diskSpec p) [p.nin] := by
  refine wf_of (disk_stratified p) ?_ ?_ ?_
  · intro j; simp only [diskTask]; split <;> simp [*]
  · intro k hk; cases k <;> first | rfl | cases hk
  · intro k _; cases k <;> exact Nat.le_of_ble_eq_true rfl

def stagedSpec (p : Params) : LSpec Key :=
  { task := stagedTask p, nout := p.parts.length, out := Key.out .self, outIdx := outIdx, depOf := depOf
    rank := stagedRank p, bound := 4 * p.stages + 6 }

/-- with at least one stage, the name `self` is the last stage iff `npartitions_out = npartitions` -/
theorem stageOf_self (p : Params) (hst : 1 ≤ p.stages) :
    stageOf p .self = if p.nout = p.nin then some (p.stages - 1) else none := by
  simp [stageOf, lastEq, Nat.sub_add_cancel hst, hst]

theorem staged_out_self (p : Params) (hst : 1 ≤ p.stages) (j : Nat) :
    (stagedTask p (.out .self j)).isSome ↔ j < p.parts.length := by
  simp only [stagedTask, stageOf_self p hst]
  by_cases h : p.nout = p.nin
  · have hl : lastEq p (p.stages - 1) = true := by simp [lastEq, Nat.sub_add_cancel hst, h]
    simp only [h, if_true, partsOut, hl]
    split <;> simp [*]
  · simp only [h, if_false, ne_eq, not_false_eq_true, and_self, if_true]
    split <;> simp [*]
theorem stagedRank_le (p : Params) (k : Key) : stagedRank p k ≤ 4 * p.stages + 6 := by
  have hs : ∀ n s, stageOf p n = some s → 4 * s ≤ 4 * p.stages := fun n s h =>
    Nat.mul_le_mul_left 4 (Nat.le_of_lt (stageOf_some p n s h).2)
  have hg : ∀ n, 4 * (stageOf p n).getD 0 ≤ 4 * p.stages := by
    intro n
    cases hn : stageOf p n with
    | none => exact Nat.zero_le _
    | some s => exact hs n s hn
  cases k with
  | out n j =>
    simp only [stagedRank]
    split
    · next s hn => exact Nat.add_le_add (hs n s hn) (by decide)
    · exact Nat.le_refl _
  | split n idx inp => exact Nat.add_le_add (hg n) (by decide)
  | group n inp => exact Nat.add_le_add (hg n) (by decide)
  | empty => exact Nat.le_add_left 1 _
  | rgroup => exact Nat.le_succ _
  | _ => exact Nat.zero_le _
/-- under the (T3-checked) hypothesis on the float stage arithmetic -/
theorem staged_wf (p : Params) (harith : stageArithOK p.nin p.stages p.nsplits = true) (hnin : 0 < p.nin) :
    LayerWF (stagedSpec p) [p.nin] := by
  have hst : 1 ≤ p.stages := by
    simp only [stageArithOK, Bool.and_eq_true, decide_eq_true_eq] at harith
    exact harith.1.1
  refine wf_of (fun inp hinp k t hk d hd => ?_) (staged_out_self p hst) ?_ (fun k _ => stagedRank_le p k)
  · exact (staged_refs p inp hinp hk hd).elim .inr fun h => .inl ⟨h.2 harith hnin, h.1⟩
  · intro k hk; cases k <;> first | rfl | cases hk

end Shuffle
end Dx

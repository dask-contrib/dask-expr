/-
  Lemmas/FusionTask.lean — the sub-graph built by `Fused._task(index)` (nested groups at any position,
  merged without their dependency placeholders; later writes win) binds every ordinary member's key
  to the member's own task, every nested group's keys to the chain leading to its first member, and
  every external key to its placeholder; evaluating it therefore computes what the unfused member
  tasks compute.
-/
import DxModel.FusionCheck
import DxModel.Lemmas.FusionBasic
namespace Dx.Fusion
open Dx

/-! ### `lastWrite` -/

theorem lastWrite_eq_none_iff {β} {ws : List (FKey × β)} {k : FKey} :
    lastWrite ws k = none ↔ ∀ b ∈ ws, b.1 ≠ k := by
  unfold lastWrite
  simp only [List.lookup_eq_none_iff, List.mem_reverse, bne_iff_ne]
  exact ⟨fun h b hb => (h b hb).symm, fun h b hb => (h b hb).symm⟩

theorem lastWrite_mem {β} {ws : List (FKey × β)} {k : FKey} {t : β} (h : lastWrite ws k = some t) :
    (k, t) ∈ ws :=
  List.mem_reverse.mp (lookup_mem (l := ws.reverse) h)

theorem lastWrite_all {β} (ws : List (FKey × β)) (k : FKey) (t : β) (hex : ∃ b ∈ ws, b.1 = k)
    (hall : ∀ b ∈ ws, b.1 = k → b.2 = t) : lastWrite ws k = some t := by
  cases h : lastWrite ws k with
  | none =>
    obtain ⟨b, hb, e⟩ := hex
    exact absurd e (lastWrite_eq_none_iff.mp h b hb)
  | some t' => exact congrArg some (hall _ (lastWrite_mem h) rfl)

theorem lastWrite_append {β} (A B : List (FKey × β)) (k : FKey) :
    lastWrite (A ++ B) k = (lastWrite B k).or (lastWrite A k) := by
  unfold lastWrite
  rw [List.reverse_append, List.lookup_append]

theorem lastWrite_append_left {β} (A B : List (FKey × β)) (k : FKey) (h : ∀ b ∈ B, b.1 ≠ k) :
    lastWrite (A ++ B) k = lastWrite A k := by
  rw [lastWrite_append, lastWrite_eq_none_iff.mpr h]
  rfl

theorem lastWrite_append_right {β} (A B : List (FKey × β)) (k : FKey) (t : β)
    (h : lastWrite B k = some t) : lastWrite (A ++ B) k = some t := by
  rw [lastWrite_append, h]
  rfl

/-! ### unfolding the checker -/

theorem plainAt_spec {dag : Dag} {t : Nat} (h : plainAt dag t = true) :
    ∃ tn, getNode dag t = some tn ∧ tn.blockwise = true ∧ tn.members = [] ∧ tn.name = t := by
  unfold plainAt at h
  cases hg : getNode dag t with
  | none => simp [hg] at h
  | some tn =>
    simp only [hg, Bool.and_eq_true, List.isEmpty_iff, beq_iff_eq] at h
    exact ⟨tn, rfl, h.1.1, h.1.2, h.2⟩

/-- `levelOK dag np (fuel+1) f` as a proposition; `fuel` bounds the nesting depth still to come -/
structure Level (dag : Dag) (np fuel : Nat) (f : Node) : Prop where
  kall : f.kall = true
  npart : f.npart = np
  nonempty : f.members ≠ []
  member : ∀ m ∈ f.members, m < f.name ∧ ∃ mn, getNode dag m = some mn ∧ mn.blockwise = true ∧ mn.name = m ∧
    (mn.members ≠ [] → levelOK dag np fuel mn = true)
  head : ∃ rn, getNode dag (f.members.headD 0) = some rn ∧ rn.npart = np
  deps_out : ∀ d ∈ f.deps, d ∉ inner dag (fuel+1) f ∧ d ≠ f.name

theorem levelOK_spec {dag : Dag} {np fuel : Nat} {f : Node} (h : levelOK dag np (fuel+1) f = true) :
    Level dag np fuel f := by
  unfold levelOK at h
  simp only [Bool.and_eq_true, Bool.not_eq_true', List.all_eq_true, decide_eq_true_eq, beq_iff_eq,
    decide_eq_false_iff_not] at h
  obtain ⟨⟨⟨⟨⟨⟨_, hk⟩, hnp⟩, hne⟩, hmem⟩, hhead⟩, hdeps⟩ := h
  refine ⟨hk, hnp, ?_, ?_, ?_, ?_⟩
  · intro h0; rw [h0] at hne; cases hne
  · intro m hm
    obtain ⟨hlt, hrest⟩ := hmem m hm
    cases hg : getNode dag m with
    | none => rw [hg] at hrest; cases hrest
    | some mn =>
      simp only [hg, Bool.and_eq_true, beq_iff_eq] at hrest
      exact ⟨hlt, mn, rfl, hrest.1.1, hrest.1.2, fun hne' => by have := hrest.2; rwa [if_pos hne'] at this⟩
  · cases hg : getNode dag (f.members.headD 0) with
    | none => rw [hg] at hhead; cases hhead
    | some rn =>
      rw [hg] at hhead
      exact ⟨rn, rfl, by simpa using hhead⟩
  · exact hdeps

/-! ### the writes other than the placeholders -/

def coreWrites (dag : Dag) (index : Nat) : Nat → Node → List (FKey × Tsk FKey)
  | 0, _ => []
  | fuel+1, f =>
    [(FKey.top f.name, Tsk.alias (FKey.part (f.members.headD 0) index))] ++
    f.members.flatMap (blockOf dag index (fun m => coreWrites dag index fuel m))

theorem core_noPh (dag : Dag) (index : Nat) : ∀ (fuel : Nat) (f : Node),
    ∀ w ∈ coreWrites dag index fuel f, isPh w.2 = false := by
  intro fuel
  induction fuel with
  | zero => intro f w hw; simp [coreWrites] at hw
  | succ fuel ih =>
    intro f w hw
    simp only [coreWrites, List.mem_append, List.mem_singleton, List.mem_flatMap] at hw
    rcases hw with rfl | ⟨m, _, hw⟩
    · rfl
    · unfold blockOf at hw
      cases hg : getNode dag m with
      | none => simp [hg] at hw
      | some mn =>
        simp only [hg] at hw
        by_cases hne : mn.members ≠ []
        · rw [if_pos hne] at hw
          rcases List.mem_append.mp hw with hw | hw
          · exact ih mn w hw
          · simp only [List.mem_singleton] at hw; subst hw; rfl
        · rw [if_neg hne] at hw
          simp only [List.mem_singleton] at hw; subst hw; rfl

theorem ph_isPh (dag : Dag) (f : Node) (index : Nat) : ∀ w ∈ phWrites dag f index, isPh w.2 = true := by
  intro w hw
  unfold phWrites at hw
  rw [List.mem_map] at hw
  obtain ⟨⟨j, d⟩, _, rfl⟩ := hw
  rfl

theorem filter_core (dag : Dag) (index : Nat) : ∀ (fuel : Nat) (f : Node),
    (fusedWrites dag index fuel f).filter (fun w => !isPh w.2) = coreWrites dag index fuel f := by
  intro fuel
  induction fuel with
  | zero => intro f; rfl
  | succ fuel ih =>
    intro f
    have hfun : (fun m => (fusedWrites dag index fuel m).filter (fun w => !isPh w.2)) =
        (fun m => coreWrites dag index fuel m) := funext ih
    simp only [fusedWrites, hfun]
    show List.filter _ (coreWrites dag index (fuel+1) f ++ phWrites dag f index) = _
    rw [List.filter_append, List.filter_eq_self.mpr fun w hw => by simp [core_noPh dag index _ f w hw],
      List.filter_eq_nil_iff.mpr fun w hw => by simp [ph_isPh dag f index w hw], List.append_nil]

/-- the dict = the core writes followed by this group's own placeholders -/
theorem writes_succ (dag : Dag) (index : Nat) (fuel : Nat) (f : Node) :
    fusedWrites dag index (fuel+1) f = coreWrites dag index (fuel+1) f ++ phWrites dag f index := by
  simp only [fusedWrites, coreWrites, funext (filter_core dag index fuel)]

/-- what a key is bound to, as a function of the key alone -/
def expectedTask (dag : Dag) (index : Nat) : FKey → Option (Tsk FKey)
  | .top n => (getNode dag n).map (fun nd => Tsk.alias (FKey.part (nd.members.headD 0) index))
  | .part x i =>
    match getNode dag x with
    | some nd => if nd.members ≠ [] then some (Tsk.alias (FKey.top x)) else some (plainTask dag nd i)
    | none => none
  | .ph _ => none

theorem inner_lt (dag : Dag) (np : Nat) : ∀ (fuel : Nat) (f : Node), levelOK dag np fuel f = true →
    ∀ x ∈ inner dag fuel f, x < f.name := by
  intro fuel
  induction fuel with
  | zero => intro f h; simp [levelOK] at h
  | succ fuel ih =>
    intro f h x hx
    have L := levelOK_spec h
    simp only [inner, List.mem_flatMap, List.mem_cons] at hx
    obtain ⟨m, hm, hx⟩ := hx
    obtain ⟨hlt, mn, hg, _, hname, hnest⟩ := L.member m hm
    rcases hx with rfl | hx
    · exact hlt
    · simp only [hg] at hx
      by_cases hne : mn.members ≠ []
      · rw [if_pos hne] at hx
        exact Nat.lt_trans (hname ▸ ih mn (hnest hne) x hx) hlt
      · rw [if_neg hne] at hx; cases hx

theorem flat_nested_sub_inner (dag : Dag) : ∀ (fuel : Nat) (f : Node),
    ∀ x, x ∈ flat dag fuel f ∨ x ∈ nested dag fuel f → x ∈ inner dag fuel f := by
  intro fuel
  induction fuel with
  | zero => intro f x hx; rcases hx with hx | hx <;> cases hx
  | succ fuel ih =>
    intro f x hx
    simp only [flat, nested, List.mem_flatMap] at hx
    simp only [inner, List.mem_flatMap, List.mem_cons]
    rcases hx with ⟨m, hm, hx⟩ | ⟨m, hm, hx⟩ <;> refine ⟨m, hm, ?_⟩
    · cases hg : getNode dag m with
      | none => simp only [hg, List.mem_singleton] at hx; exact Or.inl hx
      | some mn =>
        simp only [hg] at hx ⊢
        by_cases hne : mn.members ≠ []
        · rw [if_pos hne] at hx ⊢
          exact Or.inr (ih mn x (Or.inl hx))
        · rw [if_neg hne] at hx
          exact Or.inl (List.mem_singleton.mp hx)
    · cases hg : getNode dag m with
      | none => simp only [hg] at hx; cases hx
      | some mn =>
        simp only [hg] at hx ⊢
        by_cases hne : mn.members ≠ []
        · rw [if_pos hne] at hx ⊢
          rcases List.mem_cons.mp hx with rfl | hx
          · exact Or.inl rfl
          · exact Or.inr (ih mn x (Or.inr hx))
        · rw [if_neg hne] at hx; cases hx

/-! ### placeholders -/

theorem mem_enumFrom {α} {l : List α} {n j : Nat} {d : α} :
    (j, d) ∈ enumFrom n l ↔ ∃ i, j = n + i ∧ l[i]? = some d := by
  induction l generalizing n with
  | nil => simp [enumFrom]
  | cons a t ih =>
    simp only [enumFrom, List.mem_cons, Prod.mk.injEq, ih]
    constructor
    · rintro (⟨rfl, rfl⟩ | ⟨i, rfl, h⟩)
      · exact ⟨0, rfl, rfl⟩
      · exact ⟨i + 1, Nat.add_right_comm n 1 i, h⟩
    · rintro ⟨i, rfl, h⟩
      cases i with
      | zero => exact Or.inl ⟨rfl, (Option.some.inj h).symm⟩
      | succ i => exact Or.inr ⟨i, (Nat.add_right_comm n 1 i).symm, h⟩

theorem mem_phWrites {dag : Dag} {f : Node} {index : Nat} {b : FKey × Tsk FKey} :
    b ∈ phWrites dag f index ↔
      ∃ j d, f.deps[j]? = some d ∧ b = (argKey dag f index d, Tsk.alias (FKey.ph j)) := by
  unfold phWrites
  simp only [List.mem_map, Prod.exists, mem_enumFrom, Nat.zero_add]
  constructor
  · rintro ⟨j, d, ⟨_, rfl, h⟩, rfl⟩
    exact ⟨_, d, h, rfl⟩
  · rintro ⟨j, d, h, rfl⟩
    exact ⟨j, d, ⟨j, rfl, h⟩, rfl⟩

theorem phWrites_key {dag : Dag} {f : Node} {index : Nat} {b : FKey × Tsk FKey}
    (h : b ∈ phWrites dag f index) : ∃ d ∈ f.deps, b.1 = argKey dag f index d := by
  obtain ⟨j, d, hd, rfl⟩ := mem_phWrites.mp h
  exact ⟨d, List.mem_of_getElem? hd, rfl⟩

/-- an external key is bound to a placeholder whose positional argument is that key -/
theorem ph_lookup (dag : Dag) (f : Node) (index : Nat) (A : List (FKey × Tsk FKey)) (d : Nat) (hd : d ∈ f.deps) :
    ∃ j, lastWrite (A ++ phWrites dag f index) (argKey dag f index d) = some (Tsk.alias (FKey.ph j)) ∧
      (fusedArgs dag f index)[j]? = some (argKey dag f index d) := by
  obtain ⟨j0, hj0⟩ := List.mem_iff_getElem?.mp hd
  cases hl : lastWrite (phWrites dag f index) (argKey dag f index d) with
  | none => exact absurd rfl (lastWrite_eq_none_iff.mp hl _ (mem_phWrites.mpr ⟨j0, d, hj0, rfl⟩))
  | some t =>
    obtain ⟨j, d', hget, e⟩ := mem_phWrites.mp (lastWrite_mem hl)
    rw [Prod.mk.injEq] at e
    refine ⟨j, by rw [lastWrite_append_right _ _ _ _ hl, e.2], ?_⟩
    unfold fusedArgs
    rw [List.getElem?_map, hget, e.1]
    rfl

/-- a core write is what its key determines, and its key is `top _` or `part x _` with `x` inside `f` -/
theorem core_spec (dag : Dag) (index np : Nat) : ∀ (fuel : Nat) (f : Node), levelOK dag np fuel f = true →
    getNode dag f.name = some f → ∀ w ∈ coreWrites dag index fuel f,
      expectedTask dag index w.1 = some w.2 ∧
      ((∃ n, w.1 = FKey.top n) ∨ (∃ x i, w.1 = FKey.part x i ∧ x ∈ inner dag fuel f)) := by
  intro fuel
  induction fuel with
  | zero => intro f h; simp [levelOK] at h
  | succ fuel ih =>
    intro f h hself w hw
    have L := levelOK_spec h
    simp only [coreWrites, List.mem_append, List.mem_singleton, List.mem_flatMap] at hw
    rcases hw with rfl | ⟨m, hm, hw⟩
    · exact ⟨by simp [expectedTask, hself], Or.inl ⟨_, rfl⟩⟩
    · obtain ⟨_, mn, hg, _, hname, hnest⟩ := L.member m hm
      have hin : ∀ x, (x = m ∨ (mn.members ≠ [] ∧ x ∈ inner dag fuel mn)) → x ∈ inner dag (fuel+1) f := by
        intro x hx
        simp only [inner, List.mem_flatMap, List.mem_cons]
        refine ⟨m, hm, ?_⟩
        rcases hx with rfl | ⟨hne, hx⟩
        · exact Or.inl rfl
        · simp only [hg]; rw [if_pos hne]; exact Or.inr hx
      simp only [blockOf, hg] at hw
      by_cases hne : mn.members ≠ []
      · rw [if_pos hne] at hw
        rcases List.mem_append.mp hw with hw | hw
        · obtain ⟨e, hk⟩ := ih mn (hnest hne) (by rw [hname]; exact hg) w hw
          exact ⟨e, hk.imp_right fun ⟨x, i, h1, h2⟩ => ⟨x, i, h1, hin x (Or.inr ⟨hne, h2⟩)⟩⟩
        · simp only [List.mem_singleton] at hw; subst hw
          refine ⟨?_, Or.inr ⟨mn.name, index, rfl, hin _ (Or.inl hname)⟩⟩
          simp only [expectedTask, hname, hg]
          rw [if_pos hne]
      · rw [if_neg hne] at hw
        simp only [List.mem_singleton] at hw; subst hw
        refine ⟨?_, Or.inr ⟨mn.name, _, rfl, hin _ (Or.inl hname)⟩⟩
        simp only [plainWrite, expectedTask, hname, hg]
        rw [if_neg hne]

/-- a key written by the core is bound, in the finished dict, to what the key determines -/
theorem fused_lookup (dag : Dag) (index : Nat) (fuel : Nat) (f : Node)
    (h : levelOK dag f.npart (fuel+1) f = true) (hself : getNode dag f.name = some f)
    (w : FKey × Tsk FKey) (hw : w ∈ coreWrites dag index (fuel+1) f) :
    lastWrite (fusedWrites dag index (fuel+1) f) w.1 = some w.2 := by
  have L := levelOK_spec h
  rw [writes_succ]
  rw [lastWrite_append_left]
  · apply lastWrite_all _ _ _ ⟨w, hw, rfl⟩
    intro b hb hk
    have e1 := (core_spec dag index f.npart (fuel+1) f h hself b hb).1
    have e2 := (core_spec dag index f.npart (fuel+1) f h hself w hw).1
    rw [hk, e2] at e1
    exact (Option.some.inj e1).symm
  · intro b hb heq
    obtain ⟨d, hd, hk⟩ := phWrites_key hb
    obtain ⟨j, hj⟩ := argKey_name dag f index d
    rw [hk, hj] at heq
    rcases (core_spec dag index f.npart (fuel+1) f h hself w hw).2 with ⟨n, h1⟩ | ⟨x, i, h1, h2⟩
    · rw [h1] at heq; cases heq
    · rw [h1] at heq
      simp only [FKey.part.injEq] at heq
      exact (L.deps_out d hd).1 (heq.1 ▸ h2)

/-! ### which keys the core writes -/

theorem flat_core (dag : Dag) (index : Nat) : ∀ (fuel : Nat) (f : Node),
    ∀ m ∈ flat dag fuel f, ∀ mn, getNode dag m = some mn → plainWrite dag mn index ∈ coreWrites dag index fuel f := by
  intro fuel
  induction fuel with
  | zero => intro f m hm; simp [flat] at hm
  | succ fuel ih =>
    intro f m hm mn hg
    simp only [flat, List.mem_flatMap] at hm
    obtain ⟨m', hm', hx⟩ := hm
    simp only [coreWrites, List.mem_append, List.mem_singleton, List.mem_flatMap]
    right
    refine ⟨m', hm', ?_⟩
    cases hg' : getNode dag m' with
    | none =>
      simp only [hg', List.mem_singleton] at hx
      subst hx
      rw [hg] at hg'; cases hg'
    | some mn' =>
      simp only [hg'] at hx
      simp only [blockOf, hg']
      by_cases hne : mn'.members ≠ []
      · rw [if_pos hne] at hx
        rw [if_pos hne]
        exact List.mem_append.mpr (Or.inl (ih mn' m hx mn hg))
      · rw [if_neg hne] at hx
        rw [if_neg hne]
        simp only [List.mem_singleton] at hx
        subst hx
        rw [hg] at hg'; cases hg'
        simp

theorem head_info (dag : Dag) (np fuel : Nat) (f : Node) (h : levelOK dag np (fuel+1) f = true) :
    f.members.headD 0 < f.name ∧
    (f.members.headD 0 ∈ flat dag (fuel+1) f ∨ f.members.headD 0 ∈ nested dag (fuel+1) f) ∧
    ∃ rn, getNode dag (f.members.headD 0) = some rn ∧ rn.npart = np := by
  have L := levelOK_spec h
  obtain ⟨r, tail, hm⟩ := List.exists_cons_of_ne_nil L.nonempty
  have hr : f.members.headD 0 = r := by rw [hm]; rfl
  rw [hr]
  obtain ⟨hlt, mn, hg, _, _, _⟩ := L.member r (by rw [hm]; simp)
  refine ⟨hlt, ?_, ?_⟩
  · simp only [flat, nested, hm, List.flatMap_cons, hg, List.mem_append]
    by_cases hne : mn.members ≠ []
    · right; left; rw [if_pos hne]; simp
    · left; left; rw [if_neg hne]; simp
  · exact hr ▸ L.head

/-- facts about a nested group `F` (any level) of a well-formed node with flattened members `S` and nested
    groups `Fs`; `W k t`: the key `k` is bound to the task `t` -/
structure NestedInfo (dag : Dag) (index np : Nat) (W : FKey → Tsk FKey → Prop) (S Fs : List Nat)
    (F : Nat) (Fn : Node) : Prop where
  node : getNode dag F = some Fn
  fused : Fn.members ≠ []
  npart : Fn.npart = np
  top_write : W (FKey.top F) (Tsk.alias (FKey.part (Fn.members.headD 0) index))
  alias_write : W (FKey.part F index) (Tsk.alias (FKey.top F))
  head_lt : Fn.members.headD 0 < F
  head_in : Fn.members.headD 0 ∈ S ∨ Fn.members.headD 0 ∈ Fs
  head_np : ∃ rn, getNode dag (Fn.members.headD 0) = some rn ∧ rn.npart = np

theorem NestedInfo.mono {dag : Dag} {index np : Nat} {W W' : FKey → Tsk FKey → Prop} {S Fs S' Fs' : List Nat}
    {F : Nat} {Fn : Node} (h : NestedInfo dag index np W S Fs F Fn) (hW : ∀ k t, W k t → W' k t)
    (hS : ∀ x ∈ S, x ∈ S') (hF : ∀ x ∈ Fs, x ∈ Fs') : NestedInfo dag index np W' S' Fs' F Fn :=
  ⟨h.node, h.fused, h.npart, hW _ _ h.top_write, hW _ _ h.alias_write, h.head_lt,
    h.head_in.imp (hS _) (hF _), h.head_np⟩

theorem nested_info (dag : Dag) (index np : Nat) : ∀ (fuel : Nat) (f : Node), levelOK dag np fuel f = true →
    ∀ F ∈ nested dag fuel f, ∃ Fn, NestedInfo dag index np (fun k t => (k, t) ∈ coreWrites dag index fuel f)
      (flat dag fuel f) (nested dag fuel f) F Fn := by
  intro fuel
  induction fuel with
  | zero => intro f h; simp [levelOK] at h
  | succ fuel ih =>
    intro f h F hF
    have L := levelOK_spec h
    simp only [nested, List.mem_flatMap] at hF
    obtain ⟨m, hm, hF⟩ := hF
    obtain ⟨_, mn, hg, _, hname, hnest⟩ := L.member m hm
    simp only [hg] at hF
    by_cases hne : mn.members ≠ []
    · rw [if_pos hne] at hF
      have hlm := hnest hne
      -- everything of the nested node `mn` is part of `f`
      have hcore : ∀ w, w ∈ coreWrites dag index fuel mn ∨ w = (FKey.part mn.name index, Tsk.alias (FKey.top mn.name)) →
          w ∈ coreWrites dag index (fuel+1) f := by
        intro w hw
        simp only [coreWrites, List.mem_append, List.mem_singleton, List.mem_flatMap]
        right
        refine ⟨m, hm, ?_⟩
        simp only [blockOf, hg]
        rw [if_pos hne]
        exact List.mem_append.mpr (hw.imp id (fun e => List.mem_singleton.mpr e))
      have hflat : ∀ x, x ∈ flat dag fuel mn → x ∈ flat dag (fuel+1) f := by
        intro x hx
        simp only [flat, List.mem_flatMap]
        exact ⟨m, hm, by simp only [hg]; rw [if_pos hne]; exact hx⟩
      have hnested : ∀ x, (x = m ∨ x ∈ nested dag fuel mn) → x ∈ nested dag (fuel+1) f := by
        intro x hx
        simp only [nested, List.mem_flatMap]
        refine ⟨m, hm, ?_⟩
        simp only [hg]; rw [if_pos hne]
        exact List.mem_cons.mpr hx
      rcases List.mem_cons.mp hF with rfl | hF
      · -- the nested member itself
        cases fuel with
        | zero => simp [levelOK] at hlm
        | succ fuel' =>
          obtain ⟨hhlt, hhin, hhnp⟩ := head_info dag np fuel' mn hlm
          refine ⟨mn, hg, hne, (levelOK_spec hlm).npart, ?_, ?_, hname ▸ hhlt,
            hhin.imp (hflat _) (fun h1 => hnested _ (Or.inr h1)), hhnp⟩
          · apply hcore; left
            simp only [coreWrites, List.mem_append, List.mem_singleton]
            left; rw [hname]
          · apply hcore; right; rw [hname]
      · obtain ⟨Fn, NI⟩ := ih mn hlm F hF
        exact ⟨Fn, NI.mono (fun _ _ hw => hcore _ (Or.inl hw)) hflat (fun x hx => hnested x (Or.inr hx))⟩
    · rw [if_neg hne] at hF; cases hF

/-! ### members -/

/-- `membersOK` at one ordinary member `m` stored as `mn`: an operand inside the group (`S` ordinary members,
    `Fs` nested groups) has a smaller name, one outside is a dependency of `f` -/
structure MemOK (dag : Dag) (f : Node) (S Fs : List Nat) (m : Nat) (mn : Node) : Prop where
  node : getNode dag m = some mn
  plain : mn.members = []
  name : mn.name = m
  npart : mn.npart = f.npart ∨ mn.npart = 1
  deps : ∀ d ∈ mn.deps, ∃ dn, getNode dag d = some dn ∧ (bcast mn dn = true ∨ dn.npart = mn.npart) ∧
    (d ∈ S ∨ d ∈ Fs → d < m) ∧ (¬ (d ∈ S ∨ d ∈ Fs) → d ∈ f.deps)

theorem membersOK_spec {dag : Dag} {f : Node} {S Fs : List Nat} (h : membersOK dag f S Fs = true) :
    ∀ m ∈ S, ∃ mn, MemOK dag f S Fs m mn := by
  intro m hm
  unfold membersOK at h
  rw [List.all_eq_true] at h
  have hmm := h m hm
  rw [Bool.and_eq_true] at hmm
  obtain ⟨hp, hrest⟩ := hmm
  obtain ⟨mn, hg, _, hmem, hname⟩ := plainAt_spec hp
  simp only [hg, Bool.and_eq_true, Bool.or_eq_true, beq_iff_eq, List.all_eq_true] at hrest
  refine ⟨mn, hg, hmem, hname, hrest.1, ?_⟩
  intro d hd
  obtain ⟨h1, h2⟩ := hrest.2 d hd
  cases hgd : getNode dag d with
  | none => simp [hgd] at h1
  | some dn =>
    simp only [hgd, Bool.and_eq_true, Bool.or_eq_true, beq_iff_eq] at h1
    refine ⟨dn, rfl, h1.2, ?_, ?_⟩
    · intro hin; rw [if_pos hin] at h2; simpa using h2
    · intro hnin; rw [if_neg hnin] at h2; simpa using h2

/-! #### which partition of a member a fused task computes (`ixOf`), and the keys referring to it -/

theorem ixOf_one {nd : Node} (h : nd.npart = 1) (index : Nat) : ixOf nd index = 0 := by
  simp only [ixOf, h, beq_self_eq_true, if_true]

theorem ixOf_congr {a b : Node} (h : a.npart = b.npart) (index : Nat) : ixOf a index = ixOf b index := by
  simp only [ixOf, h]

theorem ixOf_full {nd : Node} {np index : Nat} (h : nd.npart = np) (hi : index < np) : ixOf nd index = index := by
  by_cases h1 : nd.npart = 1
  · rw [ixOf_one h1]
    exact (Nat.lt_one_iff.mp (h1 ▸ h ▸ hi)).symm
  · simp only [ixOf, beq_iff_eq, h1, if_false]

theorem ixOf_lt {nd : Node} {np index : Nat} (h : nd.npart = np ∨ nd.npart = 1) (hi : index < np) :
    ixOf nd index < nd.npart := by
  by_cases h1 : nd.npart = 1
  · rw [ixOf_one h1, h1]
    exact Nat.zero_lt_one
  · rw [ixOf_full rfl ((h.resolve_right h1) ▸ hi)]
    exact (h.resolve_right h1) ▸ hi

theorem bcast_npart {c d : Node} (h : bcast c d = true) : d.npart = 1 := by
  unfold bcast at h
  simp only [Bool.and_eq_true, beq_iff_eq] at h
  exact h.1

/-- a member's reference to a node of the plan is the key of the partition the fused task computes of it -/
theorem argKey_member {dag : Dag} {mn dn : Node} {d index : Nat} (hg : getNode dag d = some dn)
    (hwf : bcast mn dn = true ∨ dn.npart = mn.npart) :
    argKey dag mn (ixOf mn index) d = FKey.part d (ixOf dn index) := by
  simp only [argKey, hg]
  by_cases hb : bcast mn dn = true
  · rw [if_pos hb, ixOf_one (bcast_npart hb)]
  · rw [if_neg hb, ixOf_congr (hwf.resolve_left hb)]

/-- `Fused` binds that same key to a placeholder when the node is external -/
theorem argKey_fused {dag : Dag} {f dn : Node} {d index : Nat} (hk : f.kall = true) (hg : getNode dag d = some dn) :
    argKey dag f index d = FKey.part d (ixOf dn index) := by
  simp only [argKey, hg, bcast, hk, Bool.true_or, Bool.and_true, ixOf]

/-! #### the unfused reference -/

theorem memberGraph_member {dag : Dag} {S Fs : List Nat} {m i : Nat} {mn : Node} (hm : m ∈ S)
    (hg : getNode dag m = some mn) (hi : i < mn.npart) :
    memberGraph dag S Fs (FKey.part m i) = some (plainTask dag mn i) := by
  simp only [memberGraph, hm, hg, hi, if_true]

theorem memberGraph_nested {dag : Dag} {S Fs : List Nat} {F : Nat} {Fn : Node} (hS : F ∉ S) (hF : F ∈ Fs)
    (hg : getNode dag F = some Fn) (i : Nat) :
    memberGraph dag S Fs (FKey.part F i) = some (Tsk.alias (FKey.part (Fn.members.headD 0) i)) := by
  simp only [memberGraph, hS, hF, hg, if_true, if_false]

theorem memberGraph_outside {dag : Dag} {S Fs : List Nat} {d : Nat} (hS : d ∉ S) (hF : d ∉ Fs) (i : Nat) :
    memberGraph dag S Fs (FKey.part d i) = none := by
  simp only [memberGraph, hS, hF, if_false]

/-- Evaluation of the member keys and of the nested groups' keys: a graph `g` that binds them as the fused
    sub-graph does and the unfused reference agree.
    Induction on a bound `n` of the *names*: an operand inside the group has a smaller name than its consumer
    (`MemOK.deps`), and so has the first member of a nested group (`NestedInfo.head_lt`).  The unfused side
    needs fuel `n`, the fused side `2n+1`: a nested group `F` is two alias hops there,
    `(F, index) ↦ F ↦ (head, index)`, against one in the reference. -/
theorem members_eval (I : Interp) (dag : Dag) (f : Node) (index : Nat) (S Fs : List Nat)
    (g : Graph FKey) (inp : FKey → Option V) (ev : FKey → V)
    (hmem : ∀ m ∈ S, ∃ mn, MemOK dag f S Fs m mn)
    (hk : f.kall = true) (hi : index < f.npart)
    (hg : ∀ m ∈ S, ∀ mn, getNode dag m = some mn →
      g (FKey.part m (ixOf mn index)) = some (plainTask dag mn (ixOf mn index)))
    (hFs : ∀ F ∈ Fs, ∃ Fn, NestedInfo dag index f.npart (fun k t => g k = some t) S Fs F Fn)
    (hext : ∀ d ∈ f.deps, ¬ (d ∈ S ∨ d ∈ Fs) → ∀ N,
      run I g inp (N + 1) (argKey dag f index d) = ev (argKey dag f index d)) :
    ∀ (n : Nat),
      (∀ m ∈ S, m < n → ∀ mn, getNode dag m = some mn → ∀ N N', 2 * n + 1 ≤ N → n ≤ N' →
        run I g inp N (FKey.part m (ixOf mn index)) =
          run I (memberGraph dag S Fs) (fun k => some (ev k)) N' (FKey.part m (ixOf mn index))) ∧
      (∀ F ∈ Fs, F < n → ∀ N N', 2 * n + 1 ≤ N → n ≤ N' →
        run I g inp N (FKey.part F index) =
          run I (memberGraph dag S Fs) (fun k => some (ev k)) N' (FKey.part F index)) := by
  intro n
  induction n with
  | zero => exact ⟨fun m _ hlt => absurd hlt (Nat.not_lt_zero m), fun F _ hlt => absurd hlt (Nat.not_lt_zero F)⟩
  | succ n ih =>
    obtain ⟨ihS, ihF⟩ := ih
    refine ⟨?_, ?_⟩
    · intro m hm hlt mn hgm N N' hN hN'
      obtain ⟨mn', M⟩ := hmem m hm
      cases Option.some.inj (M.node.symm.trans hgm)
      obtain ⟨N1, rfl, hN1⟩ := pred_fuel hN
      obtain ⟨N1', rfl, hN1'⟩ := pred_fuel hN'
      have hN1 : 2 * n + 1 ≤ N1 := Nat.le_of_succ_le hN1
      refine run_step_congr I (hg m hm mn M.node) (memberGraph_member hm M.node (ixOf_lt M.npart hi)) ?_
      intro k hk'
      obtain ⟨d, hd, rfl⟩ := List.mem_map.mp hk'
      obtain ⟨dn, hgd, hwf, hin, hout⟩ := M.deps d hd
      rw [argKey_member hgd hwf]
      by_cases hdS : d ∈ S
      · exact ihS d hdS (Nat.lt_of_lt_of_le (hin (Or.inl hdS)) (Nat.le_of_lt_succ hlt)) dn hgd N1 N1' hN1 hN1'
      · by_cases hdF : d ∈ Fs
        · obtain ⟨Fn, NI⟩ := hFs d hdF
          cases Option.some.inj (NI.node.symm.trans hgd)
          rw [ixOf_full NI.npart hi]
          exact ihF d hdF (Nat.lt_of_lt_of_le (hin (Or.inr hdF)) (Nat.le_of_lt_succ hlt)) N1 N1' hN1 hN1'
        · -- an external operand: a placeholder on the left, an input on the right
          have hno : ¬ (d ∈ S ∨ d ∈ Fs) := fun h => h.elim hdS hdF
          obtain ⟨N0, rfl, _⟩ := pred_fuel hN1
          have hl := hext d (hout hno) hno N0
          rw [argKey_fused hk hgd] at hl
          rw [hl, run_undefined I _ _ _ (memberGraph_outside hdS hdF _)]
          rfl
    · intro F hF hlt N N' hN hN'
      obtain ⟨Fn, NI⟩ := hFs F hF
      obtain ⟨N1, rfl, hN1⟩ := pred_fuel hN
      obtain ⟨N2, rfl, hN2⟩ := pred_fuel (show 2 * n + 1 + 1 ≤ N1 from hN1)
      obtain ⟨N1', rfl, hN1'⟩ := pred_fuel hN'
      -- a nested group is not an ordinary member
      have hFS : F ∉ S := by
        intro hS
        obtain ⟨mn, M⟩ := hmem F hS
        cases Option.some.inj (M.node.symm.trans NI.node)
        exact NI.fused M.plain
      -- `(F, index) ↦ F ↦ (head, index)` on the left, `(F, index) ↦ (head, index)` on the right
      rw [run_defined I g inp (N2 + 1) _ _ NI.alias_write]
      refine run_step_congr I NI.top_write (memberGraph_nested hFS hF NI.node index) ?_
      intro k hk'
      cases List.mem_singleton.mp hk'
      have hlt' : Fn.members.headD 0 < n := Nat.lt_of_lt_of_le NI.head_lt (Nat.le_of_lt_succ hlt)
      rcases NI.head_in with hrS | hrF
      · obtain ⟨rn, hgr, hrnp⟩ := NI.head_np
        have := ihS _ hrS hlt' rn hgr N2 N1' hN2 hN1'
        rwa [ixOf_full hrnp hi] at this
      · exact ihF _ hrF hlt' N2 N1' hN2 hN1'

/-- `C14_task`.  The top key `f.name ↦ (head, index)` is one more hop, hence `2 * f.name + 2`; every name
    inside `f` is below `f.name`, which therefore bounds the induction of `members_eval`, and also the nesting
    depth: `flat`/`nested`/`levelOK` are run with fuel `f.name + 1`. -/
theorem fused_task_correct (I : Interp) (dag : Dag) (f : Node) (index : Nat) (ev : FKey → V)
    (hok : fusedOK dag f = true) (hi : index < f.npart) :
    ∀ N N', 2 * f.name + 2 ≤ N → f.name ≤ N' →
      fusedValue I dag f index ev N =
        run I (memberGraph dag (flat dag (f.name + 1) f) (nested dag (f.name + 1) f)) (fun k => some (ev k)) N'
          (FKey.part (f.members.headD 0) index) := by
  intro N N' hN hN'
  unfold fusedOK at hok
  simp only [Bool.and_eq_true] at hok
  obtain ⟨⟨hself0, hlevel⟩, hmembers⟩ := hok
  have hself : getNode dag f.name = some f := by
    cases hg : getNode dag f.name with
    | none => simp [hg] at hself0
    | some g => simp only [hg, decide_eq_true_eq] at hself0; rw [hself0]
  have L := levelOK_spec hlevel
  have hmem := membersOK_spec hmembers
  have hgraph : ∀ w ∈ coreWrites dag index (f.name+1) f, fusedGraph dag f index w.1 = some w.2 :=
    fused_lookup dag index f.name f hlevel hself
  obtain ⟨hrlt, hrin, rn, hgr, hrnp⟩ := head_info dag f.npart f.name f hlevel
  have hltS : ∀ m ∈ flat dag (f.name + 1) f, m < f.name :=
    fun m hm => inner_lt dag f.npart _ f hlevel m (flat_nested_sub_inner dag _ f m (Or.inl hm))
  have hltF : ∀ F ∈ nested dag (f.name + 1) f, F < f.name :=
    fun F hF => inner_lt dag f.npart _ f hlevel F (flat_nested_sub_inner dag _ f F (Or.inr hF))
  have key := members_eval I dag f index (flat dag (f.name + 1) f) (nested dag (f.name + 1) f)
    (fusedGraph dag f index) (phInputs (fusedArgs dag f index) ev) ev hmem L.kall hi ?_ ?_ ?_ f.name
  · obtain ⟨keyS, keyF⟩ := key
    unfold fusedValue
    obtain ⟨N1, rfl, hN1⟩ := pred_fuel hN
    have htop : fusedGraph dag f index (FKey.top f.name) =
        some (Tsk.alias (FKey.part (f.members.headD 0) index)) :=
      hgraph (FKey.top f.name, _) (by simp [coreWrites])
    rw [run_defined I _ _ N1 _ _ htop]
    show run I (fusedGraph dag f index) (phInputs (fusedArgs dag f index) ev) N1 (FKey.part (f.members.headD 0) index) = _
    rcases hrin with hrS | hrF
    · have := keyS _ hrS (hltS _ hrS) rn hgr N1 N' hN1 hN'
      rwa [ixOf_full hrnp hi] at this
    · exact keyF _ hrF (hltF _ hrF) N1 N' hN1 hN'
  · intro m hm mn hgm
    obtain ⟨mn', M⟩ := hmem m hm
    cases Option.some.inj (M.node.symm.trans hgm)
    have := hgraph _ (flat_core dag index _ f m hm mn M.node)
    rwa [plainWrite, M.name] at this
  · intro F hF
    obtain ⟨Fn, NI⟩ := nested_info dag index f.npart _ f hlevel F hF
    exact ⟨Fn, NI.mono (fun _ _ hw => hgraph _ hw) (fun _ h => h) (fun _ h => h)⟩
  · -- an external key is aliased to a placeholder, which is an input of the nested evaluation
    intro d hd _ M
    have hfg : fusedGraph dag f index = lastWrite (coreWrites dag index (f.name+1) f ++ phWrites dag f index) := by
      unfold fusedGraph; rw [writes_succ]
    obtain ⟨j, hl, harg⟩ := ph_lookup dag f index (coreWrites dag index (f.name+1) f) d hd
    have hnone : lastWrite (coreWrites dag index (f.name+1) f ++ phWrites dag f index) (FKey.ph j) = none := by
      refine lastWrite_eq_none_iff.mpr fun b hb heq => ?_
      rcases List.mem_append.mp hb with hb | hb
      · rcases (core_spec dag index f.npart _ f hlevel hself b hb).2 with ⟨n, h1⟩ | ⟨x, i, h1, _⟩
        · rw [h1] at heq; cases heq
        · rw [h1] at heq; cases heq
      · obtain ⟨d', _, hk⟩ := phWrites_key hb
        obtain ⟨i, hi'⟩ := argKey_name dag f index d'
        rw [hk, hi'] at heq
        cases heq
    rw [hfg, run_defined I _ _ M _ _ hl]
    show run I _ (phInputs (fusedArgs dag f index) ev) M (FKey.ph j) = _
    rw [run_undefined I _ _ _ hnone]
    simp only [inpVal, phInputs, harg, Option.map_some]

end Dx.Fusion

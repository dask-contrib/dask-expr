/-
  Lemmas/ParquetStats.lean — the statistics part of C18 (model: DxModel/ParquetStats.lean): divisions read off a list
  of (min, max) are sorted and bound their partitions; the arrow reader's sort index is a sorting permutation and its
  loop accepts exactly the non-overlapping ranges; what `sorted_columns` reports; the list facts behind `_get_lengths`.
-/
import DxModel.ParquetStats
import DxModel.Parquet
import DxModel.Lemmas.ListBasics
namespace Dx.PqStats

/-! ### 1. divisions built from a list of (min, max) in reading order -/

/-- adjacent entries are related by `R` (the form the statements of C18 use; `adj_of_pairwise` and `Adj.getElem` connect
    it with `List.Pairwise` and with positions) -/
def Adj (R : (Int × Int) → (Int × Int) → Prop) : List (Int × Int) → Prop
  | a :: b :: t => R a b ∧ Adj R (b :: t)
  | _ => True

theorem adj_of_pairwise {R : (Int × Int) → (Int × Int) → Prop} {S : List (Int × Int)} (h : S.Pairwise R) : Adj R S := by
  induction S with
  | nil => trivial
  | cons a t ih =>
    cases t with
    | nil => trivial
    | cons b t => exact ⟨List.rel_of_pairwise_cons h (List.mem_cons_self ..), ih (List.Pairwise.of_cons h)⟩

theorem Adj.getElem {R : (Int × Int) → (Int × Int) → Prop} {S : List (Int × Int)} (h : Adj R S)
    (i : Nat) (a b : Int × Int) (ha : S[i]? = some a) (hb : S[i+1]? = some b) : R a b := by
  induction S generalizing i with
  | nil => cases ha
  | cons x t ih =>
    cases t with
    | nil => cases hb
    | cons y t =>
      cases i with
      | zero => cases ha; cases hb; exact h.1
      | succ i => exact ih h.2 i ha hb

theorem divsOf_single (a : Int × Int) : divsOf [a] = [a.1, a.2] := rfl

theorem divsOf_cons_cons (a b : Int × Int) (t : List (Int × Int)) : divsOf (a :: b :: t) = a.1 :: divsOf (b :: t) := by
  simp only [divsOf, List.getLast?_cons_cons, List.map_cons, List.cons_append]

theorem divsOf_head (b : Int × Int) (t : List (Int × Int)) : (divsOf (b :: t))[0]? = some b.1 := rfl

theorem divsOf_length (S : List (Int × Int)) (h : S ≠ []) : (divsOf S).length = S.length + 1 := by
  induction S with
  | nil => exact absurd rfl h
  | cons a t ih =>
    cases t with
    | nil => rfl
    | cons b t => rw [divsOf_cons_cons, List.length_cons, ih (List.cons_ne_nil _ _)]; rfl

theorem divsOf_window (S : List (Int × Int)) (i : Nat) (lo hi : Int)
    (hlo : (divsOf S)[i]? = some lo) (hhi : (divsOf S)[i+1]? = some hi) :
    ∃ a, S[i]? = some a ∧ lo = a.1 ∧
      ((∃ b, S[i+1]? = some b ∧ hi = b.1) ∨ (i + 2 = (divsOf S).length ∧ hi = a.2)) := by
  induction S generalizing i with
  | nil => cases hlo
  | cons a t ih =>
    cases t with
    | nil =>
      cases i with
      | zero => cases hlo; cases hhi; exact ⟨a, rfl, rfl, Or.inr ⟨rfl, rfl⟩⟩
      | succ i => cases hhi
    | cons b t =>
      rw [divsOf_cons_cons] at hlo hhi ⊢
      cases i with
      | zero =>
        cases hlo
        have hb : some b.1 = some hi := hhi
        exact ⟨a, rfl, rfl, Or.inl ⟨b, rfl, (Option.some.inj hb).symm⟩⟩
      | succ i =>
        obtain ⟨x, hx, hl, hn⟩ := ih i hlo hhi
        exact ⟨x, hx, hl, hn.imp id (fun h => ⟨congrArg (· + 1) h.1, h.2⟩)⟩

theorem divsOf_sorted (S : List (Int × Int)) (hwf : ∀ s ∈ S, s.1 ≤ s.2) (hadj : Adj (fun a b => a.2 ≤ b.1) S) :
    (divsOf S).Pairwise (· ≤ ·) := by
  induction S with
  | nil => exact List.Pairwise.nil
  | cons a t ih =>
    cases t with
    | nil => exact List.pairwise_pair.mpr (hwf a (List.mem_cons_self ..))
    | cons b t =>
      have ih := ih (fun s hs => hwf s (List.mem_cons_of_mem _ hs)) hadj.2
      have hab : a.1 ≤ b.1 := Int.le_trans (hwf a (List.mem_cons_self ..)) hadj.1
      rw [divsOf_cons_cons]
      refine List.pairwise_cons.mpr ⟨fun x hx => Int.le_trans hab ?_, ih⟩
      -- `divsOf (b :: t)` starts with `b.1`
      rcases List.mem_cons.mp hx with rfl | hx
      · exact Int.le_refl _
      · exact List.rel_of_pairwise_cons ih hx

theorem within_nil : Within [] [] := ⟨rfl, fun _ _ _ h => nomatch h⟩

theorem within_cons {a : Int × Int} {S : List (Int × Int)} {p : List Int} {ps : List (List Int)} :
    Within (a :: S) (p :: ps) ↔ (∀ v ∈ p, a.1 ≤ v ∧ v ≤ a.2) ∧ Within S ps := by
  constructor
  · intro h
    exact ⟨h.2 0 a p rfl rfl, Nat.succ.inj h.1, fun i s f hs hf => h.2 (i + 1) s f hs hf⟩
  · intro h
    refine ⟨congrArg (· + 1) h.2.1, fun i s f hs hf => ?_⟩
    cases i with
    | zero => cases hs; cases hf; exact h.1
    | succ i => exact h.2.2 i s f hs hf

theorem divsOf_bounds {R : Int → Int → Prop} (S : List (Int × Int)) (parts : List (List Int)) (hw : Within S parts)
    (hadj : Adj (fun a b => R a.2 b.1) S) (i : Nat) (lo hi : Int) (p : List Int)
    (hlo : (divsOf S)[i]? = some lo) (hhi : (divsOf S)[i+1]? = some hi) (hp : parts[i]? = some p)
    (v : Int) (hv : v ∈ p) :
    lo ≤ v ∧ ((∃ x, v ≤ x ∧ R x hi) ∨ (i + 2 = (divsOf S).length ∧ v ≤ hi)) := by
  obtain ⟨a, ha, rfl, hnext⟩ := divsOf_window S i lo hi hlo hhi
  have hva := hw.2 i a p ha hp v hv
  refine ⟨hva.1, ?_⟩
  rcases hnext with ⟨b, hb, rfl⟩ | ⟨hlen, rfl⟩
  · exact Or.inl ⟨a.2, hva.2, hadj.getElem i a b ha hb⟩
  · exact Or.inr ⟨hlen, hva.2⟩

theorem truthful_of_strict (S : List (Int × Int)) (parts : List (List Int)) (hne : S ≠ []) (hw : Within S parts)
    (hs : (divsOf S).Pairwise (· ≤ ·)) (hadj : Adj (fun a b => a.2 < b.1) S) : Truthful (divsOf S) parts where
  len := by rw [divsOf_length S hne, hw.1]
  sorted := hs
  bounds := fun i lo hi p hlo hhi hp v hv => by
    obtain ⟨h1, h2⟩ := divsOf_bounds (R := (· < ·)) S parts hw hadj i lo hi p hlo hhi hp v hv
    refine ⟨h1, ?_⟩
    rcases h2 with ⟨x, hvx, hx⟩ | ⟨hlen, hle⟩
    · exact Or.inl (Int.lt_of_le_of_lt hvx hx)
    · exact (Int.lt_or_eq_of_le hle).imp id (fun h => ⟨hlen, h⟩)

theorem truthfulClosed_of_touching (S : List (Int × Int)) (parts : List (List Int)) (hne : S ≠ []) (hw : Within S parts)
    (hs : (divsOf S).Pairwise (· ≤ ·)) (hadj : Adj (fun a b => a.2 ≤ b.1) S) : TruthfulClosed (divsOf S) parts where
  len := by rw [divsOf_length S hne, hw.1]
  sorted := hs
  bounds := fun i lo hi p hlo hhi hp v hv => by
    obtain ⟨h1, h2⟩ := divsOf_bounds (R := (· ≤ ·)) S parts hw hadj i lo hi p hlo hhi hp v hv
    exact ⟨h1, h2.elim (fun ⟨_, hvx, hx⟩ => Int.le_trans hvx hx) (·.2)⟩

theorem Truthful.closed {d : List Int} {parts : List (List Int)} (h : Truthful d parts) : TruthfulClosed d parts where
  len := h.len
  sorted := h.sorted
  bounds := fun i lo hi p hlo hhi hp v hv =>
    have hb := h.bounds i lo hi p hlo hhi hp v hv
    ⟨hb.1, hb.2.elim Int.le_of_lt (fun he => Int.le_of_eq he.2)⟩

theorem TruthfulClosed.sortedAcross {d : List Int} {parts : List (List Int)} (h : TruthfulClosed d parts) :
    SortedAcross parts := by
  intro i j p q hij hp hq v hv w hw
  have hi : i < parts.length := (List.getElem?_eq_some_iff.mp hp).1
  have hj : j < parts.length := (List.getElem?_eq_some_iff.mp hq).1
  have hlen := h.len
  have h1 : i + 1 < d.length := hlen ▸ Nat.succ_lt_succ hi
  have h0 : i < d.length := Nat.lt_of_succ_lt h1
  have h3 : j + 1 < d.length := hlen ▸ Nat.succ_lt_succ hj
  have h2 : j < d.length := Nat.lt_of_succ_lt h3
  have hv' := (h.bounds i d[i] d[i+1] p (List.getElem?_eq_getElem h0) (List.getElem?_eq_getElem h1) hp v hv).2
  have hw' := (h.bounds j d[j] d[j+1] q (List.getElem?_eq_getElem h2) (List.getElem?_eq_getElem h3) hq w hw).1
  have hmid : d[i+1] ≤ d[j] := by
    rcases Nat.lt_or_eq_of_le (Nat.succ_le_of_lt hij) with hlt | he
    · exact (List.pairwise_iff_getElem.mp h.sorted) (i+1) j h1 h2 hlt
    · subst he; exact Int.le_refl _
  exact Int.le_trans hv' (Int.le_trans hmid hw')

/-! ### 2. positional indexing -/

theorem pick_cons_some {α} {l : List α} {i : Nat} {t : List Nat} {r : List α} (h : pick l (i :: t) = some r) :
    ∃ x r', l[i]? = some x ∧ pick l t = some r' ∧ r = x :: r' := by
  unfold pick at h
  split at h
  · next x r' hx hr' => exact ⟨x, r', hx, hr', (Option.some.inj h).symm⟩
  · cases h

theorem pick_eq_filterMap {α} (l : List α) (σ : List Nat) (r : List α) (h : pick l σ = some r) :
    r = σ.filterMap (fun i => l[i]?) := by
  induction σ generalizing r with
  | nil => exact (Option.some.inj h).symm
  | cons i t ih =>
    obtain ⟨x, r', hx, hr', rfl⟩ := pick_cons_some h
    rw [List.filterMap_cons, hx, ← ih r' hr']

theorem pick_spec {α} (l : List α) (σ : List Nat) (r : List α) (h : pick l σ = some r) :
    r.length = σ.length ∧ ∀ (k i : Nat), σ[k]? = some i → r[k]? = l[i]? := by
  induction σ generalizing r with
  | nil => cases h; exact ⟨rfl, fun k i hk => nomatch hk⟩
  | cons j t ih =>
    obtain ⟨x, r', hx, hr', rfl⟩ := pick_cons_some h
    obtain ⟨hl, hk⟩ := ih r' hr'
    refine ⟨congrArg (· + 1) hl, fun k i hki => ?_⟩
    cases k with
    | zero => cases hki; exact hx.symm
    | succ k => exact hk k i hki

theorem pick_total {α} (l : List α) (σ : List Nat) (h : ∀ i ∈ σ, i < l.length) : ∃ r, pick l σ = some r := by
  induction σ with
  | nil => exact ⟨[], rfl⟩
  | cons i t ih =>
    obtain ⟨r, hr⟩ := ih (fun j hj => h j (List.mem_cons_of_mem _ hj))
    have hi : i < l.length := h i (List.mem_cons_self ..)
    exact ⟨l[i] :: r, by simp only [pick, hr, List.getElem?_eq_getElem hi]⟩

theorem pick_map {α β} (f : α → β) (l : List α) (σ : List Nat) : pick (l.map f) σ = (pick l σ).map (List.map f) := by
  induction σ with
  | nil => rfl
  | cons i t ih =>
    simp only [pick, ih, List.getElem?_map]
    cases l[i]? <;> cases pick l t <;> rfl

theorem pick_perm {α} (l : List α) (σ : List Nat) (r : List α) (hσ : σ.Perm (List.range l.length))
    (h : pick l σ = some r) : r.Perm l := by
  rw [pick_eq_filterMap l σ r h]
  have := hσ.filterMap (fun i => l[i]?)
  rwa [filterMap_range_getElem?] at this

/-! ### 3. the sort index -/

theorem lexLe_iff (a b : Int × Int) : lexLe a b = true ↔ a.1 < b.1 ∨ (a.1 = b.1 ∧ a.2 ≤ b.2) := by
  simp [lexLe]

theorem lexLe_trans (a b c : Int × Int) (h1 : lexLe a b = true) (h2 : lexLe b c = true) : lexLe a c = true := by
  rw [lexLe_iff] at *
  rcases h1 with h1 | ⟨e1, l1⟩ <;> rcases h2 with h2 | ⟨e2, l2⟩
  · exact Or.inl (Int.lt_trans h1 h2)
  · exact Or.inl (e2 ▸ h1)
  · exact Or.inl (e1 ▸ h2)
  · exact Or.inr ⟨e1.trans e2, Int.le_trans l1 l2⟩

theorem lexLe_total (a b : Int × Int) : (lexLe a b || lexLe b a) = true := by
  rw [Bool.or_eq_true, lexLe_iff, lexLe_iff]
  rcases Int.lt_trichotomy a.1 b.1 with h | h | h
  · exact Or.inl (Or.inl h)
  · exact (Int.le_total a.2 b.2).imp (fun l => Or.inr ⟨h, l⟩) (fun l => Or.inr ⟨h.symm, l⟩)
  · exact Or.inr (Or.inl h)

theorem argsort_perm (mm : List (Int × Int)) : (argsortPairs mm).Perm mm.zipIdx := List.mergeSort_perm _ _

/-- (c) the sort index is a permutation of the file positions: no file lost, none duplicated -/
theorem argsort_idx_perm (mm : List (Int × Int)) : ((argsortPairs mm).map (·.2)).Perm (List.range mm.length) := by
  have := (argsort_perm mm).map (·.2)
  rwa [List.zipIdx_map_snd, ← List.range_eq_range'] at this

theorem argsort_fst_perm (mm : List (Int × Int)) : ((argsortPairs mm).map (·.1)).Perm mm := by
  have := (argsort_perm mm).map (·.1)
  rwa [List.zipIdx_map_fst] at this

/-- the sort index of two files, in closed form (`mergeSort` does not evaluate in the kernel) -/
theorem argsortPairs_pair (a b : Int × Int) :
    argsortPairs [a, b] = if lexLe a b then [(a, 0), (b, 1)] else [(b, 1), (a, 0)] := by
  simp [argsortPairs, List.mergeSort, List.zipIdx, List.MergeSort.Internal.splitInTwo, List.merge]

theorem argsort_fst_ne_nil {mm : List (Int × Int)} (h : mm ≠ []) : (argsortPairs mm).map (·.1) ≠ [] :=
  fun he => h (List.length_eq_zero_iff.mp (by rw [← (argsort_fst_perm mm).length_eq, he]; rfl))

theorem argsort_sorted (mm : List (Int × Int)) :
    ((argsortPairs mm).map (·.1)).Pairwise (fun a b => lexLe a b = true) :=
  List.pairwise_map.mpr (List.pairwise_mergeSort (le := fun a b : (Int × Int) × Nat => lexLe a.1 b.1)
    (fun a b c => lexLe_trans a.1 b.1 c.1) (fun a b => lexLe_total a.1 b.1) mm.zipIdx)

theorem argsort_mem (mm : List (Int × Int)) : ∀ p ∈ argsortPairs mm, mm[p.2]? = some p.1 :=
  fun _ hp => List.mem_zipIdx_iff_getElem?.mp ((argsort_perm mm).mem_iff.mp hp)

/-- the overlap test of the loop as a boolean -/
def okFrom : Option Int → List (Int × Int) → Bool
  | _, [] => true
  | last, (mn, mx) :: t =>
    !(match last with
      | some l => decide (mn < l)
      | none => false) && okFrom (some mx) t

/-- `last_max` after the loop has run over `S` starting from `last`: the max of the last range, if there is one -/
def lastMax (last : Option Int) (S : List (Int × Int)) : Option Int :=
  match S.getLast? with
  | some x => some x.2
  | none => last

theorem lastMax_cons (last : Option Int) (a : Int × Int) (t : List (Int × Int)) :
    lastMax last (a :: t) = lastMax (some a.2) t := by
  cases t with
  | nil => simp [lastMax]
  | cons b t =>
    simp only [lastMax, List.getLast?_cons_cons]
    cases h : (b :: t).getLast? with
    | none => simp at h
    | some x => rfl

theorem divLoop_eq (S : List (Int × Int)) (last : Option Int) :
    divLoop last S = if okFrom last S then some (S.map (·.1), lastMax last S) else none := by
  induction S generalizing last with
  | nil => rfl
  | cons a t ih =>
    obtain ⟨mn, mx⟩ := a
    rw [lastMax_cons]
    cases last with
    | none =>
      simp only [divLoop, okFrom, ih, Bool.false_eq_true, ↓reduceIte, Bool.not_false, Bool.true_and]
      cases okFrom (some mx) t <;> rfl
    | some l =>
      simp only [divLoop, okFrom, ih]
      by_cases h : mn < l
      · simp only [h, decide_true, ↓reduceIte, Bool.not_true, Bool.false_and, Bool.false_eq_true]
      · simp only [h, decide_false, Bool.false_eq_true, ↓reduceIte, Bool.not_false, Bool.true_and]
        cases okFrom (some mx) t <;> rfl

theorem okFrom_some_iff (x : Int) (S : List (Int × Int)) (l : Int) :
    okFrom (some l) S = true ↔ Adj (fun a b => a.2 ≤ b.1) ((x, l) :: S) := by
  induction S generalizing x l with
  | nil => exact ⟨fun _ => trivial, fun _ => rfl⟩
  | cons a t ih =>
    obtain ⟨mn, mx⟩ := a
    simp only [okFrom, Bool.and_eq_true, Bool.not_eq_true', decide_eq_false_iff_not, Int.not_lt, Adj, ih mn mx]

theorem okFrom_none_iff (S : List (Int × Int)) : okFrom none S = true ↔ Adj (fun a b => a.2 ≤ b.1) S := by
  cases S with
  | nil => exact ⟨fun _ => trivial, fun _ => rfl⟩
  | cons a t =>
    obtain ⟨mn, mx⟩ := a
    simp only [okFrom, Bool.not_false, Bool.true_and, okFrom_some_iff mn t mx]

theorem divsOf_eq_of_lastMax (S : List (Int × Int)) (l : Int) (h : lastMax none S = some l) :
    S.map (·.1) ++ [l] = divsOf S := by
  unfold lastMax at h
  unfold divsOf
  cases hg : S.getLast? with
  | none => rw [hg] at h; simp at h
  | some x => rw [hg] at h; simp only [Option.some.injEq] at h; simp [h]

/-- `_divisions_from_statistics` on number pairs, characterised: known divisions (every min in sorted order, then the
    last max; reading order = the sort index) exactly when no sorted range starts before the previous one ends -/
theorem divisionsOfMinMax_eq (mm : List (Int × Int)) (hne : mm ≠ []) :
    divisionsOfMinMax mm =
      if okFrom none ((argsortPairs mm).map (·.1)) then
        .known (divsOf ((argsortPairs mm).map (·.1))) ((argsortPairs mm).map (·.2))
      else .unknown mm.length none := by
  unfold divisionsOfMinMax
  simp only [divLoop_eq]
  cases hok : okFrom none ((argsortPairs mm).map (·.1)) with
  | false => simp
  | true =>
    simp only [↓reduceIte]
    have hS := argsort_fst_ne_nil hne
    cases hl : lastMax none ((argsortPairs mm).map (·.1)) with
    | none =>
      exfalso
      unfold lastMax at hl
      cases hg : ((argsortPairs mm).map (·.1)).getLast? with
      | none => exact hS (List.getLast?_eq_none_iff.mp hg)
      | some x => rw [hg] at hl; simp at hl
    | some l => simp only [divsOf_eq_of_lastMax _ l hl]

theorem pairwise_of_adj_wf (S : List (Int × Int)) (hwf : ∀ s ∈ S, s.1 ≤ s.2) (hadj : Adj (fun a b => a.2 ≤ b.1) S) :
    S.Pairwise (fun a b => a.2 ≤ b.1) := by
  induction S with
  | nil => exact List.Pairwise.nil
  | cons a t ih =>
    cases t with
    | nil => exact List.pairwise_singleton _ _
    | cons b t =>
      have ih := ih (fun s hs => hwf s (List.mem_cons_of_mem _ hs)) hadj.2
      refine List.pairwise_cons.mpr ⟨fun x hx => ?_, ih⟩
      rcases List.mem_cons.mp hx with rfl | hx
      · exact hadj.1
      · exact Int.le_trans hadj.1 (Int.le_trans (hwf b (List.mem_cons_of_mem _ (List.mem_cons_self ..)))
          (List.rel_of_pairwise_cons ih hx))

theorem pairwise_disjoint_of_sorted_adj (mm : List (Int × Int)) (hwf : ∀ s ∈ mm, s.1 ≤ s.2)
    (hadj : Adj (fun a b => a.2 ≤ b.1) ((argsortPairs mm).map (·.1))) :
    mm.Pairwise (fun a b => a.2 ≤ b.1 ∨ b.2 ≤ a.1) :=
  have hperm := argsort_fst_perm mm
  (hperm.pairwise_iff (fun h => h.symm)).mp
    ((pairwise_of_adj_wf _ (fun s hs => hwf s (hperm.mem_iff.mp hs)) hadj).imp Or.inl)

/-- statistics and files re-read by the same index list still belong together -/
theorem within_pick (S : List (Int × Int)) (files : List (List Int)) (hw : Within S files) (σ : List Nat)
    (S' : List (Int × Int)) (r : List (List Int)) (hS : pick S σ = some S') (hr : pick files σ = some r) :
    Within S' r := by
  obtain ⟨hl, hk⟩ := pick_spec S σ S' hS
  obtain ⟨hl', hk'⟩ := pick_spec files σ r hr
  refine ⟨hl.trans hl'.symm, fun k s f hs hf => ?_⟩
  have hlt : k < σ.length := hl ▸ (List.getElem?_eq_some_iff.mp hs).1
  have hi := List.getElem?_eq_getElem hlt
  exact hw.2 σ[k] s f ((hk k _ hi).symm.trans hs) ((hk' k _ hi).symm.trans hf)

theorem sep_strict_of_lex {a b : Int × Int} (_ha : a.1 ≤ a.2) (hb : b.1 ≤ b.2) (hl : lexLe a b = true)
    (hd : a.2 < b.1 ∨ b.2 < a.1) : a.2 < b.1 := by
  rw [lexLe_iff] at hl
  omega

theorem sep_closed_of_lex {a b : Int × Int} (_ha : a.1 ≤ a.2) (hb : b.1 ≤ b.2) (hl : lexLe a b = true)
    (hd : a.2 ≤ b.1 ∨ b.2 ≤ a.1) : a.2 ≤ b.1 := by
  rw [lexLe_iff] at hl
  omega

/-- pairwise disjoint, well-formed statistics are separated in sorted order -/
theorem adj_sorted_of_disjoint (D : (Int × Int) → (Int × Int) → Prop) (Q : (Int × Int) → (Int × Int) → Prop)
    (hsymm : ∀ {a b}, D a b → D b a)
    (hQ : ∀ a b, a.1 ≤ a.2 → b.1 ≤ b.2 → lexLe a b = true → D a b → Q a b)
    (mm : List (Int × Int)) (hwf : ∀ s ∈ mm, s.1 ≤ s.2) (hd : mm.Pairwise D) :
    Adj Q ((argsortPairs mm).map (·.1)) := by
  apply adj_of_pairwise
  have hperm := argsort_fst_perm mm
  have hd' : ((argsortPairs mm).map (·.1)).Pairwise D := (hperm.pairwise_iff hsymm).mpr hd
  have hs := argsort_sorted mm
  have hboth := hs.and hd'
  refine hboth.imp_of_mem ?_
  intro a b ha hb hab
  exact hQ a b (hwf a (hperm.mem_iff.mp ha)) (hwf b (hperm.mem_iff.mp hb)) hab.1 hab.2

/-! ### 4. fsspec reader: `sorted_columns` -/

theorem scLoop_spec (rest : List FStat) (divs : List Int) (mx : Int) (divs' : List Int) (mx' : Int) (x : Int)
    (h : scLoop divs mx rest = some (divs', mx')) :
    ∃ T, mmOf rest = some T ∧ divs' = divs ++ T.map (·.1) ∧ Adj (fun a b => a.2 ≤ b.1) ((x, mx) :: T) ∧
      lastMax none ((x, mx) :: T) = some mx' := by
  induction rest generalizing divs mx x with
  | nil => cases h; exact ⟨[], rfl, (List.append_nil _).symm, trivial, rfl⟩
  | cons c t ih =>
    unfold scLoop at h
    split at h
    · next mn mx1 hc =>
      split at h
      · next hge =>
        obtain ⟨T', hT', hd, hadj, hlast⟩ := ih (divs ++ [mn]) mx1 mn h
        refine ⟨(mn, mx1) :: T', ?_, ?_, ⟨hge, hadj⟩, ?_⟩
        · simp only [mmOf, hc, hT']
        · rw [hd, List.append_assoc]; rfl
        · rw [lastMax_cons]; exact hlast
      · cases h
    · cases h

theorem isSortedInts_pairwise (l : List Int) (h : isSortedInts l = true) : l.Pairwise (· ≤ ·) :=
  pairwise_of_adjacent (R := (· ≤ ·)) (fun _ _ _ => Int.le_trans) (P := fun l => isSortedInts l = true)
    (fun a b t h => by simpa only [isSortedInts, Bool.and_eq_true, decide_eq_true_eq] using h) l h

/-- what a reported divisions list says about the statistics: every part has numbers, consecutive parts do not
    overlap (`min ≥` previous `max`), the divisions are the mins followed by the last max, and they are sorted -/
theorem sortedColumns_known (stats : List FStat) (d : List Int) (h : sortedColumns stats = .ok (some d)) :
    ∃ S, mmOf stats = some S ∧ S ≠ [] ∧ d = divsOf S ∧ Adj (fun a b => a.2 ≤ b.1) S ∧ d.Pairwise (· ≤ ·) := by
  unfold sortedColumns at h
  split at h
  · cases h
  · next first rest =>
    split at h
    · cases h
    · cases h
    · next v hv =>
      split at h
      · cases h
      · split at h
        · split at h <;> cases h
        · next mn mx =>
          split at h
          · cases h
          · next divs mx' hloop =>
            dsimp only at h
            split at h
            · next hsorted =>
              cases h
              obtain ⟨T, hT, rfl, hadj, hlast⟩ := scLoop_spec rest [mn] mx divs mx' mn hloop
              exact ⟨(mn, mx) :: T, by simp only [mmOf, hv, hT], List.cons_ne_nil _ _,
                divsOf_eq_of_lastMax _ mx' hlast, hadj, isSortedInts_pairwise _ hsorted⟩
            · cases h

theorem calculateDivisions_known (stats : List FStat) (g c s : Bool) (n : Nat) (d : List Int) (σ : List Nat)
    (h : calculateDivisions stats g c s n = .known d σ) :
    σ = List.range n ∧ sortedColumns stats = .ok (some d) ∧ g = true ∧ c = true ∧ s = true := by
  unfold calculateDivisions at h
  split at h
  · next hflags =>
    simp only [Bool.and_eq_true] at hflags
    split at h
    · cases h
    · next d' hd' =>
      split at h
      · cases h
      · cases h; exact ⟨rfl, hd', hflags.1.1.2, hflags.1.2, hflags.2⟩
    · cases h
  · cases h

theorem mmOf_length (stats : List FStat) (S : List (Int × Int)) (h : mmOf stats = some S) : S.length = stats.length := by
  induction stats generalizing S with
  | nil => cases h; rfl
  | cons s t ih =>
    unfold mmOf at h
    split at h
    · next v r _ hr => cases h; exact congrArg (· + 1) (ih r hr)
    · cases h

/-! ### 5. lengths -/

theorem lengthStatistics_none (rows : List Nat) : lengthStatistics rows none = rows := by
  unfold lengthStatistics
  have : (fun (p : Nat × Nat) => (some p.1 : Option Nat)) = some ∘ Prod.fst := rfl
  simp only [this, List.filterMap_eq_map, List.zipIdx_map_fst]

theorem zip_filter_zipIdx {α} (c : Nat → Bool) (rows : List α) (k n : Nat) :
    ((List.range' k n).filter c).zip ((rows.zipIdx k).filterMap (fun p => if c p.2 then some p.1 else none)) =
      ((List.range' k n).zip rows).filter (fun q => c q.1) := by
  induction rows generalizing k n with
  | nil => rw [List.zipIdx_nil, List.filterMap_nil, List.zip_nil_right, List.zip_nil_right]; rfl
  | cons x t ih =>
    cases n with
    | zero => rfl
    | succ n =>
      rw [List.range'_succ, List.zipIdx_cons, List.zip_cons_cons, List.filter_cons, List.filter_cons,
        List.filterMap_cons]
      cases hc : c k with
      | true => simp only [if_true, List.zip_cons_cons, ih]
      | false => simp only [Bool.false_eq_true, if_false, ih]

theorem lookup_zip_range' {α} (rows : List α) (k n j : Nat) :
    ((List.range' k n).zip rows).lookup (k + j) = if j < n then rows[j]? else none := by
  induction rows generalizing k n j with
  | nil => rw [List.zip_nil_right]; exact (ite_self _).symm
  | cons x t ih =>
    cases n with
    | zero => rfl
    | succ n =>
      rw [List.range'_succ, List.zip_cons_cons, List.lookup_cons]
      cases j with
      | zero => rw [Nat.add_zero, beq_self_eq_true, if_pos (Nat.succ_pos n)]; rfl
      | succ j =>
        have hne : (k + (j + 1) == k) = false := beq_eq_false_iff_ne.mpr (by omega)
        rw [hne, ← Nat.add_assoc, Nat.add_right_comm, ih (k + 1) n j]
        simp only [Nat.add_lt_add_iff_right, List.getElem?_cons_succ]

theorem lookupAll_eq_pick (tbl : List (Nat × Nat)) (rows : List Nat) (Q : List Nat)
    (h : ∀ i ∈ Q, tbl.lookup i = rows[i]?) : lookupAll tbl Q = pick rows Q := by
  induction Q with
  | nil => rfl
  | cons i t ih =>
    simp only [lookupAll, pick, h i (List.mem_cons_self ..), ih (fun j hj => h j (List.mem_cons_of_mem _ hj))]
    cases rows[i]? <;> cases pick rows t <;> rfl

theorem chunks_map {α β} (f : α → β) (step : Nat) (fuel : Nat) (l : List α) :
    Parquet.chunks step fuel (l.map f) = (Parquet.chunks step fuel l).map (List.map f) := by
  induction fuel generalizing l with
  | zero => rfl
  | succ fuel ih =>
    cases l with
    | nil => rfl
    | cons a t =>
      have ih := ih ((a :: t).drop step)
      simp only [List.map_cons, Parquet.chunks] at ih ⊢
      rw [← List.map_cons, ← List.map_take, ← List.map_drop, ih]

/-! ### 6. complete statistics -/

theorem colsOf_length (agg : List AggFile) (cs : List (Option (Int × Int))) (h : colsOf agg = some cs) :
    cs.length = agg.length := by
  induction agg generalizing cs with
  | nil => cases h; rfl
  | cons f t ih =>
    unfold colsOf at h
    split at h
    · next c r _ hr => cases h; exact congrArg (· + 1) (ih r hr)
    · cases h

theorem allPresent_length (cs : List (Option (Int × Int))) (mm : List (Int × Int)) (h : allPresent cs = some mm) :
    mm.length = cs.length := by
  induction cs generalizing mm with
  | nil => cases h; rfl
  | cons c t ih =>
    cases c with
    | none => cases h
    | some a =>
      unfold allPresent at h
      split at h
      · next r hr => cases h; exact congrArg (· + 1) (ih r hr)
      · cases h

theorem completeStats_length (agg : List AggFile) (mm : List (Int × Int)) (h : completeStats agg = some mm) :
    mm.length = agg.length := by
  unfold completeStats at h
  split at h
  · rename_i cs hcs
    rw [allPresent_length cs mm h, colsOf_length agg cs hcs]
  · simp at h

theorem divisionsFromStatistics_known (agg : List AggFile) (d : List Int) (σ : List Nat)
    (h : divisionsFromStatistics agg = .known d σ) :
    ∃ mm, completeStats agg = some mm ∧ agg ≠ [] ∧ divisionsOfMinMax mm = .known d σ := by
  unfold divisionsFromStatistics at h
  split at h
  · simp at h
  · rename_i a t
    split at h
    · simp at h
    · rename_i cs hcs
      split at h
      · rename_i mm hmm
        exact ⟨mm, by simp [completeStats, hcs, hmm], by simp, h⟩
      · split at h <;> simp at h

/-- a known answer of the arrow reader: complete statistics, no overlap in sorted order, the divisions of the sorted
    statistics, the sort index as reading order -/
theorem divisionsFromStatistics_known_sorted (agg : List AggFile) (d : List Int) (σ : List Nat)
    (h : divisionsFromStatistics agg = .known d σ) :
    ∃ mm, completeStats agg = some mm ∧ mm.length = agg.length ∧ mm ≠ [] ∧
      Adj (fun a b => a.2 ≤ b.1) ((argsortPairs mm).map (·.1)) ∧ d = divsOf ((argsortPairs mm).map (·.1)) ∧
      σ = (argsortPairs mm).map (·.2) := by
  obtain ⟨mm, hc, hne, hk⟩ := divisionsFromStatistics_known agg d σ h
  have hlen := completeStats_length agg mm hc
  have hmm : mm ≠ [] := fun he => hne (List.length_eq_zero_iff.mp (by rw [← hlen, he]; rfl))
  rw [divisionsOfMinMax_eq mm hmm] at hk
  split at hk
  · next hok => cases hk; exact ⟨mm, hc, hlen, hmm, (okFrom_none_iff _).mp hok, rfl, rfl⟩
  · cases hk

theorem divisionsFromStatistics_complete (agg : List AggFile) (mm : List (Int × Int)) (hc : completeStats agg = some mm)
    (hne : agg ≠ []) : divisionsFromStatistics agg = divisionsOfMinMax mm := by
  unfold completeStats at hc
  split at hc
  · rename_i cs hcs
    cases agg with
    | nil => exact absurd rfl hne
    | cons a t => simp only [divisionsFromStatistics, hcs, hc]
  · simp at hc

theorem pick_argsort (mm : List (Int × Int)) :
    pick mm ((argsortPairs mm).map (·.2)) = some ((argsortPairs mm).map (·.1)) := by
  have hmem := argsort_mem mm
  generalize argsortPairs mm = srt at hmem
  induction srt with
  | nil => rfl
  | cons p t ih =>
    simp only [List.map_cons, pick, hmem p (List.mem_cons_self ..), ih (fun q hq => hmem q (List.mem_cons_of_mem _ hq))]

end Dx.PqStats

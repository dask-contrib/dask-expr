/-
  Lemmas/LayerFlat.lean — `LayerWF` of every flat generator of Layers/Flat.lean, for all parameters.
  One generic theorem (`flat_wf`: a flat layer is well formed if its references are in bounds) plus, per
  generator, the proof that its references ARE in bounds (under the guard the class relies on, if any).
  `RefsOK ents depN` is `∀ e ∈ ents, ∀ r ∈ e.refs, …`: the `List.forall_mem_*` lemmas take it apart along the
  shape of `ents` (a `map`, a singleton, an append) and of the reference list of each entry.
-/
import DxModel.LayerOK
import DxModel.Layers.Flat
namespace Dx
namespace Flat

/-- the classification of the keys of a flat layer -/
def spec (ents : List Ent) : LSpec Key :=
  { task := layer ents
    nout := ents.length
    out := Key.out
    outIdx := fun k => match k with | .out j => some j | .dep _ _ => none
    depOf := fun k => match k with | .dep d i => some (d, i) | .out _ => none
    rank := fun _ => 0
    bound := 0 }

theorem layer_out (ents : List Ent) (j : Nat) : layer ents (.out j) = ents[j]?.map Ent.task := by
  rw [layer]
  cases ents[j]? <;> rfl

theorem layer_out_isSome (ents : List Ent) (j : Nat) : (layer ents (.out j)).isSome ↔ j < ents.length := by
  rw [layer_out, Option.isSome_map, isSome_getElem?]

theorem task_refs (e : Ent) : e.task.refs = refKeys e.refs := by
  cases e <;> rfl

/-- **flat layers**: in-bounds references are all that is needed -/
theorem flat_wf (ents : List Ent) (depN : List Nat) (h : RefsOK ents depN) : LayerWF (spec ents) depN := by
  refine .ofRefs (fun _ _ => rfl) (fun i hi => (layer_out_isSome ents i).mpr hi) ?_ ?_ ?_ (fun _ _ => Nat.le_refl 0)
  · intro k i hk hidx
    cases k with
    | dep => cases hidx
    | out j =>
      cases hidx
      exact ⟨(layer_out_isSome ents _).mp hk, rfl⟩
  · intro k hk
    cases k with
    | dep => cases hk
    | out => rfl
  · intro k t hk r hr
    cases k with
    | dep => cases hk
    | out j =>
      obtain ⟨e, he, rfl⟩ := Option.map_eq_some_iff.mp ((layer_out ents j).symm.trans hk)
      rw [task_refs] at hr
      obtain ⟨p, hp, rfl⟩ := List.mem_map.mp hr
      obtain ⟨nd, hn, hlt⟩ := h e (List.mem_of_getElem? he) p hp
      exact .dep rfl hn hlt

theorem flat_listed (ents : List Ent) : Listed (spec ents) (keys ents) := by
  intro k
  cases k with
  | dep d i =>
    simp only [keys, List.mem_map, reduceCtorEq, and_false, exists_false]
    exact ⟨(nomatch ·), False.elim⟩
  | out j =>
    simp only [keys, List.mem_map, List.mem_range, Key.out.injEq, exists_eq_right]
    exact layer_out_isSome ents j

/-- the Bool checker of the hypothesis (run by the driver on real parameters) is sound -/
theorem refsOKb_sound (ents : List Ent) (depN : List Nat) (h : refsOKb ents depN = true) : RefsOK ents depN := by
  intro e he r hr
  have := List.all_eq_true.mp (List.all_eq_true.mp h e he) r hr
  split at this
  · exact ⟨_, ‹_›, of_decide_eq_true this⟩
  · cases this

/-- all references of a list (those of an entry, or the `frames` that `resolveLoop` has collected so far) point below
    `n` in dependency 0 -/
def InB (n : Nat) (refs : List (Nat × Nat)) : Prop := ∀ r ∈ refs, r.1 = 0 ∧ r.2 < n

theorem inB_one {n p : Nat} (h : p < n) : InB n [(0, p)] :=
  List.forall_mem_singleton.mpr ⟨rfl, h⟩

/-- a layer over a single dependency of `n` partitions -/
theorem refsOK_of_inB {ents : List Ent} {n : Nat} (h : ∀ e ∈ ents, InB n e.refs) : RefsOK ents [n] :=
  fun e he r hr => ⟨n, (h e he r hr).1 ▸ rfl, (h e he r hr).2⟩

/-! ### StackPartition: references are always in bounds (`depN` = the frames' partition counts) -/

theorem stackFrame_refsOK {d np : Nat} {depN : List Nat} (mat : Bool) (h : depN[d]? = some np) :
    RefsOK (stackFrame d np mat) depN :=
  List.forall_mem_map.mpr fun i hi => by
    cases mat <;> exact List.forall_mem_singleton.mpr ⟨np, h, List.mem_range.mp hi⟩

/-- frame `k` of the remaining ones is dependency `d + k` -/
theorem stackFrom_refsOK (depN nps : List Nat) : ∀ (d : Nat) (mat : List Bool),
    (∀ k, depN[d + k]? = nps[k]?) → RefsOK (stackFrom d nps mat) depN := by
  induction nps with
  | nil => exact fun _ _ _ _ he => nomatch he
  | cons np nps ih =>
    exact fun d mat h => List.forall_mem_append.mpr ⟨stackFrame_refsOK _ (h 0),
      ih (d + 1) mat.tail fun k => Nat.add_right_comm d k 1 ▸ h (k + 1)⟩

theorem stack_refsOK (nps : List Nat) (mat : List Bool) : RefsOK (stackEnts nps mat) nps :=
  stackFrom_refsOK nps nps 0 mat fun k => congrArg (nps[·]?) (Nat.zero_add k)

theorem stackFrom_length (nps : List Nat) : ∀ (d : Nat) (mat : List Bool), (stackFrom d nps mat).length = total nps := by
  induction nps with
  | nil => exact fun _ _ => rfl
  | cons np nps ih =>
    intro d mat
    rw [stackFrom, List.length_append, ih, stackFrame, List.length_map, List.length_range, total]

/-- `npartitions = sum(df.npartitions for df in dfs)` outputs -/
theorem stack_length (nps : List Nat) (mat : List Bool) : (stackEnts nps mat).length = total nps :=
  stackFrom_length nps 0 mat

/-! ### StackPartitionInterleaved: in bounds iff no frame has fewer partitions than the first -/

theorem interleaved_refsOK (nps : List Nat) (h : ∀ nd ∈ nps, nps.headD 0 ≤ nd) : RefsOK (interleavedEnts nps) nps :=
  List.forall_mem_map.mpr fun _ hi => List.forall_mem_map.mpr fun d hd =>
    have hd : d < nps.length := List.mem_range.mp hd
    ⟨nps[d], List.getElem?_eq_getElem hd, Nat.lt_of_lt_of_le (List.mem_range.mp hi) (h _ (List.getElem_mem hd))⟩

/-! ### Partitions, filtered sources, FusedIO, FromDelayed -/

theorem partitions_refsOK (P : List Nat) (n : Nat) (h : ∀ p ∈ P, p < n) : RefsOK (partitionsEnts P) [n] :=
  refsOK_of_inB (List.forall_mem_map.mpr fun p hp => inB_one (h p hp))

theorem filtered_refsOK (P : List Nat) (depN : List Nat) : RefsOK (filteredEnts P) depN :=
  List.forall_mem_map.mpr fun _ _ _ hr => nomatch hr

theorem fused_refsOK (P : List Nat) (step : Nat) (depN : List Nat) : RefsOK (fusedEnts P step) depN :=
  List.forall_mem_map.mpr fun _ _ _ hr => nomatch hr

/-- every selected Delayed is one of `dfs` (`ndfs` of them, one partition each) -/
theorem fromDelayed_refsOK (P : List Nat) (ndfs : Nat) (h : ∀ p ∈ P, p < ndfs) :
    RefsOK (fromDelayedEnts P) (List.replicate ndfs 1) :=
  List.forall_mem_map.mpr fun p hp =>
    List.forall_mem_singleton.mpr ⟨1, List.getElem?_replicate_of_lt (h p hp), Nat.one_pos⟩

/-! ### gathers -/

theorem barrier_refsOK (n : Nat) : RefsOK (barrierEnts n) [n] :=
  refsOK_of_inB (List.forall_mem_singleton.mpr (List.forall_mem_map.mpr fun _ hi => ⟨rfl, List.mem_range.mp hi⟩))

theorem scalars_refsOK (m : Nat) : RefsOK (scalarsEnts m) (List.replicate m 1) :=
  List.forall_mem_singleton.mpr (List.forall_mem_map.mpr fun _ hd =>
    ⟨1, List.getElem?_replicate_of_lt (List.mem_range.mp hd), Nat.one_pos⟩)

/-! ### Loc* -/

theorem locElement_refsOK (part n : Nat) (h : part < n) : RefsOK (locElementEnts part) [n] :=
  refsOK_of_inB (List.forall_mem_singleton.mpr (inB_one h))

theorem locList_refsOK (parts : List Nat) (n : Nat) (h : ∀ p ∈ parts, p < n) : RefsOK (locListEnts parts) [n] := by
  refine refsOK_of_inB ?_
  unfold locListEnts
  split
  · exact List.forall_mem_singleton.mpr fun _ hr => nomatch hr
  · exact List.forall_mem_map.mpr fun p hp => inB_one (h p hp)

theorem locSlice_refsOK (start stop n : Nat) (cnone : Bool) (h1 : start ≤ stop) (h2 : stop < n) :
    RefsOK (locSliceEnts start stop cnone) [n] := by
  refine refsOK_of_inB ?_
  rcases Nat.eq_or_lt_of_le h1 with rfl | hlt
  · rw [locSliceEnts, if_pos rfl]
    exact List.forall_mem_singleton.mpr (inB_one h2)
  · rw [locSliceEnts, if_neg (Nat.ne_of_gt hlt)]
    refine List.forall_mem_cons.mpr ⟨inB_one (Nat.lt_trans hlt h2),
      List.forall_mem_append.mpr ⟨?_, List.forall_mem_singleton.mpr (inB_one h2)⟩⟩
    refine List.forall_mem_map.mpr fun t ht => ?_
    have : start + (t + 1) < n :=
      Nat.lt_trans (Nat.add_lt_of_lt_sub' (Nat.add_lt_of_lt_sub (List.mem_range.mp ht))) h2
    cases cnone <;> exact inB_one this

theorem locSlice_length (start stop : Nat) (cnone : Bool) (h : start ≤ stop) :
    (locSliceEnts start stop cnone).length = stop - start + 1 := by
  rcases Nat.eq_or_lt_of_le h with rfl | hlt
  · rw [locSliceEnts, if_pos rfl, Nat.sub_self]
    rfl
  · rw [locSliceEnts, if_neg (Nat.ne_of_gt hlt), List.length_cons, List.length_append, List.length_map,
      List.length_range]
    exact congrArg Nat.succ (Nat.sub_add_cancel (Nat.sub_pos_of_lt hlt))

/-! ### ResolveOverlappingDivisions: every reference is a non-empty partition of the frame -/

theorem inB_snoc {n p : Nat} {refs : List (Nat × Nat)} (h : InB n refs) (hp : p < n) : InB n (refs ++ [(0, p)]) :=
  List.forall_mem_append.mpr ⟨h, inB_one hp⟩

theorem forall_mem_set {α} {P : α → Prop} {l : List α} {j : Nat} {a : α} (h : ∀ x ∈ l, P x) (ha : P a) :
    ∀ x ∈ l.set j a, P x :=
  fun x hx => (List.mem_or_eq_of_mem_set hx).elim (h x) (· ▸ ha)

theorem getD_lt (ne : List Nat) (n i : Nat) (hne : ∀ p ∈ ne, p < n) (hn : 1 ≤ n) : ne.getD i 0 < n := by
  rw [List.getD_eq_getElem?_getD]
  cases h : ne[i]? with
  | none => exact hn
  | some p => exact hne p (List.mem_of_getElem? h)

theorem wrapDrop_inB (n : Nat) (ents : List Ent) (j : Nat) (h : ∀ e ∈ ents, InB n e.refs) :
    ∀ e ∈ wrapDrop ents j, InB n e.refs := by
  unfold wrapDrop
  split
  · rename_i e he
    exact forall_mem_set h (h e (List.mem_of_getElem? he))
  · exact h

theorem resolveLoop_inB (ne : List Nat) (ov eqNext : Nat → Bool) (n : Nat) (hne : ∀ p ∈ ne, p < n) (hn : 1 ≤ n) :
    ∀ (l : List Nat) (frames : List (Nat × Nat)) (ents : List Ent), InB n frames → (∀ e ∈ ents, InB n e.refs) →
      ∀ e ∈ resolveLoop ne ov eqNext l frames ents, InB n e.refs := by
  intro l
  induction l with
  | nil => intro frames ents _ he; exact he
  | cons i rest ih =>
    intro frames ents hf he
    have hf1 := inB_snoc hf (getD_lt ne n (i - 1) hne hn)
    have he1 := wrapDrop_inB n ents (i - 1) he
    rw [resolveLoop]
    split
    · exact ih _ _ hf1 he1
    · exact ih _ _ (fun _ hr => nomatch hr) (forall_mem_set he1 (inB_snoc hf1 (getD_lt ne n i hne hn)))

theorem resolve_refsOK (ne overlapIdx : List Nat) (eqNext : Nat → Bool) (n : Nat) (hne : ∀ p ∈ ne, p < n)
    (hn : 1 ≤ n) : RefsOK (resolveEnts ne overlapIdx eqNext) [n] := by
  refine refsOK_of_inB ?_
  unfold resolveEnts
  split
  · exact List.forall_mem_singleton.mpr (inB_one hn)
  · exact resolveLoop_inB ne _ eqNext n hne hn _ _ _ (fun _ hr => nomatch hr)
      (List.forall_mem_map.mpr fun p hp => inB_one (hne p hp))

end Flat
end Dx

/-
  Lemmas/FusionWalk.lean — the first half of `_fusion_pass` (global dependents / dependencies maps):
  what the maps contain when the walk ends, and that the walk never runs out of fuel.
-/
import DxModel.Lemmas.FusionBasic
namespace Dx.Fusion
open Dx

/-- `x` is an operand-descendant of the plan root (what the operand walk of `_fusion_pass` reaches) -/
inductive Reach (dag : Dag) (root : Nat) : Nat → Prop where
  | root : Reach dag root root
  | step {c d : Nat} : Reach dag root c → d ∈ depsOf dag c → Reach dag root d

/-! ### dicts -/

/-- the key list after `touch k` / `add k _`: `k` is appended unless present -/
theorem mem_addKey (l : List Nat) (k x : Nat) :
    x ∈ (if k ∈ l then l else l ++ [k]) ↔ x ∈ l ∨ x = k := by
  by_cases hk : k ∈ l
  · rw [if_pos hk]
    exact ⟨Or.inl, fun h => h.elim id (fun e => e ▸ hk)⟩
  · rw [if_neg hk, List.mem_append, List.mem_singleton]

theorem nodup_addKey (l : List Nat) (k : Nat) (h : l.Nodup) : (if k ∈ l then l else l ++ [k]).Nodup := by
  by_cases hk : k ∈ l
  · rw [if_pos hk]; exact h
  · rw [if_neg hk]
    exact nodup_snoc h hk

theorem Dict.mem_add_val (d : Dict) (k v x k' : Nat) :
    x ∈ (d.add k v).val k' ↔ x ∈ d.val k' ∨ (k' = k ∧ x = v) := by
  show x ∈ (if k' = k then (if v ∈ d.val k then d.val k else d.val k ++ [v]) else d.val k') ↔ _
  by_cases hk : k' = k
  · subst hk
    rw [if_pos rfl, mem_addKey]
    simp only [true_and]
  · simp only [hk, if_false, false_and, or_false]

theorem Dict.mem_add_keys (d : Dict) (k v k' : Nat) :
    k' ∈ (d.add k v).keys ↔ k' ∈ d.keys ∨ k' = k := mem_addKey _ _ _

theorem Dict.add_keys_nodup (d : Dict) (k v : Nat) (h : d.keys.Nodup) : (d.add k v).keys.Nodup :=
  nodup_addKey _ _ h

theorem Dict.touch_keys (d : Dict) (k : Nat) :
    (d.touch k).keys = if k ∈ d.keys then d.keys else d.keys ++ [k] := by
  unfold Dict.touch
  by_cases hk : k ∈ d.keys
  · rw [if_pos hk, if_pos hk]
  · rw [if_neg hk, if_neg hk]

theorem Dict.touch_val (d : Dict) (k : Nat) : (d.touch k).val = d.val := by
  unfold Dict.touch
  by_cases hk : k ∈ d.keys
  · rw [if_pos hk]
  · rw [if_neg hk]

theorem Dict.mem_touch_keys (d : Dict) (k k' : Nat) :
    k' ∈ (d.touch k).keys ↔ k' ∈ d.keys ∨ k' = k := by
  rw [Dict.touch_keys]; exact mem_addKey _ _ _

theorem Dict.touch_keys_nodup (d : Dict) (k : Nat) (h : d.keys.Nodup) : (d.touch k).keys.Nodup := by
  rw [Dict.touch_keys]; exact nodup_addKey _ _ h

/-! ### the operand loop -/

/-- one iteration of the `for operand in next.operands` loop of `nx` -/
def visitOp (dag : Dag) (nx : Nat) (m : Maps) (op : Nat) : Maps :=
  if isBw dag op then
    { m with
      dependencies := if nx ∈ m.dependencies.keys then m.dependencies.add nx op else m.dependencies
      dependents := m.dependents.add op nx }
  else m

theorem visitOps_cons (dag : Dag) (nx op : Nat) (ops st : List Nat) (m : Maps) :
    visitOps dag nx (op :: ops) st m = visitOps dag nx ops (op :: st) (visitOp dag nx m op) := rfl

/-- `m'` is `m` after the operand loop of `nx` has gone through `ops` -/
structure OpsDone (dag : Dag) (nx : Nat) (ops : List Nat) (m m' : Maps) : Prop where
  seen : m'.seen = m.seen
  dependents_val : ∀ k x, x ∈ m'.dependents.val k ↔
    x ∈ m.dependents.val k ∨ (x = nx ∧ k ∈ ops ∧ isBw dag k = true)
  dependents_keys : ∀ k, k ∈ m'.dependents.keys ↔ k ∈ m.dependents.keys ∨ (k ∈ ops ∧ isBw dag k = true)
  keys_nodup : m.dependents.keys.Nodup → m'.dependents.keys.Nodup
  dependencies_val : ∀ k x, x ∈ m'.dependencies.val k →
    x ∈ m.dependencies.val k ∨ (k = nx ∧ x ∈ ops ∧ isBw dag x = true)

theorem OpsDone.single (dag : Dag) (nx : Nat) (m : Maps) (op : Nat) :
    OpsDone dag nx [op] m (visitOp dag nx m op) := by
  unfold visitOp
  by_cases hb : isBw dag op = true
  · rw [if_pos hb]
    refine ⟨rfl, fun k x => ?_, fun k => ?_, Dict.add_keys_nodup _ _ _, fun k x hx => ?_⟩
    · rw [Dict.mem_add_val, List.mem_singleton]
      exact or_congr_right ⟨fun ⟨h1, h2⟩ => ⟨h2, h1, h1 ▸ hb⟩, fun ⟨h1, h2, _⟩ => ⟨h2, h1⟩⟩
    · rw [Dict.mem_add_keys, List.mem_singleton]
      exact or_congr_right ⟨fun h => ⟨h, h ▸ hb⟩, fun h => h.1⟩
    · by_cases hk : nx ∈ m.dependencies.keys
      · simp only [hk, if_true, Dict.mem_add_val] at hx
        exact hx.imp_right fun ⟨h1, h2⟩ => ⟨h1, h2 ▸ List.mem_cons_self, h2 ▸ hb⟩
      · simp only [hk, if_false] at hx
        exact Or.inl hx
  · rw [if_neg hb]
    have hno : ∀ k, ¬ (k ∈ [op] ∧ isBw dag k = true) := fun k h => hb (List.mem_singleton.mp h.1 ▸ h.2)
    exact ⟨rfl, fun k x => ⟨Or.inl, fun h => h.resolve_right fun h => hno k h.2⟩,
      fun k => ⟨Or.inl, fun h => h.resolve_right (hno k)⟩, id, fun _ _ => Or.inl⟩

theorem visitOps_spec (dag : Dag) (nx : Nat) (ops st : List Nat) (m : Maps) :
    (visitOps dag nx ops st m).1 = ops.reverse ++ st ∧ OpsDone dag nx ops m (visitOps dag nx ops st m).2 := by
  induction ops generalizing st m with
  | nil => exact ⟨rfl, rfl, by simp [visitOps], by simp [visitOps], id, fun _ _ => Or.inl⟩
  | cons op ops ih =>
    obtain ⟨h1, D⟩ := ih (op :: st) (visitOp dag nx m op)
    have S := OpsDone.single dag nx m op
    rw [visitOps_cons]
    refine ⟨by rw [h1, List.reverse_cons, List.append_assoc]; rfl, D.seen.trans S.seen,
      fun k x => ?_, fun k => ?_, fun h => D.keys_nodup (S.keys_nodup h), fun k x hx => ?_⟩
    · rw [D.dependents_val, S.dependents_val]
      simp only [List.mem_cons, List.not_mem_nil, or_false, or_assoc, or_and_right, and_or_left]
    · rw [D.dependents_keys, S.dependents_keys]
      simp only [List.mem_cons, List.not_mem_nil, or_false, or_assoc, or_and_right]
    · rcases D.dependencies_val k x hx with hx | ⟨h1, h2, h3⟩
      · exact (S.dependencies_val k x hx).imp_right
          fun ⟨h1, h2, h3⟩ => ⟨h1, List.mem_singleton.mp h2 ▸ List.mem_cons_self, h3⟩
      · exact Or.inr ⟨h1, List.mem_cons_of_mem _ h2, h3⟩

/-! ### the walk -/

/-- what holds of the maps while (and after) the operand walk runs; `st` is the stack -/
structure WInv (dag : Dag) (root : Nat) (st : List Nat) (m : Maps) : Prop where
  /-- operands of visited nodes are visited or waiting -/
  closure : ∀ s ∈ m.seen, ∀ d ∈ depsOf dag s, d ∈ m.seen ∨ d ∈ st
  /-- every visited dependent of a blockwise node is recorded -/
  edges : ∀ s ∈ m.seen, ∀ d ∈ depsOf dag s, isBw dag d = true → s ∈ m.dependents.val d
  /-- recorded dependents are visited nodes having the key as an operand -/
  dependents_sound : ∀ k x, x ∈ m.dependents.val k → x ∈ m.seen ∧ k ∈ depsOf dag x ∧ isBw dag k = true
  /-- recorded dependencies are blockwise operands of a blockwise node -/
  dependencies_sound : ∀ k x, x ∈ m.dependencies.val k → isBw dag x = true ∧ x ∈ depsOf dag k ∧ k ∈ m.seen
  /-- the keys of `dependents` are exactly the reached blockwise nodes -/
  keys_bw : ∀ k ∈ m.dependents.keys, isBw dag k = true ∧ (k ∈ m.seen ∨ k ∈ st)
  keys_complete : ∀ s ∈ m.seen, isBw dag s = true → s ∈ m.dependents.keys
  keys_nodup : m.dependents.keys.Nodup
  reach : ∀ x, x ∈ m.seen ∨ x ∈ st → Reach dag root x
  root_in : root ∈ m.seen ∨ root ∈ st

theorem WInv.init (dag : Dag) (root : Nat) : WInv dag root [root] ⟨Dict.empty, Dict.empty, []⟩ :=
  ⟨fun _ hs => (nomatch hs), fun _ hs => (nomatch hs), fun _ _ hx => (nomatch hx), fun _ _ hx => (nomatch hx),
    fun _ hk => (nomatch hk), fun _ hs => (nomatch hs), List.nodup_nil,
    fun _ hx => hx.elim (fun h => (nomatch h)) (fun h => List.mem_singleton.mp h ▸ Reach.root),
    Or.inr List.mem_cons_self⟩

/-- the maps on entering the unvisited node `nx` -/
def enter (dag : Dag) (nx : Nat) (m : Maps) : Maps :=
  if isBw dag nx then
    { dependencies := m.dependencies.touch nx, dependents := m.dependents.touch nx, seen := nx :: m.seen }
  else { m with seen := nx :: m.seen }

theorem enter_seen (dag : Dag) (nx : Nat) (m : Maps) : (enter dag nx m).seen = nx :: m.seen := by
  unfold enter
  by_cases hb : isBw dag nx = true
  · rw [if_pos hb]
  · rw [if_neg hb]

/-- one iteration of the `while stack:` loop on an unvisited node -/
theorem WInv.visit (dag : Dag) (root nx : Nat) (st : List Nat) (m : Maps)
    (h : WInv dag root (nx :: st) m) (hns : nx ∉ m.seen) :
    let m1 : Maps := enter dag nx m
    let r := visitOps dag nx (depsOf dag nx) st m1
    WInv dag root r.1 r.2 := by
  intro m1 r
  obtain ⟨hm1seen, hm1dv, hm1cv, hm1dk, hm1nd⟩ : m1.seen = nx :: m.seen ∧
      m1.dependents.val = m.dependents.val ∧ m1.dependencies.val = m.dependencies.val ∧
      (∀ k, k ∈ m1.dependents.keys ↔ k ∈ m.dependents.keys ∨ (k = nx ∧ isBw dag nx = true)) ∧
      m1.dependents.keys.Nodup := by
    simp only [m1, enter]
    by_cases hb : isBw dag nx = true
    · rw [if_pos hb]
      exact ⟨rfl, Dict.touch_val _ _, Dict.touch_val _ _,
        fun k => by rw [Dict.mem_touch_keys]; simp only [hb, and_true],
        Dict.touch_keys_nodup _ _ h.keys_nodup⟩
    · rw [if_neg hb]
      exact ⟨rfl, rfl, rfl, fun k => ⟨Or.inl, fun hk => hk.resolve_right fun hk => hb hk.2⟩, h.keys_nodup⟩
  obtain ⟨hst, D⟩ : r.1 = (depsOf dag nx).reverse ++ st ∧ OpsDone dag nx (depsOf dag nx) m1 r.2 :=
    visitOps_spec dag nx (depsOf dag nx) st m1
  have hseen : r.2.seen = nx :: m.seen := D.seen.trans hm1seen
  have hdv : ∀ k x, x ∈ r.2.dependents.val k ↔
      x ∈ m.dependents.val k ∨ (x = nx ∧ k ∈ depsOf dag nx ∧ isBw dag k = true) := by
    intro k x
    rw [D.dependents_val, hm1dv]
  -- visited or waiting nodes stay so, and the operands of `nx` are waiting
  have hmove : ∀ x, x ∈ m.seen ∨ x ∈ nx :: st → x ∈ r.2.seen ∨ x ∈ r.1 := by
    intro x hx
    rw [hseen, hst]
    rcases hx with hx | hx
    · exact Or.inl (List.mem_cons_of_mem _ hx)
    · rcases List.mem_cons.mp hx with rfl | hx
      · exact Or.inl List.mem_cons_self
      · exact Or.inr (List.mem_append_right _ hx)
  have hnew : ∀ d ∈ depsOf dag nx, d ∈ r.1 :=
    fun d hd => hst ▸ List.mem_append_left _ (List.mem_reverse.mpr hd)
  have hnxs : nx ∈ r.2.seen := hseen ▸ List.mem_cons_self
  have hkeys : ∀ k, k ∈ r.2.dependents.keys ↔
      (k ∈ m.dependents.keys ∨ (k = nx ∧ isBw dag nx = true)) ∨ (k ∈ depsOf dag nx ∧ isBw dag k = true) := by
    intro k
    rw [D.dependents_keys, hm1dk]
  refine ⟨?_, ?_, ?_, ?_, ?_, ?_, D.keys_nodup hm1nd, ?_, hmove root h.root_in⟩
  · intro s hs d hd
    rw [hseen] at hs
    rcases List.mem_cons.mp hs with rfl | hs
    · exact Or.inr (hnew d hd)
    · exact hmove d (h.closure s hs d hd)
  · intro s hs d hd hbw
    rw [hseen] at hs
    rw [hdv]
    rcases List.mem_cons.mp hs with rfl | hs
    · exact Or.inr ⟨rfl, hd, hbw⟩
    · exact Or.inl (h.edges s hs d hd hbw)
  · intro k x hx
    rcases (hdv k x).mp hx with hx | ⟨rfl, hk, hb⟩
    · obtain ⟨a, b, c⟩ := h.dependents_sound k x hx
      exact ⟨hseen ▸ List.mem_cons_of_mem _ a, b, c⟩
    · exact ⟨hnxs, hk, hb⟩
  · intro k x hx
    rcases D.dependencies_val k x hx with hx | ⟨rfl, hx, hb⟩
    · rw [hm1cv] at hx
      obtain ⟨a, b, c⟩ := h.dependencies_sound k x hx
      exact ⟨a, b, hseen ▸ List.mem_cons_of_mem _ c⟩
    · exact ⟨hb, hx, hnxs⟩
  · intro k hk
    rcases (hkeys k).mp hk with (hk | ⟨rfl, hb⟩) | ⟨hk, hb⟩
    · exact ⟨(h.keys_bw k hk).1, hmove k (h.keys_bw k hk).2⟩
    · exact ⟨hb, Or.inl hnxs⟩
    · exact ⟨hb, Or.inr (hnew k hk)⟩
  · intro s hs hb
    rw [hseen] at hs
    rcases List.mem_cons.mp hs with rfl | hs
    · exact (hkeys s).mpr (Or.inl (Or.inr ⟨rfl, hb⟩))
    · exact (hkeys s).mpr (Or.inl (Or.inl (h.keys_complete s hs hb)))
  · intro x hx
    rw [hseen, hst] at hx
    have hnx : Reach dag root nx := h.reach nx (Or.inr List.mem_cons_self)
    rcases hx with hx | hx
    · rcases List.mem_cons.mp hx with rfl | hx
      · exact hnx
      · exact h.reach x (Or.inl hx)
    · rcases List.mem_append.mp hx with hx | hx
      · exact Reach.step hnx (List.mem_reverse.mp hx)
      · exact h.reach x (Or.inr (List.mem_cons_of_mem _ hx))

theorem WInv.skip (dag : Dag) (root nx : Nat) (st : List Nat) (m : Maps)
    (h : WInv dag root (nx :: st) m) (hs : nx ∈ m.seen) : WInv dag root st m := by
  have hmove : ∀ x, x ∈ m.seen ∨ x ∈ nx :: st → x ∈ m.seen ∨ x ∈ st := by
    intro x hx
    rcases hx with hx | hx
    · exact Or.inl hx
    · rcases List.mem_cons.mp hx with rfl | hx
      · exact Or.inl hs
      · exact Or.inr hx
  exact ⟨fun s hs' d hd => hmove d (h.closure s hs' d hd), h.edges, h.dependents_sound, h.dependencies_sound,
    fun k hk => ⟨(h.keys_bw k hk).1, hmove k (h.keys_bw k hk).2⟩, h.keys_complete, h.keys_nodup,
    fun x hx => h.reach x (hx.imp_right (List.mem_cons_of_mem _)), hmove root h.root_in⟩

theorem walk_inv (dag : Dag) (root : Nat) :
    ∀ (fuel : Nat) (st : List Nat) (m m' : Maps), WInv dag root st m →
      walk dag fuel st m = some m' → WInv dag root [] m' := by
  intro fuel
  induction fuel with
  | zero =>
    intro st m m' h hw
    cases st with
    | nil => cases hw; exact h
    | cons a t => cases hw
  | succ fuel ih =>
    intro st m m' h hw
    cases st with
    | nil => cases hw; exact h
    | cons nx st =>
      simp only [walk] at hw
      by_cases hs : nx ∈ m.seen
      · simp only [hs, if_true] at hw
        exact ih st m m' (h.skip dag root nx st m hs) hw
      · simp only [hs, if_false] at hw
        exact ih _ _ m' (h.visit dag root nx st m hs) hw

theorem globalMaps_inv (dag : Dag) (root : Nat) (m : Maps) (h : globalMaps dag root = some m) :
    WInv dag root [] m :=
  walk_inv dag root _ _ _ m (WInv.init dag root) h

theorem reach_seen (dag : Dag) (root : Nat) (m : Maps) (h : WInv dag root [] m) :
    ∀ x, Reach dag root x → x ∈ m.seen := by
  intro x hx
  induction hx with
  | root => exact h.root_in.resolve_right List.not_mem_nil
  | step _ hd ih => exact (h.closure _ ih _ hd).resolve_right List.not_mem_nil

theorem seen_reach (dag : Dag) (root : Nat) (m : Maps) (h : WInv dag root [] m) :
    ∀ x, x ∈ m.seen → Reach dag root x := fun x hx => h.reach x (Or.inl hx)

/-! ### the walk never runs out of fuel -/

theorem sum_filter_le {α} (w : α → Nat) {p q : α → Bool} (h : ∀ x, q x = true → p x = true) (l : List α) :
    ((l.filter q).map w).sum ≤ ((l.filter p).map w).sum := by
  induction l with
  | nil => exact Nat.le_refl _
  | cons b t ih =>
    cases hq : q b
    · cases hp : p b
      · simpa only [List.filter_cons, hq, hp, Bool.false_eq_true, if_false] using ih
      · simp only [List.filter_cons, hq, hp, Bool.false_eq_true, if_false, if_true, List.map_cons, List.sum_cons]
        exact Nat.le_trans ih (Nat.le_add_left _ _)
    · simp only [List.filter_cons, hq, h b hq, if_true, List.map_cons, List.sum_cons]
      exact Nat.add_le_add_left ih _

theorem sum_filter_add_le {α} (w : α → Nat) {p q : α → Bool} (h : ∀ x, q x = true → p x = true) {a : α}
    (hp : p a = true) (hq : q a = false) : ∀ (l : List α), a ∈ l →
      ((l.filter q).map w).sum + w a ≤ ((l.filter p).map w).sum := by
  intro l ha
  -- split the list at `a` and use the monotone version on both parts
  obtain ⟨l1, l2, rfl⟩ := List.append_of_mem ha
  simp only [List.filter_append, List.filter_cons, hp, hq, if_true, Bool.false_eq_true, if_false,
    List.map_append, List.map_cons, List.sum_append_nat, List.sum_cons]
  have h1 := sum_filter_le w h l1
  have h2 := sum_filter_le w h l2
  omega

/-- operand slots of the nodes not yet visited -/
def unvisited (dag : Dag) (seen : List Nat) : Nat :=
  ((dag.filter (fun nd => !decide (nd.name ∈ seen))).map (fun nd => nd.deps.length + 1)).sum

theorem unvisited_imp (seen : List Nat) (x : Nat) (nd : Node) (h : (!decide (nd.name ∈ x :: seen)) = true) :
    (!decide (nd.name ∈ seen)) = true := by
  simp only [Bool.not_eq_true', decide_eq_false_iff_not, List.mem_cons, not_or] at h ⊢
  exact h.2

theorem unvisited_mono (dag : Dag) (seen : List Nat) (x : Nat) :
    unvisited dag (x :: seen) ≤ unvisited dag seen :=
  sum_filter_le _ (unvisited_imp seen x) dag

/-- visiting `x` takes its operand slots (pushed on the stack) out of the count -/
theorem unvisited_visit (dag : Dag) (seen : List Nat) (x : Nat) (hx : x ∉ seen) :
    unvisited dag (x :: seen) + (depsOf dag x).length ≤ unvisited dag seen := by
  unfold depsOf
  cases hg : getNode dag x with
  | none => exact unvisited_mono dag seen x
  | some nd =>
    obtain ⟨hm, hn⟩ := getNode_mem hg
    have hp : (!decide (nd.name ∈ seen)) = true := by
      simp only [hn, hx, decide_false, Bool.not_false]
    have hq : (!decide (nd.name ∈ x :: seen)) = false := by
      simp only [hn, List.mem_cons_self, decide_true, Bool.not_true]
    have key : unvisited dag (x :: seen) + (nd.deps.length + 1) ≤ unvisited dag seen :=
      sum_filter_add_le (fun nd : Node => nd.deps.length + 1) (p := fun nd => !decide (nd.name ∈ seen))
        (q := fun nd => !decide (nd.name ∈ x :: seen)) (unvisited_imp seen x) hp hq dag hm
    exact Nat.le_trans (Nat.add_le_add_left (Nat.le_succ _) _) key

theorem walk_total (dag : Dag) :
    ∀ (fuel : Nat) (st : List Nat) (m : Maps), st.length + unvisited dag m.seen < fuel →
      (walk dag fuel st m).isSome = true := by
  intro fuel
  induction fuel with
  | zero => intro st m h; exact absurd h (Nat.not_lt_zero _)
  | succ fuel ih =>
    intro st m h
    cases st with
    | nil => rfl
    | cons nx st =>
      rw [List.length_cons, Nat.add_right_comm] at h
      have h := Nat.lt_of_succ_lt_succ h
      simp only [walk]
      by_cases hs : nx ∈ m.seen
      · rw [if_pos hs]
        exact ih st m h
      · rw [if_neg hs]
        apply ih
        obtain ⟨hst, D⟩ := visitOps_spec dag nx (depsOf dag nx) st (enter dag nx m)
        show (visitOps dag nx (depsOf dag nx) st (enter dag nx m)).1.length +
          unvisited dag (visitOps dag nx (depsOf dag nx) st (enter dag nx m)).2.seen < fuel
        rw [hst, D.seen, enter_seen, List.length_append, List.length_reverse]
        have := unvisited_visit dag m.seen nx hs
        omega

theorem unvisited_nil (dag : Dag) : unvisited dag [] = totalDeps dag := by
  unfold unvisited totalDeps
  have : dag.filter (fun nd => !decide (nd.name ∈ ([] : List Nat))) = dag :=
    List.filter_eq_self.mpr (fun _ _ => by simp)
  rw [this]

theorem globalMaps_total (dag : Dag) (root : Nat) : (globalMaps dag root).isSome = true := by
  unfold globalMaps
  apply walk_total
  rw [unvisited_nil, Nat.add_comm]
  exact Nat.lt_succ_self _

end Dx.Fusion

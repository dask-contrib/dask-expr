/-
  Lemmas/Divisions.lean — C06 helper lemmas: stacked (Concat) divisions, `unique(merge_sorted(…))`,
  FromPandas under the checked hypothesis `locsOK`, row counts.
-/
import DxModel.Layers.Divisions
import DxModel.Lemmas.Partitions
namespace Dx.Divs
open Dx Dx.Parts Dx.Repartition

/-! ### Concat (two frames, monotonic divisions) -/

/-- **Concat._divisions, monotonic case**: the first frame's divisions without the last entry followed by
    the second frame's divisions are truthful for the stacked partitions. -/
theorem divInv_stack (d₁ d₂ : List Int) (n₁ n₂ : Nat) (p₁ p₂ : Nat → List Row) (x y : Int)
    (h₁ : DivInv d₁ n₁ p₁) (h₂ : DivInv d₂ n₂ p₂)
    (hx : d₁.getLast? = some x) (hy : d₂.head? = some y) (hxy : x < y) :
    DivInv (d₁.dropLast ++ d₂) (n₁ + n₂) (stackParts n₁ p₁ p₂) := by
  obtain ⟨ys, rfl⟩ := List.getLast?_eq_some_iff.mp hx
  obtain ⟨t, rfl⟩ := List.head?_eq_some_iff.mp hy
  obtain rfl : ys.length = n₁ := Nat.succ.inj ((List.length_append (as := ys) (bs := [x])).symm.trans h₁.len)
  rw [List.dropLast_concat]
  have hs₁ := List.pairwise_append.mp h₁.sorted
  have hleft : ∀ i, i < ys.length → (ys ++ y :: t).getD i 0 = (ys ++ [x]).getD i 0 := fun i hi =>
    getD_eq_of_getElem? 0 (by rw [List.getElem?_append_left hi, List.getElem?_append_left hi])
  have hright : ∀ i, (ys ++ y :: t).getD (ys.length + i) 0 = (y :: t).getD i 0 := fun i =>
    getD_eq_of_getElem? 0 (by rw [List.getElem?_append_right (Nat.le_add_right _ _), Nat.add_sub_cancel_left])
  have hx' : (ys ++ [x]).getD ys.length 0 = x :=
    getD_of_getElem? (by rw [List.getElem?_append_right (Nat.le_refl _), Nat.sub_self]; rfl)
  refine divInv_intro (by rw [List.length_append, h₂.len]; rfl)
    (List.pairwise_append.mpr ⟨hs₁.1, h₂.sorted, fun a ha b hb => ?_⟩) ?_ ?_
  · -- an entry of the first frame is at most `x`, one of the second at least `y`
    have hyb : y ≤ b := by
      rcases List.mem_cons.mp hb with rfl | hb
      · exact Int.le_refl _
      · exact (List.pairwise_cons.mp h₂.sorted).1 b hb
    exact Int.le_trans (hs₁.2.2 a ha x (List.mem_singleton.mpr rfl)) (Int.le_trans (Int.le_of_lt hxy) hyb)
  · intro i hi r hr
    unfold stackParts at hr
    rcases Nat.lt_or_ge i ys.length with hin | hin
    · rw [if_pos hin] at hr
      have ⟨hb1, hb2⟩ := divInv_bound h₁ hin hr
      rw [hleft i hin]
      refine ⟨hb1, Or.inl ?_⟩
      rcases Nat.lt_or_eq_of_le (show i + 1 ≤ ys.length from hin) with hc | hc
      · rw [hleft (i+1) hc]
        exact hb2.elim id (fun h => absurd h.1 (Nat.ne_of_lt hc))
      · -- last partition of the first frame: its upper bound `x` gives way to the second frame's first division
        rw [hc, hx'] at hb2
        rw [hc, ← Nat.add_zero ys.length, hright 0]
        exact hb2.elim (fun h => Int.lt_trans h hxy) (fun h => h.2 ▸ hxy)
    · rw [if_neg (Nat.not_lt_of_le hin)] at hr
      obtain ⟨i', rfl⟩ := Nat.exists_eq_add_of_le hin
      rw [Nat.add_sub_cancel_left] at hr
      have ⟨hb1, hb2⟩ := divInv_bound h₂ (Nat.lt_of_add_lt_add_left hi) hr
      rw [hright, Nat.add_assoc, hright]
      exact ⟨hb1, hb2.imp id (fun ⟨a, b⟩ => ⟨by rw [← a], b⟩)⟩
  · intro i hi
    unfold stackParts
    split
    · exact h₁.rowsSorted i ‹_›
    · exact h₂.rowsSorted (i - ys.length) (Nat.sub_lt_left_of_lt_add (Nat.le_of_not_lt ‹_›) hi)

/-! ### `unique(merge_sorted(…))` -/

/-- toolz' binary merge is core's `List.merge` with `≤` -/
theorem merge2_eq_merge : ∀ (a b : List Int), merge2 a b = List.merge a b (fun x y => decide (x ≤ y)) := by
  intro a b
  induction a, b using merge2.induct with
  | case1 b => rw [merge2, List.nil_merge]
  | case2 a h => rw [merge2, List.merge_right]; exact h
  | case3 x a y b hlt ih =>
    rw [merge2, if_pos hlt, List.cons_merge_cons, if_neg (by simpa using hlt), ih]
  | case4 x a y b hlt ih =>
    rw [merge2, if_neg hlt, List.cons_merge_cons, if_pos (by simpa using hlt), ih]

theorem mem_merge2 {v : Int} {a b : List Int} : v ∈ merge2 a b ↔ v ∈ a ∨ v ∈ b := by
  rw [merge2_eq_merge, List.mem_merge]

theorem merge2_sorted (a b : List Int) (ha : a.Pairwise (· ≤ ·)) (hb : b.Pairwise (· ≤ ·)) :
    (merge2 a b).Pairwise (· ≤ ·) := by
  rw [merge2_eq_merge]
  exact (List.pairwise_merge (le := fun x y => decide (x ≤ y))
    (fun _ _ _ h1 h2 => decide_eq_true (Int.le_trans (of_decide_eq_true h1) (of_decide_eq_true h2)))
    (fun x y => by simpa using Int.le_total x y) a b (ha.imp decide_eq_true) (hb.imp decide_eq_true)).imp
    of_decide_eq_true

theorem mergeAll_sorted : ∀ (ds : List (List Int)), (∀ d ∈ ds, d.Pairwise (· ≤ ·)) → (mergeAll ds).Pairwise (· ≤ ·) := by
  intro ds
  induction ds with
  | nil => intro _; exact List.Pairwise.nil
  | cons d t ih =>
    intro h
    exact merge2_sorted d _ (h d (List.mem_cons_self ..)) (ih (fun x hx => h x (List.mem_cons_of_mem _ hx)))

theorem mem_mergeAll {v : Int} : ∀ {ds : List (List Int)}, v ∈ mergeAll ds ↔ ∃ d ∈ ds, v ∈ d := by
  intro ds
  induction ds with
  | nil => simp [mergeAll]
  | cons d t ih =>
    simp only [mergeAll, mem_merge2, ih, List.mem_cons, exists_eq_or_imp]

theorem uniq_sublist : ∀ (l seen : List Int), (uniq l seen).Sublist l := by
  intro l
  induction l with
  | nil => intro _; exact List.Sublist.slnil
  | cons x t ih =>
    intro seen
    unfold uniq
    split
    · exact (ih seen).cons x
    · exact (ih (x :: seen)).cons_cons x

theorem mem_uniq {v : Int} : ∀ {l seen : List Int}, v ∈ uniq l seen ↔ v ∈ l ∧ v ∉ seen := by
  intro l
  induction l with
  | nil => intro seen; simp [uniq]
  | cons x t ih =>
    intro seen
    unfold uniq
    by_cases hx : seen.contains x = true
    · have hxs : x ∈ seen := List.contains_iff_mem.mp hx
      rw [if_pos hx, ih, List.mem_cons]
      exact ⟨fun ⟨h1, h2⟩ => ⟨Or.inr h1, h2⟩, fun ⟨h1, h2⟩ => ⟨h1.resolve_left (fun e => h2 (e ▸ hxs)), h2⟩⟩
    · have hxs : x ∉ seen := fun h => hx (List.contains_iff_mem.mpr h)
      rw [if_neg hx, List.mem_cons, ih, List.mem_cons, List.mem_cons]
      constructor
      · rintro (rfl | ⟨h1, h2⟩)
        · exact ⟨Or.inl rfl, hxs⟩
        · exact ⟨Or.inr h1, fun h => h2 (Or.inr h)⟩
      · rintro ⟨h1, h2⟩
        by_cases hvx : v = x
        · exact Or.inl hvx
        · exact Or.inr ⟨h1.resolve_left hvx, fun h => h.elim hvx h2⟩

theorem uniq_nodup : ∀ (l seen : List Int), (uniq l seen).Nodup := by
  intro l
  induction l with
  | nil => intro _; simp [uniq]
  | cons x t ih =>
    intro seen
    unfold uniq
    split
    · exact ih seen
    · refine List.nodup_cons.mpr ⟨?_, ih (x :: seen)⟩
      intro h
      have := (mem_uniq.mp h).2
      exact this (List.mem_cons_self ..)

theorem strict_of_sorted_nodup {l : List Int} (hs : l.Pairwise (· ≤ ·)) (hn : l.Nodup) : l.Pairwise (· < ·) := by
  have := hs.and hn
  exact this.imp (fun ⟨h1, h2⟩ => Int.lt_iff_le_and_ne.mpr ⟨h1, h2⟩)

/-! ### FromPandas under `locsOK` -/

theorem fpRows_idx (rows : List Row) (locs : List Nat) (i a b : Nat) (ha : locs[i]? = some a) (hb : locs[i+1]? = some b) :
    (fpRows rows locs i).map (·.idx) = ((rows.map (·.idx)).drop a).take (b - a) := by
  simp [fpRows, ha, hb, List.map_take, List.map_drop]

/-- what the executable check `locsOK` says, as propositions -/
theorem locsOK_spec {idx divs : List Int} {locs : List Nat} (h : locsOK idx divs locs = true) :
    divs.length = locs.length ∧ 2 ≤ locs.length ∧ isSorted divs = true ∧ isSorted idx = true ∧
    ∀ (i a b : Nat) (lo hi : Int), locs[i]? = some a → locs[i+1]? = some b → divs[i]? = some lo →
      divs[i+1]? = some hi → ∀ v ∈ (idx.drop a).take (b - a), lo ≤ v ∧ (v < hi ∨ (i + 2 = locs.length ∧ v = hi)) := by
  simp only [locsOK, Bool.and_eq_true, decide_eq_true_eq] at h
  refine ⟨h.1.1.1.1.1, h.1.1.1.1.2, h.1.2, h.2, ?_⟩
  intro i a b lo hi ha hb hlo hhi v hv
  have hi1 := (List.getElem?_eq_some_iff.mp hb).1
  have := List.all_eq_true.mp h.1.1.2 i (List.mem_range.mpr (Nat.lt_sub_of_add_lt hi1))
  simp only [ha, hb, hlo, hhi] at this
  simpa only [Bool.and_eq_true, Bool.or_eq_true, decide_eq_true_eq] using List.all_eq_true.mp this v hv

/-! ### row counts -/

def totalLen (n : Nat) (parts : Nat → List Row) : Nat := ((List.range n).flatMap parts).length

theorem eq_of_strictly_sorted {l₁ l₂ : List Nat} (h₁ : l₁.Pairwise (· < ·)) (h₂ : l₂.Pairwise (· < ·))
    (h : ∀ a, a ∈ l₁ ↔ a ∈ l₂) : l₁ = l₂ :=
  ((List.perm_ext_iff_of_nodup (h₁.imp Nat.ne_of_lt) (h₂.imp Nat.ne_of_lt)).mpr h).eq_of_pairwise
    (fun _ _ _ _ hab hba => absurd hab (Nat.lt_asymm hba)) h₁ h₂

theorem mem_filter_range_contains {n a : Nat} {P : List Nat} :
    a ∈ (List.range n).filter (fun i => P.contains i) ↔ a < n ∧ a ∈ P := by
  rw [List.mem_filter, List.mem_range, List.contains_iff_mem]

theorem filter_range_sorted (n : Nat) (P : List Nat) : ((List.range n).filter (fun i => P.contains i)).Pairwise (· < ·) :=
  List.pairwise_lt_range.sublist List.filter_sublist

/-- positions of a strictly ascending selection, listed in original order, are the selection itself -/
theorem filter_range_strictAsc : ∀ (n : Nat) (P : List Nat), P.Pairwise (· < ·) → (∀ p ∈ P, p < n) →
    (List.range n).filter (fun i => P.contains i) = P := by
  intro n P hpw hlt
  exact eq_of_strictly_sorted (filter_range_sorted n P) hpw
    (fun a => mem_filter_range_contains.trans ⟨And.right, fun h => ⟨hlt a h, h⟩⟩)

/-- the model's `sorted(set(P))` filters `range (max P + 1)` (`P.foldl max 0`); any bound `n` of `P` gives the same list -/
theorem sortedSet_eq (P : List Nat) (n : Nat) (h : ∀ p ∈ P, p < n) :
    sortedSet P = (List.range n).filter (fun i => P.contains i) :=
  eq_of_strictly_sorted (filter_range_sorted _ P) (filter_range_sorted n P) (fun a =>
    mem_filter_range_contains.trans (Iff.trans
      ⟨fun ⟨_, hm⟩ => ⟨h a hm, hm⟩, fun ⟨_, hm⟩ => ⟨Nat.lt_succ_of_le ((foldl_max_ge P 0).2 a hm), hm⟩⟩
      mem_filter_range_contains.symm))

theorem lookup_zip_map (f : Nat → Nat) : ∀ (l : List Nat) (i : Nat), i ∈ l → (l.zip (l.map f)).lookup i = some (f i) := by
  intro l
  induction l with
  | nil => intro i hi; cases hi
  | cons a t ih =>
    intro i hi
    simp only [List.map_cons, List.zip_cons_cons, List.lookup_cons]
    by_cases hia : i = a
    · subst hia; simp
    · have : (i == a) = false := by simpa using hia
      rw [this]
      rcases List.mem_cons.mp hi with h | h
      · exact absurd h hia
      · exact ih i h

theorem lookupAll_map (f : Nat → Nat) (l : List Nat) : ∀ (P : List Nat), (∀ p ∈ P, p ∈ l) →
    lookupAll l (l.map f) P = some (P.map f) := by
  intro P
  induction P with
  | nil => intro _; rfl
  | cons p t ih =>
    intro h
    simp [lookupAll, lookup_zip_map f l p (h p (List.mem_cons_self ..)),
      ih (fun x hx => h x (List.mem_cons_of_mem _ hx))]

/-- the fsspec reader's lengths under a valid selection (any order, repeats) are the selected lengths -/
theorem pqLengths_valid (stats : List Nat) (P : List Nat) (h : ∀ p ∈ P, p < stats.length) :
    pqLengths stats (some P) = some (trueLengths stats (some P)) := by
  simp only [pqLengths, trueLengths, keepAt]
  rw [sortedSet_eq P stats.length h]
  apply lookupAll_map
  intro p hp
  simp [List.mem_filter, h p hp, hp]

theorem argmaxFirst_eq_none : ∀ {t : List Nat}, argmaxFirst t = none → t = []
  | [], _ => rfl
  | x :: t, h => by
    unfold argmaxFirst at h
    split at h
    · cases h
    · split at h <;> cases h

end Dx.Divs

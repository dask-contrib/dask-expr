/-
  Lemmas/ColsRules.lean — what each projection rule returns (shape) and why the child it builds is adequate
-/
import DxModel.Cols
import DxModel.Lemmas.Cols
namespace Dx.Cols

variable {frame : List Name} {p : Parent} {deps : List Dep} {extra : List Name} {res : Rw}

/-- Projection parents over a frame (the only parents the single-input rules are proven for) -/
def Parent.overFrame : Parent → Prop
  | .list _ => True
  | .scalar _ => True
  | _ => False

theorem Parent.operand_toList (p : Parent) : p.operand.toList = p.cols := by
  cases p <;> rfl

/-- over a frame the scalar collapse only ever happens for the scalar selection of that very label -/
theorem detProj_one_scalar {s : Name} (hp : p.overFrame) (h : detProj p deps extra = .one s) : p = .scalar s := by
  obtain ⟨hu, hn, _⟩ := detProj_one h
  cases p with
  | scalar c' =>
    have : c' ∈ unionCols (.scalar c') deps extra := parent_mem_union List.mem_cons_self
    rw [hu] at this
    rw [List.mem_singleton.mp this]
  | list cs => cases hn
  | listS cs => cases hp
  | scalarS c' => cases hp
  | index => cases hp

/-! ### plain_column_projection -/

theorem plainSel_one (frame : List Name) (x : Name) :
    plainSel frame (.one x) = if frame.contains x then .one x else .many [] := rfl

theorem mem_plainSel {s : Sel} {c : Name} :
    c ∈ (plainSel frame s).toList ↔ c ∈ frame ∧ c ∈ s.toList := by
  cases s with
  | many l => exact List.mem_filter.trans (and_congr_right fun _ => List.contains_iff_mem)
  | one x =>
    by_cases h : frame.contains x = true
    · rw [plainSel_one, if_pos h]
      exact ⟨fun hc => ⟨List.mem_singleton.mp hc ▸ List.contains_iff_mem.mp h, hc⟩, And.right⟩
    · rw [plainSel_one, if_neg h]
      exact ⟨nofun, fun hc => absurd (List.contains_iff_mem.mpr (List.mem_singleton.mp hc.2 ▸ hc.1)) h⟩

theorem nodup_plainSel (s : Sel) (h : frame.Nodup) : (plainSel frame s).toList.Nodup := by
  cases s with
  | many l => exact List.Nodup.sublist List.filter_sublist h
  | one x =>
    by_cases hx : frame.contains x = true
    · rw [plainSel_one, if_pos hx]
      exact List.pairwise_singleton _ x
    · rw [plainSel_one, if_neg hx]
      exact List.nodup_nil

theorem plainSel_mem (frame : List Name) (p : Parent) (deps : List Dep) (extra : List Name) (c : Name)
    (hu : c ∈ unionCols p deps extra) (hf : c ∈ frame) : c ∈ (plainSel frame (detProj p deps extra)).toList :=
  mem_plainSel.mpr ⟨hf, by rw [detProj_toList]; exact hu⟩

theorem plainSel_adequate (frame : List Name) (p : Parent) (deps : List Dep) (extra : List Name) :
    Adequate frame extra p.cols (plainSel frame (detProj p deps extra)).toList where
  sub := fun _ hc => (mem_plainSel.mp hc).1
  nodup := nodup_plainSel _
  keys := fun k hk hf => plainSel_mem frame p deps extra k (extra_mem_union hk) hf
  req := fun c hc hf => plainSel_mem frame p deps extra c (parent_mem_union hc) hf

/-- a rule of the form `if guard then None else <rewrite>` fires exactly when the guard is false -/
theorem ite_none_eq_some {c : Prop} [Decidable c] {x res : Rw} (h : (if c then none else some x) = some res) :
    ¬c ∧ res = x := by
  obtain ⟨hc, hx⟩ := Option.ite_none_left_eq_some.mp h
  exact ⟨hc, (Option.some.inj hx).symm⟩

theorem plain_spec (h : plain frame p deps extra = some res) :
    res = { childs := [some (plainSel frame (detProj p deps extra))],
            keep := !(decide (plainSel frame (detProj p deps extra) = p.operand)) } ∧
    plainSel frame (detProj p deps extra) ≠ .many frame :=
  (ite_none_eq_some h).symm

theorem plain_collapse {c : Name} (hp : p.overFrame) (h : plainSel frame (detProj p deps extra) = .one c) :
    p = .scalar c := by
  cases hs : detProj p deps extra with
  | many l => rw [hs] at h; cases h
  | one s =>
    rw [hs, plainSel_one] at h
    split at h
    · cases h; exact detProj_one_scalar hp hs
    · cases h

/-- when the parent projection is not re-applied the child *is* the parent's selection -/
theorem plain_nokeep (h : plain frame p deps extra = some res) (hk : res.keep = false) :
    plainSel frame (detProj p deps extra) = p.operand := by
  rw [(plain_spec h).1] at hk
  exact of_decide_eq_true (Bool.not_eq_eq_eq_not.mp hk)

/-- the same as a case distinction: the parent is dropped exactly when the child selection is the parent's -/
theorem plain_cases (h : plain frame p deps extra = some res) :
    (plainSel frame (detProj p deps extra) = p.operand ∧
        res = { childs := [some (plainSel frame (detProj p deps extra))], keep := false }) ∨
    (plainSel frame (detProj p deps extra) ≠ p.operand ∧
        res = { childs := [some (plainSel frame (detProj p deps extra))], keep := true }) := by
  obtain ⟨hrw, _⟩ := plain_spec h
  by_cases he : plainSel frame (detProj p deps extra) = p.operand
  · exact Or.inl ⟨he, by rw [hrw, decide_eq_true he]; rfl⟩
  · exact Or.inr ⟨he, by rw [hrw, decide_eq_false he]; rfl⟩

theorem filterRule_false (frame : List Name) (p : Parent) (deps : List Dep) :
    filterRule false frame p deps = plain frame p deps := rfl

/-! ### rules that keep the parent -/

/-- common shape: one list child, parent kept -/
def Rw.isKeep1 (rw : Rw) (child : List Name) : Prop :=
  rw.childs = [some (.many child)] ∧ rw.keep = true ∧ rw.gone = false

/-- the rules `if guard then None else <one list child, parent kept>` -/
theorem keep1_of_guard {c : Prop} [Decidable c] {child : List Name}
    (h : (if c then none else some ({ childs := [some (.many child)], keep := true } : Rw)) = some res) :
    res.isKeep1 child ∧ ¬c := by
  obtain ⟨hc, rfl⟩ := ite_none_eq_some h
  exact ⟨⟨rfl, rfl, rfl⟩, hc⟩

theorem keyed_spec {keys : List Name} (h : keyed frame keys p deps = some res) :
    res.isKeep1 (frame.filter ((detProj p deps keys).toList.contains ·)) ∧
    frame.filter ((detProj p deps keys).toList.contains ·) ≠ frame :=
  keep1_of_guard h

theorem dropna_spec {s : List Name} (h : dropna frame (some s) p deps = some res) :
    res.isKeep1 (frame.filter (detProj p deps s).has) :=
  (keep1_of_guard h).1

theorem dropDup_spec {s : List Name} (h : dropDup frame (some s) p deps = some res) :
    res.isKeep1 (frame.filter (detProj p deps s).has) :=
  (keep1_of_guard h).1

theorem shuffle_spec {pidx : List Name} (h : shuffle frame pidx p deps = some res) :
    res.isKeep1 (frame.filter (fun c => pidx.contains c || (detProj p deps []).has c)) := by
  obtain ⟨_, h⟩ := Option.ite_none_right_eq_some.mp h
  cases h
  exact ⟨rfl, rfl, rfl⟩

theorem shuffle_adequate (frame pidx : List Name) (p : Parent) (deps : List Dep) :
    Adequate frame pidx p.cols (frame.filter (fun c => pidx.contains c || (detProj p deps []).has c)) :=
  adequate_filter frame pidx p.cols _
    (fun _ hk => Bool.or_eq_true_iff.mpr (Or.inl (List.contains_iff_mem.mpr hk)))
    (fun _ hc => Bool.or_eq_true_iff.mpr (Or.inr (detProj_has (parent_mem_union hc))))

theorem sib_spec {other : List Name} (h : setIndexBlockwise frame other p deps = some res) :
    res.isKeep1 (frame.filter (detProj p deps other).has) :=
  (keep1_of_guard h).1

theorem ioAbsorb_spec {selfCols : List Name} (h : ioAbsorb selfCols p deps = some res) :
    res.childs = [some (.many (selfCols.filter ((detProj p deps []).toList.contains ·)))] ∧
    res.keep = !(decide (Sel.many (selfCols.filter ((detProj p deps []).toList.contains ·)) = p.operand)) ∧
    res.gone = false := by
  obtain ⟨_, rfl⟩ := ite_none_eq_some h
  exact ⟨rfl, rfl, rfl⟩

theorem combineFirst_spec {other : List Name} (h : combineFirst frame other p deps = some res) :
    res = { childs := [some (.many (frame.filter (detProj p deps []).has)),
                       some (.many (other.filter (detProj p deps []).has))], keep := true } :=
  (ite_none_eq_some h).2

theorem opAlign_spec {oc0 : List Name} (h : opAlign frame (some oc0) p deps = some res) :
    res = { childs := [some (.many (frame.filter ((detProj p deps []).toList.contains ·))),
                       some (.many (oc0.filter ((detProj p deps []).toList.contains ·)))], keep := true } :=
  (ite_none_eq_some h).2

theorem resetIndex_spec {drop named : Bool} (h : resetIndex frame drop named p deps = some res) :
    (drop = true ∨ named = true ∨ "index" ∉ frame) ∧
    ∃ rw0, plain frame p deps = some rw0 ∧ res = { rw0 with drop := if rw0.keep then drop else true } := by
  obtain ⟨hg, h⟩ := Option.ite_none_left_eq_some.mp h
  constructor
  · cases drop
    · cases named
      · exact Or.inr (Or.inr fun hm => hg (List.contains_iff_mem.mpr hm))
      · exact Or.inr (Or.inl rfl)
    · exact Or.inl rfl
  · cases hp : plain frame p deps with
    | none => rw [hp] at h; cases h
    | some rw0 => rw [hp] at h; cases h; exact ⟨rw0, rfl, rfl⟩

theorem binop_spec {selfCols : List Name} {left right : Option (List Name)}
    (h : binop selfCols left right p deps = some res) :
    res = { childs := [binopSide (selfCols.filter ((detProj p deps []).toList.contains ·)) left,
                       binopSide (selfCols.filter ((detProj p deps []).toList.contains ·)) right], keep := true } :=
  (ite_none_eq_some h).2

theorem binopSide_some {columns : List Name} {o : Option (List Name)} {s : Sel} (h : binopSide columns o = some s) :
    s = .many columns ∧ ∃ lc, o = some lc := by
  cases o with
  | none => cases h
  | some lc => exact ⟨(Option.some.inj (Option.ite_none_left_eq_some.mp h).2).symm, lc, rfl⟩

theorem binopSide_none_some {columns lc : List Name} (h : binopSide columns (some lc) = none) : lc = columns :=
  Decidable.by_contra fun hne => by
    rw [binopSide, if_neg hne] at h
    cases h

/-- the child selection of `AsType._simplify_up`: a list is restricted to the input's columns, a scalar passes -/
def astypeSel (frame : List Name) : Sel → Sel
  | .many l => .many (frame.filter (l.contains ·))
  | .one c => .one c

theorem mem_astypeSel {s : Sel} {c : Name} (hf : c ∈ frame) (hc : c ∈ s.toList) : c ∈ (astypeSel frame s).toList := by
  cases s with
  | many l => exact List.mem_filter.mpr ⟨hf, List.contains_iff_mem.mpr hc⟩
  | one x => exact hc

/-- the two outcomes of the AsType rule: no requested column is cast and the node goes; or the input is pruned to
    `astypeSel`, the surviving dtype keys are the requested ones, and the parent is dropped only for a scalar request -/
theorem astype_spec {dkeys : Option (List Name)} (h : astype frame dkeys p deps = some res) :
    (dkeys.map (·.filter ((detProj p deps []).toList.contains ·)) = some [] ∧ res = { childs := [none], keep := true, gone := true }) ∨
    (dkeys.map (·.filter ((detProj p deps []).toList.contains ·)) ≠ some [] ∧
      ∃ k, res = { childs := [some (astypeSel frame (detProj p deps []))], keep := k,
                   keys := dkeys.map (·.filter ((detProj p deps []).toList.contains ·)) } ∧
        (k = false → ∃ s, detProj p deps [] = .one s)) := by
  unfold astype at h
  by_cases hg : dkeys.map (·.filter ((detProj p deps []).toList.contains ·)) = some []
  · rw [if_pos hg] at h
    cases h
    exact Or.inl ⟨hg, rfl⟩
  · rw [if_neg hg] at h
    refine Or.inr ⟨hg, ?_⟩
    cases hs : detProj p deps [] with
    | many l =>
      rw [hs] at h
      exact ⟨true, (ite_none_eq_some h).2, nofun⟩
    | one s =>
      rw [hs] at h
      exact ⟨false, (ite_none_eq_some h).2, fun _ => ⟨s, rfl⟩⟩

theorem merge_spec {m : MergeP} {L R : List Name} (h : merge m L R p deps = some res) :
    res = { childs := [some (.many (mergeLists m L R (detProj p deps []).toList).1),
                       some (.many (mergeLists m L R (detProj p deps []).toList).2)], keep := true } :=
  (Option.some.inj (Option.ite_none_right_eq_some.mp h).2).symm

/-! ### rename -/

/-- the forward label map of `rename(columns=mapping)` -/
def renameFwd (mapping : List (Name × Name)) (c : Name) : Name :=
  match mapping.find? (fun kv => kv.1 == c) with
  | some kv => kv.2
  | none => c

theorem renameFwd_of_mem {mapping : List (Name × Name)} (hnd : (mapping.map (·.1)).Nodup) {kv : Name × Name}
    (h : kv ∈ mapping) : renameFwd mapping kv.1 = kv.2 := by
  unfold renameFwd
  rw [find?_eq_of_inj (·.1) mapping hnd h]

/-- mapping a requested output label back finds its unique source column -/
theorem renameBack_fwd {mapping : List (Name × Name)} (hnd : (mapping.map (·.1)).Nodup)
    {c : Name} (hc : c ∈ frame)
    (hinj : ∀ c', c' ∈ frame → renameFwd mapping c' = renameFwd mapping c → c' = c) :
    renameBack frame mapping (renameFwd mapping c) = c := by
  unfold renameBack
  cases hf : ((mapping.filter (fun kv => frame.contains kv.1)).reverse).find? (fun kv => kv.2 == renameFwd mapping c) with
  | some kv =>
    have hmem := List.mem_filter.mp (List.mem_reverse.mp (List.mem_of_find?_eq_some hf))
    have hv := List.find?_some hf
    exact hinj kv.1 (List.contains_iff_mem.mp hmem.2) (by rw [renameFwd_of_mem hnd hmem.1, eq_of_beq hv])
  | none =>
    -- c is not a renamed column, hence maps to itself
    unfold renameFwd
    cases hm : mapping.find? (fun kv => kv.1 == c) with
    | none => rfl
    | some kv =>
      have hk := List.find?_some hm
      refine absurd ?_ (List.find?_eq_none.mp hf kv (List.mem_reverse.mpr (List.mem_filter.mpr
        ⟨List.mem_of_find?_eq_some hm, by rw [eq_of_beq hk]; exact List.contains_iff_mem.mpr hc⟩)))
      rw [renameFwd, hm]
      exact beq_self_eq_true kv.2

theorem rename_spec {mapping : List (Name × Name)} (h : rename frame mapping p deps = some res) :
    res.isKeep1 (frame.filter (((detProj p deps []).toList.map (renameBack frame mapping)).contains ·)) :=
  (keep1_of_guard h).1

/-- the child of a relabelling rule — the input columns that some requested label is mapped back to by `back` — keeps
    the source `c` of a requested label `l` -/
theorem relabel_sources (back : Name → Name) {c l : Name} (hc : c ∈ frame) (hreq : l ∈ p.cols) (hb : back l = c) :
    c ∈ frame.filter (((detProj p deps []).toList.map back).contains ·) :=
  List.mem_filter.mpr ⟨hc, List.contains_iff_mem.mpr
    (List.mem_map.mpr ⟨l, by rw [detProj_toList]; exact parent_mem_union hreq, hb⟩)⟩

theorem rename_sources {mapping : List (Name × Name)} (hnd : (mapping.map (·.1)).Nodup) {c : Name} (hc : c ∈ frame)
    (hinj : ∀ c', c' ∈ frame → renameFwd mapping c' = renameFwd mapping c → c' = c)
    (hreq : renameFwd mapping c ∈ p.cols) :
    c ∈ frame.filter (((detProj p deps []).toList.map (renameBack frame mapping)).contains ·) :=
  relabel_sources _ hc hreq (renameBack_fwd hnd hc hinj)

/-! ### add_prefix / add_suffix -/

theorem slicePrefix_append (pre c : String) : slicePrefix pre.length (pre ++ c) = c := by
  unfold slicePrefix
  rw [String.toList_append, ← String.length_toList, List.drop_left, String.ofList_toList]

theorem sliceSuffix_append (suf c : String) : sliceSuffix suf.length (c ++ suf) = c := by
  unfold sliceSuffix
  rw [String.toList_append, List.length_append, ← String.length_toList, Nat.add_sub_cancel,
    List.take_left, String.ofList_toList]

theorem affix_spec {isSuffix : Bool} {n : Nat} (h : affix isSuffix n frame p deps = some res) :
    res.isKeep1 (frame.filter
      (((detProj p deps []).toList.map (if isSuffix then sliceSuffix n else slicePrefix n)).contains ·)) :=
  (keep1_of_guard h).1

theorem prefix_sources {pre : String} {c : Name} (hc : c ∈ frame) (hreq : pre ++ c ∈ p.cols) :
    c ∈ frame.filter (((detProj p deps []).toList.map (slicePrefix pre.length)).contains ·) :=
  relabel_sources _ hc hreq (slicePrefix_append pre c)

theorem suffix_sources {suf : String}
    {c : Name} (hc : c ∈ frame) (hreq : c ++ suf ∈ p.cols) :
    c ∈ frame.filter (((detProj p deps []).toList.map (sliceSuffix suf.length)).contains ·) :=
  relabel_sources _ hc hreq (sliceSuffix_append suf c)

/-! ### Concat -/

theorem concat_spec {axis1 inner : Bool} {frames : List (List Name)} (h : concat axis1 inner frames p deps = some res) :
    res.childs = frames.map (concatChild axis1 (detProj p deps []).toList) ∧
    res.dropped = frames.map (concatDropped axis1 (detProj p deps []).toList) := by
  obtain ⟨_, rfl⟩ := ite_none_eq_some h
  exact ⟨rfl, rfl⟩

theorem concatChild_cases (axis1 : Bool) (columns f : List Name) :
    concatChild axis1 columns f = none ∨
      concatChild axis1 columns f = some (.many (concatKeepCols axis1 columns f)) := by
  unfold concatChild
  by_cases h : sortKeep (concatKeepCols axis1 columns f) = sortKeep f
  · exact Or.inl (if_pos h)
  · exact Or.inr (if_neg h)

/-- what an input keeps is either its requested columns or, when it has none of them and rows are stacked, its
    first column -/
theorem concatKeepCols_cases (axis1 : Bool) (columns f : List Name) :
    concatKeepCols axis1 columns f = f.filter (columns.contains ·) ∨
      (axis1 = false ∧ f.filter (columns.contains ·) = [] ∧ concatKeepCols axis1 columns f = f.take 1) := by
  unfold concatKeepCols
  simp only
  split
  · rename_i h
    simp only [Bool.and_eq_true, Bool.not_eq_true', List.isEmpty_iff] at h
    exact Or.inr ⟨h.1, h.2, rfl⟩
  · exact Or.inl rfl

theorem concatKeepCols_sublist (columns f : List Name) : (concatKeepCols false columns f).Sublist f := by
  rcases concatKeepCols_cases false columns f with h | ⟨_, _, h⟩
  · rw [h]; exact List.filter_sublist
  · rw [h]; exact List.take_sublist 1 f

/-- an input the rule leaves untouched keeps all its columns: what it keeps is a sub-list that sorts to the same
    list, hence of the same length -/
theorem concatKeepCols_of_child_none {columns f : List Name} (h : concatChild false columns f = none) :
    concatKeepCols false columns f = f := by
  unfold concatChild at h
  simp only at h
  split at h
  · next hs =>
    exact (concatKeepCols_sublist columns f).eq_of_length
      ((sortKeep_perm _).symm.trans (hs ▸ sortKeep_perm _)).length_eq
  · cases h

theorem concatKeepCols_adequate (axis1 : Bool) (f : List Name) (p : Parent) (deps : List Dep) :
    Adequate f [] p.cols (concatKeepCols axis1 (detProj p deps []).toList f) := by
  rcases concatKeepCols_cases axis1 (detProj p deps []).toList f with h | ⟨_, hnil, h⟩
  · rw [h]; exact adequate_union_contains f p deps []
  · rw [h]
    have had := adequate_union_contains f p deps []
    rw [hnil] at had
    exact {
      sub := fun c hc => List.mem_of_mem_take hc
      nodup := fun hn => List.Nodup.sublist (List.take_sublist 1 f) hn
      keys := fun k hk _ => by cases hk
      req := fun c hc hf => by cases had.req c hc hf }

/-- D85: stacking rows, an input that has columns keeps at least one of them -/
theorem concatKeepCols_ne_nil (columns f : List Name) (hf : f ≠ []) : concatKeepCols false columns f ≠ [] := by
  unfold concatKeepCols
  by_cases he : (!false && (f.filter (columns.contains ·)).isEmpty) = true
  · rw [if_pos he]
    cases f with
    | nil => exact absurd rfl hf
    | cons a t => exact List.cons_ne_nil a []
  · rw [if_neg he]
    intro hnil
    rw [hnil] at he
    exact he rfl

/-! ### the labels `Concat._meta` declares -/

theorem declaredFrames_of_nonempty {fs : List (List Name)} (h : ∀ f, f ∈ fs → f ≠ []) : declaredFrames fs = fs := by
  apply List.filter_eq_self.mpr
  intro f hf
  cases f with
  | nil => exact absurd rfl (h [] hf)
  | cons _ _ => rfl

theorem flatten_declaredFrames : ∀ fs : List (List Name), (declaredFrames fs).flatten = fs.flatten
  | [] => rfl
  | [] :: fs => by
    have := flatten_declaredFrames fs
    simpa [declaredFrames] using this
  | (a :: t) :: fs => by
    have := flatten_declaredFrames fs
    simp only [declaredFrames, List.filter_cons, List.isEmpty_cons, Bool.not_false, if_true, List.flatten_cons] at this ⊢
    rw [this]

/-- stacking rows with `join="outer"`: the first-seen union of all labels, whatever inputs have no columns -/
theorem concatCols_outer_flatten (fs : List (List Name)) :
    concatCols false false fs = fs.flatten.foldl (fun acc c => if acc.contains c then acc else acc ++ [c]) [] := by
  cases fs with
  | nil => rfl
  | cons f fs => simp only [concatCols, Bool.false_eq_true, if_false]

/-- … so leaving the inputs without columns res changes nothing -/
theorem concatLabels_outer (fs : List (List Name)) : concatLabels false false fs = concatCols false false fs := by
  unfold concatLabels
  rw [concatCols_outer_flatten, concatCols_outer_flatten, flatten_declaredFrames]

theorem concatLabels_of_nonempty (axis1 inner : Bool) {fs : List (List Name)} (h : ∀ f, f ∈ fs → f ≠ []) :
    concatLabels axis1 inner fs = concatCols axis1 inner fs := by
  unfold concatLabels
  rw [declaredFrames_of_nonempty h]

/-- the parent projection is dropped only when the labels the new Concat DECLARES are exactly the requested list -/
theorem concat_nokeep {axis1 inner : Bool} {frames : List (List Name)}
    (h : concat axis1 inner frames p deps = some res) (hk : res.keep = false) :
    concatLabels axis1 inner (((frames.filter (fun f => !concatDropped axis1 (detProj p deps []).toList f)).map
        (concatKeepCols axis1 (detProj p deps []).toList))) = p.cols ∧ p.ndim1 = false := by
  obtain ⟨_, rfl⟩ := ite_none_eq_some h
  rw [Bool.not_eq_eq_eq_not, Bool.not_false, Bool.and_eq_true, decide_eq_true_eq, Bool.not_eq_true'] at hk
  exact ⟨hk.1.trans (Parent.operand_toList p), hk.2⟩

end Dx.Cols

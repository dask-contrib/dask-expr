/-
  Lemmas/FusionLoop.lean — the substitution lemma lifted through the outer `while True` of
  `optimize_blockwise_fusion`: the plan returned by the whole loop computes, at its root, the value the
  original plan computes at its root (reference semantics `refGraph`).

  Needed for the lift: the plan after a pass is again ranked (`ranked_pass`: the new `Fused` node ranks
  just above `group[0]`, everything else doubles) and its `Fused` nodes still name members of the plan.
-/
import DxModel.Lemmas.FusionSubst
namespace Dx.Fusion
open Dx

theorem exists_max_rank (ρ : Nat → Nat) : ∀ (l : List Nat), l ≠ [] → ∃ g ∈ l, ∀ g' ∈ l, ρ g' ≤ ρ g := by
  intro l
  induction l with
  | nil => intro h; exact absurd rfl h
  | cons a t ih =>
    intro _
    by_cases ht : t = []
    · subst ht
      exact ⟨a, List.mem_cons_self, fun g' hg' => List.mem_singleton.mp hg' ▸ Nat.le_refl _⟩
    · obtain ⟨g, hg, hmax⟩ := ih ht
      by_cases hag : ρ g ≤ ρ a
      · refine ⟨a, List.mem_cons_self, fun g' hg' => ?_⟩
        rcases List.mem_cons.mp hg' with rfl | h
        · exact Nat.le_refl _
        · exact Nat.le_trans (hmax g' h) hag
      · refine ⟨g, List.mem_cons_of_mem _ hg, fun g' hg' => ?_⟩
        rcases List.mem_cons.mp hg' with rfl | h
        · exact Nat.le_of_lt (Nat.lt_of_not_le hag)
        · exact hmax g' h

theorem rank_dep_lt {dag : Dag} {ρ : Nat → Nat} (hr : RankedBy dag ρ) {c d : Nat} (hd : d ∈ depsOf dag c) :
    ρ d < ρ c := by
  obtain ⟨nd, hg, hd⟩ := mem_depsOf.mp hd
  exact (hr c nd hg).1 d hd

/-- no member of a group outranks its first member (every other member has a parent inside the group) -/
theorem rank_members {dag : Dag} {root : Nat} {G : List Nat} {ρ : Nat → Nat} (hr : RankedBy dag ρ)
    (hok : GroupOK dag root G) : ∀ g ∈ G, ρ g ≤ ρ (G.headD 0) := by
  obtain ⟨gm, hgm, hmax⟩ := exists_max_rank ρ G hok.nonempty
  have hhead : gm = G.headD 0 := by
    apply Classical.byContradiction
    intro hne
    obtain ⟨c, hc, hdep⟩ := hok.parent gm (mem_tail_of_ne_head hgm hne)
    exact Nat.lt_irrefl _ (Nat.lt_of_lt_of_le (rank_dep_lt hr hdep) (hmax c hc))
  intro g hg
  rw [← hhead]
  exact hmax g hg

/-- rank of the plan after a pass -/
def rankAfter (ρ : Nat → Nat) (old fr : Nat) : Nat → Nat :=
  fun x => if x = fr then 2 * ρ old + 1 else 2 * ρ x

theorem rankAfter_fresh (ρ : Nat → Nat) (old fr : Nat) : rankAfter ρ old fr fr = 2 * ρ old + 1 :=
  if_pos rfl

theorem rankAfter_ne (ρ : Nat → Nat) (old : Nat) {fr x : Nat} (h : x ≠ fr) : rankAfter ρ old fr x = 2 * ρ x :=
  if_neg h

theorem ranked_pass {dag : Dag} {root : Nat} {G : List Nat} {ρ : Nat → Nat} (hr : RankedBy dag ρ)
    (hmk : MembersKnown dag) (hok : GroupOK dag root G) :
    RankedBy (substitute dag (G.headD 0) (fusedNode dag G).name ++ [fusedNode dag G])
        (rankAfter ρ (G.headD 0) (freshName dag)) ∧
      MembersKnown (substitute dag (G.headD 0) (fusedNode dag G).name ++ [fusedNode dag G]) := by
  have hget := getNode_pass dag G
  have hhead : (getNode dag (G.headD 0)).isSome = true :=
    isSome_of_isBw (hok.blockwise _ (head_mem_of_ne hok.nonempty))
  have hhead_ne : G.headD 0 ≠ freshName dag := Nat.ne_of_lt (lt_fresh_of_isSome hhead)
  refine ⟨?_, ?_⟩
  · intro x nd hg
    rw [hget x] at hg
    by_cases hx : x = freshName dag
    · -- the new node: its operands are operands of members, which do not outrank `G[0]`
      rw [if_pos hx] at hg
      obtain rfl := Option.some.inj hg
      rw [hx, rankAfter_fresh]
      refine ⟨fun d hd => ?_, fun r rs hrs => ?_⟩
      · obtain ⟨g, hgG, hdg, _⟩ := mem_groupDeps hd
        rw [rankAfter_ne ρ _ (Nat.ne_of_lt (dep_lt_fresh hdg))]
        exact Nat.lt_succ_of_le (Nat.mul_le_mul_left 2
          (Nat.le_trans (Nat.le_of_lt (rank_dep_lt hr hdg)) (rank_members hr hok g hgG)))
      · have hr0 : G.headD 0 = r := by rw [show G = r :: rs from hrs]; rfl
        rw [← hr0, rankAfter_ne ρ _ hhead_ne]
        exact Nat.lt_succ_self _
    · -- an old node: ranks double, and an operand `G[0]` has become the new node, one above `G[0]`
      rw [if_neg hx] at hg
      cases hgx : getNode dag x with
      | none => rw [hgx] at hg; cases hg
      | some nd0 =>
        rw [hgx] at hg
        obtain rfl := Option.some.inj hg
        obtain ⟨hdeps, hmem⟩ := hr x nd0 hgx
        rw [rankAfter_ne ρ _ hx]
        refine ⟨fun d hd => ?_, fun r rs hrs => ?_⟩
        · obtain ⟨d0, hd0, rfl⟩ := List.mem_map.mp hd
          unfold sub
          by_cases hdo : d0 = G.headD 0
          · rw [if_pos hdo, rankAfter_fresh]
            exact Nat.mul_le_mul_left 2 (hdo ▸ hdeps d0 hd0)
          · rw [if_neg hdo, rankAfter_ne ρ _ (Nat.ne_of_lt (dep_lt_fresh (mem_depsOf.mpr ⟨nd0, hgx, hd0⟩)))]
            exact Nat.lt_of_succ_lt (Nat.mul_le_mul_left 2 (hdeps d0 hd0))
        · rw [rankAfter_ne ρ _ (Nat.ne_of_lt (lt_fresh_of_isSome (hmk x nd0 hgx r rs hrs)))]
          exact Nat.lt_of_succ_lt (Nat.mul_le_mul_left 2 (hmem r rs hrs))
  · intro x nd hg m rs hm
    rw [hget x] at hg
    -- the first member is a node of the old plan, and those are kept
    have hold : (getNode dag m).isSome = true := by
      by_cases hx : x = freshName dag
      · rw [if_pos hx] at hg
        obtain rfl := Option.some.inj hg
        have hm0 : G.headD 0 = m := by rw [show G = m :: rs from hm]; rfl
        exact hm0 ▸ hhead
      · rw [if_neg hx] at hg
        cases hgx : getNode dag x with
        | none => rw [hgx] at hg; cases hg
        | some nd0 =>
          rw [hgx] at hg
          obtain rfl := Option.some.inj hg
          exact hmk x nd0 hgx m rs hm
    rw [(newPlan dag G).node_old m (Nat.ne_of_lt (lt_fresh_of_isSome hold))]
    exact hold

/-- the rank of a node as a rank of its keys -/
def keyRank (ρ : Nat → Nat) : FKey → Nat
  | .part x _ => ρ x
  | _ => 0

/-- `refGraph` of a ranked plan is a ranked graph: values do not depend on the fuel once it is large -/
theorem refGraph_ranked {dag : Dag} {ρ : Nat → Nat} (hr : RankedBy dag ρ) : Ranked (refGraph dag) (keyRank ρ) := by
  intro k t hk d hd _
  cases k with
  | top n => cases hk
  | ph j => cases hk
  | part x i =>
    cases hg : getNode dag x with
    | none => rw [refGraph_no_node hg] at hk; cases hk
    | some nd =>
      obtain ⟨hdeps, hmem⟩ := hr x nd hg
      cases hb : nd.blockwise with
      | false => rw [refGraph_not_bw hg hb] at hk; cases hk
      | true =>
        cases hm : nd.members with
        | nil =>
          rw [refGraph_plain hg hb hm] at hk
          by_cases hi : i < nd.npart
          · rw [if_pos hi] at hk
            obtain rfl := Option.some.inj hk
            obtain ⟨d0, hd0, rfl⟩ := List.mem_map.mp hd
            obtain ⟨j, hj⟩ := argKey_name dag nd i d0
            rw [hj]
            exact hdeps d0 hd0
          · rw [if_neg hi] at hk; cases hk
        | cons r rs =>
          rw [refGraph_fused hg hb hm] at hk
          obtain rfl := Option.some.inj hk
          cases List.mem_singleton.mp hd
          exact hmem r rs hm

theorem member_ne_fresh {dag : Dag} (hmk : MembersKnown dag) :
    ∀ x nd, getNode dag x = some nd → ∀ m rs, nd.members = m :: rs → m ≠ freshName dag :=
  fun x nd hx m rs hm => Nat.ne_of_lt (lt_fresh_of_isSome (hmk x nd hx m rs hm))

/-- one pass, with the invariants the next pass needs -/
theorem pass_step (I : Interp) (ord : Nat → List Nat → List Nat) (hord : OrdOK ord) (dag : Dag) (root : Nat)
    (r : PassResult) (G : List Nat) (h : fusionPass ord dag root = some r) (hg : r.group = some G)
    (hplan : PlanOK dag root) (ρ : Nat → Nat) (hr : RankedBy dag ρ) (hmk : MembersKnown dag)
    (inp : FKey → Option V) :
    PlanOK r.dag r.root ∧ (∃ ρ', RankedBy r.dag ρ') ∧ MembersKnown r.dag ∧
    (∀ i N N', ρ root < N → 2 * ρ root + 3 ≤ N' →
        run I (refGraph r.dag) inp N' (.part r.root i) = run I (refGraph dag) inp N (.part root i)) := by
  obtain ⟨hok, _⟩ := fusionPass_groupOK ord hord dag root r G h hg
  obtain ⟨_, hplan'⟩ := pass_decreases ord hord dag root hplan r G h hg
  obtain ⟨_, _, _, _, _, h1, h2⟩ := fusionPass_some ord dag root r G h hg
  obtain ⟨hr', hmk'⟩ := ranked_pass hr hmk hok
  have hf := fusedNode_for dag G hok.nonempty (member_ne_fresh hmk)
  have hrootne : root ≠ (fusedNode dag G).name := Nat.ne_of_lt (lt_fresh_of_isSome hplan.root_node)
  refine ⟨hplan', ⟨_, by rw [h1]; exact hr'⟩, by rw [h1]; exact hmk', ?_⟩
  intro i N N' hN hN'
  rw [h1, h2]
  exact subst_root_value I dag (G.headD 0) (fusedNode dag G) hf ρ hr inp root hrootne i N N' hN hN'

/-- **The whole loop.**  Whatever `optimize_blockwise_fusion` returns computes at its root what the
    original plan computes at its root, for all sufficiently large fuels on both sides. -/
theorem fuseLoop_values (I : Interp) (ord : Nat → List Nat → List Nat) (hord : OrdOK ord)
    (inp : FKey → Option V) :
    ∀ (fuel : Nat) (dag : Dag) (root n : Nat) (dag' : Dag) (root' n' : Nat),
      fuseLoop ord fuel dag root n = some (dag', root', n') →
      PlanOK dag root → (∃ ρ, RankedBy dag ρ) → MembersKnown dag →
      ∀ i, ∃ B B', ∀ N N', B ≤ N → B' ≤ N' →
        run I (refGraph dag') inp N' (.part root' i) = run I (refGraph dag) inp N (.part root i) := by
  intro fuel
  induction fuel with
  | zero => intro dag root n dag' root' n' h; cases h
  | succ fuel ih =>
    intro dag root n dag' root' n' h hplan hrk hmk i
    obtain ⟨ρ, hr⟩ := hrk
    simp only [fuseLoop] at h
    cases hp : fusionPass ord dag root with
    | none => simp [hp] at h
    | some r =>
      simp only [hp] at h
      cases hg : r.group with
      | none =>
        -- no group found: the same plan, whose values are stable in the fuel
        simp only [hg, Option.some.injEq, Prod.mk.injEq] at h
        obtain ⟨hd, hro, _⟩ := h
        obtain ⟨e1, e2⟩ := fusionPass_none_group ord dag root r hp hg
        rw [← hd, ← hro, e1, e2]
        refine ⟨ρ root + 1, ρ root + 1, fun N N' hN hN' => ?_⟩
        have hst := run_stable I (refGraph dag) inp (keyRank ρ) (refGraph_ranked hr) (ρ root + 1) (.part root i)
          (Nat.lt_succ_self _)
        rw [hst N' hN', hst N hN]
      | some G =>
        simp only [hg] at h
        obtain ⟨hplan1, hrk1, hmk1, hval⟩ := pass_step I ord hord dag root r G hp hg hplan ρ hr hmk inp
        by_cases hdone : r.done = true
        · simp only [hdone, if_true, Option.some.injEq, Prod.mk.injEq] at h
          obtain ⟨hd, hro, _⟩ := h
          rw [← hd, ← hro]
          exact ⟨ρ root + 1, 2 * ρ root + 3, fun N N' hN hN' => hval i N N' hN hN'⟩
        · simp only [hdone] at h
          obtain ⟨B1, B1', hrec⟩ := ih r.dag r.root (n + 1) dag' root' n' h hplan1 hrk1 hmk1 i
          refine ⟨ρ root + 1, B1', fun N N' hN hN' => ?_⟩
          rw [hrec (max B1 (2 * ρ root + 3)) N' (Nat.le_max_left ..) hN',
            hval i N (max B1 (2 * ρ root + 3)) hN (Nat.le_max_right ..)]

end Dx.Fusion

/-
  Lemmas/PredJoin.lean — a filter on the output of a join versus filters on its inputs.
-/
import DxModel.Pred
import DxModel.Lemmas.ListBasics
namespace Dx.Pred

variable {α β γ : Type}

theorem filter_flatMap_push (L : List α) (g : α → List γ) (q : γ → Bool) (s : α → Bool)
    (h : ∀ a, ∀ x ∈ g a, q x = s a) : (L.flatMap g).filter q = (L.filter s).flatMap g := by
  induction L with
  | nil => rfl
  | cons a t ih =>
    simp only [List.flatMap_cons, List.filter_append, ih, List.filter_cons]
    cases hs : s a with
    | true =>
      simp only [if_true, List.flatMap_cons]
      congr 1
      rw [List.filter_eq_self]
      intro x hx; rw [h a x hx, hs]
    | false =>
      simp only [Bool.false_eq_true, if_false]
      have : (g a).filter q = [] := by
        rw [List.filter_eq_nil_iff]
        intro x hx; rw [h a x hx, hs]; simp
      rw [this, List.nil_append]

/-- the rows one input row contributes to a left / right join: its matches, or one padded row -/
theorem mem_padRows {δ : Type} (l : List γ) (d : δ) (f : γ → δ) (x : δ)
    (hx : x ∈ (match l with | [] => [d] | b :: bs => (b :: bs).map f)) : x = d ∨ ∃ b, x = f b := by
  cases l with
  | nil => exact Or.inl (List.mem_singleton.mp hx)
  | cons b bs => obtain ⟨b', _, rfl⟩ := List.mem_map.mp hx; exact Or.inr ⟨b', rfl⟩

theorem leftRows_fst (m : α → β → Bool) (R : List β) (a : α) (x : JRow α β) (hx : x ∈ leftRows m R a) :
    x.1 = some a := by
  rcases mem_padRows _ _ _ x hx with rfl | ⟨b, rfl⟩ <;> rfl

theorem rightRows_snd (m : α → β → Bool) (L : List α) (b : β) (x : JRow α β) (hx : x ∈ rightRows m L b) :
    x.2 = some b := by
  rcases mem_padRows _ _ _ x hx with rfl | ⟨a, rfl⟩ <;> rfl

/-! #### predicate over left columns: inner, left, leftsemi -/

theorem join_left_push (how : How) (hh : how = .inner ∨ how = .left ∨ how = .leftsemi)
    (m : α → β → Bool) (L : List α) (R : List β) (p : Option α → Bool) :
    (join how m L R).filter (fun jr => p jr.1) = join how m (L.filter (fun a => p (some a))) R := by
  rcases hh with h | h | h <;> subst h <;> simp only [join]
  · -- inner
    unfold joinInner
    apply filter_flatMap_push
    intro a x hx
    simp only [List.mem_map] at hx
    obtain ⟨b, _, rfl⟩ := hx
    rfl
  · -- left
    unfold joinLeft
    apply filter_flatMap_push
    intro a x hx
    rw [leftRows_fst m R a x hx]
  · -- leftsemi
    unfold joinSemi
    rw [List.filter_map, List.filter_filter, List.filter_filter]
    congr 1
    apply List.filter_congr
    intro a _
    simp [Function.comp, Bool.and_comm]

/-! #### predicate over right columns: inner, right -/

theorem join_right_push (how : How) (hh : how = .inner ∨ how = .right)
    (m : α → β → Bool) (L : List α) (R : List β) (q : Option β → Bool) :
    (join how m L R).filter (fun jr => q jr.2) = join how m L (R.filter (fun b => q (some b))) := by
  rcases hh with h | h <;> subst h <;> simp only [join]
  · -- inner: pointwise in the left row
    unfold joinInner
    rw [List.filter_flatMap]
    apply flatMap_congr'
    intro a _
    rw [List.filter_map, List.filter_filter, List.filter_filter]
    congr 1
    apply List.filter_congr
    intro b _
    simp [Function.comp, Bool.and_comm]
  · unfold joinRight
    apply filter_flatMap_push
    intro b x hx
    rw [rightRows_snd m L b x hx]

/-! #### predicate over a key column present in both inputs: both inputs may be filtered -/

theorem join_restrict_right (how : How) (hh : how = .inner ∨ how = .left ∨ how = .leftsemi)
    (m : α → β → Bool) (L : List α) (R : List β) (sR : β → Bool)
    (h : ∀ a ∈ L, ∀ b, m a b = true → sR b = true) :
    join how m L (R.filter sR) = join how m L R := by
  have hfilt : ∀ a ∈ L, (R.filter sR).filter (m a) = R.filter (m a) := by
    intro a ha
    rw [List.filter_filter]
    apply List.filter_congr
    intro b _
    cases hm : m a b with
    | false => rfl
    | true => simp [h a ha b hm]
  rcases hh with hq | hq | hq <;> subst hq <;> simp only [join]
  · unfold joinInner
    apply flatMap_congr'
    intro a ha; rw [hfilt a ha]
  · unfold joinLeft
    apply flatMap_congr'
    intro a ha; unfold leftRows; rw [hfilt a ha]
  · unfold joinSemi
    congr 1
    apply List.filter_congr
    intro a ha
    rw [List.any_filter]
    refine any_congr_mem _ _ R (fun b _ => ?_)
    cases hm : m a b with
    | false => exact Bool.and_false _
    | true => rw [h a ha b hm]; rfl

theorem join_both_push (how : How) (hh : how = .inner ∨ how = .left ∨ how = .leftsemi)
    (m : α → β → Bool) (L : List α) (R : List β) (p : Option α → Bool) (sR : β → Bool)
    (hagree : ∀ a b, m a b = true → sR b = p (some a)) :
    (join how m L R).filter (fun jr => p jr.1) =
      join how m (L.filter (fun a => p (some a))) (R.filter sR) := by
  rw [join_left_push how hh, join_restrict_right how hh]
  intro a ha b hm
  rw [hagree a b hm]
  exact (List.mem_filter.mp ha).2

/-! #### the decision tables of `Merge` -/

/-- the join kinds `_filter_passthrough_available` asks for on the chosen sides are those of the legality table.
    The hypothesis is the body of `mergeFilterAvail` once `avail` holds and the column description is known: `s` stands
    for `mergeFilterSides pc lcoll rcoll`, `c` for its fall-through value (no side chosen). -/
theorem joinPushLegal_of_sides (how : How) (s : Bool × Bool) (c : Bool)
    (h : (if s.1 then how == .left || how == .inner || how == .leftsemi
          else if s.2 then how == .right || how == .inner else c) = true) :
    joinPushLegal how s = true := by
  obtain ⟨l, r⟩ := s
  cases l <;> cases r <;> cases how <;> first | rfl | exact h

/-- `_filter_sides` names only inputs that own the predicate's columns in the output
    (`mergePushSides`, which `C03_join_table` speaks of, is `mergeFilterSides` under the name of its second caller) -/
theorem mergeFilterSides_semantic (pc : PredCols) : ∀ lcoll rcoll : Bool,
    ((mergeFilterSides pc lcoll rcoll).1 = true → (semanticSides pc lcoll rcoll).1 = true)
    ∧ ((mergeFilterSides pc lcoll rcoll).2 = true → (semanticSides pc lcoll rcoll).2 = true) := by
  cases pc <;> decide

end Dx.Pred

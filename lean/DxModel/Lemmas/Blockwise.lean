/-
  Lemmas/Blockwise.lean — evaluation of a Blockwise layer, and the list lemma behind `C02_blockwise`:
  a function of the partitioned operands that distributes over concatenation of co-partitioned
  pieces may be applied partition-wise.
-/
import DxModel.Layers.Blockwise
import DxModel.Lemmas.LayerRun
namespace Dx
open Blockwise

theorem bw_run_out (I : Interp) (p : Params) (vals : Nat → Nat → V) (F i : Nat) (hi : i < p.n) :
    run I (layer p) (inputs vals) (F+1) (.out i) = I opFn (p.args.filterMap (argVal p vals i)) := by
  have hg : layer p (.out i) = some (.apply opFn (p.args.filterMap (argKey p i))) := if_pos hi
  rw [run_defined _ _ _ F _ _ hg]
  simp only [evalTsk, List.map_filterMap]
  congr 2
  funext a
  cases a with
  | expr d np nd => exact congrArg some (run_input I (layer p) (inputs vals) _ _ rfl rfl F)
  | lit s => rfl

theorem bw_argVal_eq_argVec (p : Params) (vals : Nat → Nat → V) (rows : Nat → Nat → List Row) (i : Nat)
    (args : List Arg)
    (hv : ∀ d np nd, Arg.expr d np nd ∈ args → broadcastDep p np nd = false → vals d i = .frame (rows d i)) :
    args.filterMap (argVal p vals i) = args.filterMap (argVec p (fun d => vals d 0) (fun d => rows d i)) := by
  induction args with
  | nil => rfl
  | cons a t ih =>
    have iht := ih (fun d np nd h => hv d np nd (List.mem_cons_of_mem _ h))
    cases a with
    | lit s => exact iht
    | expr d np nd =>
      show _ :: _ = _ :: _
      rw [iht]
      cases hb : broadcastDep p np nd with
      | true => rfl
      | false => exact congrArg (· :: _) (hv d np nd List.mem_cons_self hb)

/-- all operands have partitions of equal length -/
def CoLen (xs : Nat → List Row) : Prop := ∀ d d', (xs d).length = (xs d').length

/-- `G` may be applied piecewise to co-partitioned operands -/
structure Additive (G : (Nat → List Row) → List Row) : Prop where
  nil : G (fun _ => []) = []
  append : ∀ xs ys, CoLen xs → CoLen ys → G (fun d => xs d ++ ys d) = G xs ++ G ys

theorem coLen_flatMap (rows : Nat → Nat → List Row) (h : ∀ i, CoLen (fun d => rows d i)) (n : Nat) :
    CoLen (fun d => (List.range n).flatMap (rows d)) := by
  induction n with
  | zero => intro d d'; rfl
  | succ n ih =>
    intro d d'
    show ((List.range (n+1)).flatMap (rows d)).length = ((List.range (n+1)).flatMap (rows d')).length
    rw [flatMap_range_succ, flatMap_range_succ, List.length_append, List.length_append, ih d d', h n d d']

theorem additive_concat (G : (Nat → List Row) → List Row) (hG : Additive G) (rows : Nat → Nat → List Row)
    (h : ∀ i, CoLen (fun d => rows d i)) (n : Nat) :
    (List.range n).flatMap (fun i => G (fun d => rows d i)) = G (fun d => (List.range n).flatMap (rows d)) := by
  induction n with
  | zero => exact hG.nil.symm
  | succ n ih =>
    rw [flatMap_range_succ, ih, ← hG.append _ _ (coLen_flatMap rows h n) (h n)]
    exact congrArg G (funext fun d => (flatMap_range_succ (rows d) n).symm)

theorem additive_map (g : Row → Row) : Additive (fun xs => (xs 0).map g) :=
  ⟨rfl, fun xs ys _ _ => by simp⟩

theorem additive_zipWith (g : Row → Row → Row) : Additive (fun xs => List.zipWith g (xs 0) (xs 1)) :=
  ⟨rfl, fun xs ys hx _ => by
    show List.zipWith g (xs 0 ++ ys 0) (xs 1 ++ ys 1) = _
    exact List.zipWith_append (hx 0 1)⟩

theorem additive_filter (f : Row → Bool) : Additive (fun xs => (xs 0).filter f) :=
  ⟨rfl, fun xs ys _ _ => by simp⟩

def bwRank : Key → Nat
  | .dep _ _ => 0
  | .out _ => 1

/-- Every key a task reads is a dependency key: the layer is stratified over any input function
    that is defined on the dependency partitions the tasks name. -/
theorem bw_stratified (p : Params) (inp : Key → Option V)
    (h : ∀ d np nd, Arg.expr d np nd ∈ p.args → ∀ i, i < p.n →
      (inp (.dep d (if broadcastDep p np nd then 0 else i))).isSome) :
    Stratified (layer p) inp bwRank := by
  intro k t hk r hr
  cases k with
  | dep _ _ => cases hk
  | out i =>
    obtain ⟨hi, ⟨⟩⟩ := Option.ite_none_right_eq_some.mp hk
    obtain ⟨a, ha, har⟩ := List.mem_filterMap.mp hr
    cases a with
    | lit s => cases har
    | expr d np nd => cases har; exact .inr ⟨rfl, h d np nd ha i hi⟩

/-- Under `WF` it is enough that the input function defines the partitions each operand has: a
    broadcast operand has one, the others as many as the layer. -/
theorem bw_stratified' (p : Params) (hwf : WF p) (inp : Key → Option V)
    (h : ∀ d np nd, Arg.expr d np nd ∈ p.args → ∀ i, i < np → (inp (.dep d i)).isSome) :
    Stratified (layer p) inp bwRank := by
  refine bw_stratified p inp fun d np nd ha i hi => ?_
  cases hb : broadcastDep p np nd with
  | true => exact h d np nd ha 0 (eq_of_beq (Bool.and_eq_true_iff.mp hb).1 ▸ Nat.one_pos)
  | false => exact h d np nd ha i (hwf d np nd ha hb ▸ hi)

end Dx

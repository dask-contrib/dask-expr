/-
  Lemmas/MetaPushConcat.lean — `Concat._simplify_up(Projection)` for a row-wise concat (`axis=0`) keeps the declared
  schema of the projection: labels, order, kinds (including the missing-value promotion that a frame without any
  requested column causes — D85) and index.
-/
import DxModel.Lemmas.MetaPush
namespace Dx.Meta
open Dx.Cols (Parent Dep Rw Sel Adequate)

/-! ### what the rule leaves of an input -/

/-- `C'` is what is left of the columns `C` of an input: the requested columns are found as before, nothing is
    invented, and an input with columns keeps at least one -/
structure PrunedOf (P : List Name) (C C' : List Col) : Prop where
  look : ∀ y, y ∈ P → C'.lookup y = C.lookup y
  nonempty : C ≠ [] → C' ≠ []
  nodup : (labels C).Nodup → (labels C').Nodup

theorem prunedOf_refl (P : List Name) (C : List Col) : PrunedOf P C C := ⟨fun _ _ => rfl, id, id⟩

theorem contains_pruned {P : List Name} {C C' : List Col} (h : PrunedOf P C C') {y : Name} (hy : y ∈ P) :
    (labels C').contains y = (labels C).contains y := by
  have := h.look y hy
  cases hc : C.lookup y with
  | none =>
    rw [hc] at this
    rw [contains_false.mpr ((lookup_none_iff C y).mp hc), contains_false.mpr ((lookup_none_iff C' y).mp this)]
  | some k =>
    rw [hc] at this
    rw [List.contains_iff_mem.mpr (lookup_some_mem hc), List.contains_iff_mem.mpr (lookup_some_mem this)]

/-- `PrunedOf P`, input by input (the relation lifted to lists of equal length) -/
inductive PrunedAll (P : List Name) : List (List Col) → List (List Col) → Prop where
  | nil : PrunedAll P [] []
  | cons {C C' : List Col} {Cs Cs' : List (List Col)} (h : PrunedOf P C C') (t : PrunedAll P Cs Cs') :
      PrunedAll P (C :: Cs) (C' :: Cs')

/-- what pruning keeps of one input, it keeps of all -/
theorem prunedAll_forall {P : List Name} {Cs Cs' : List (List Col)} (h : PrunedAll P Cs Cs') {Q : List Col → Prop}
    (hQ : ∀ C C', PrunedOf P C C' → Q C → Q C') : (∀ C, C ∈ Cs → Q C) → ∀ C, C ∈ Cs' → Q C := by
  induction h with
  | nil => intro _ C hC; cases hC
  | cons hpr _ ih =>
    intro hc X hX
    rcases List.mem_cons.mp hX with rfl | hX'
    · exact hQ _ _ hpr (hc _ List.mem_cons_self)
    · exact ih (fun Y hY => hc Y (List.mem_cons_of_mem _ hY)) X hX'

/-- for a requested label, the pruned inputs answer every question `rowCols_lookup` asks as the whole inputs do: do all
    have it, does any, are there inputs at all, and which kinds do they give it -/
theorem prunedAll_presence {P : List Name} {Cs Cs' : List (List Col)} (h : PrunedAll P Cs Cs') {y : Name} (hy : y ∈ P) :
    Cs'.all (fun f => (labels f).contains y) = Cs.all (fun f => (labels f).contains y) ∧
    Cs'.any (fun f => (labels f).contains y) = Cs.any (fun f => (labels f).contains y) ∧
    Cs'.isEmpty = Cs.isEmpty ∧
    Cs'.filterMap (fun f => f.lookup y) = Cs.filterMap (fun f => f.lookup y) := by
  induction h with
  | nil => exact ⟨rfl, rfl, rfl, rfl⟩
  | cons h t ih =>
    obtain ⟨i1, i2, _, i4⟩ := ih
    refine ⟨?_, ?_, rfl, ?_⟩
    · simp only [List.all_cons, contains_pruned h hy, i1]
    · simp only [List.any_cons, contains_pruned h hy, i2]
    · simp only [List.filterMap_cons, h.look y hy, i4]

theorem rowCols_pruned (inner : Bool) {P : List Name} {Cs Cs' : List (List Col)} (h : PrunedAll P Cs Cs') {y : Name} (hy : y ∈ P) :
    (rowCols inner Cs').lookup y = (rowCols inner Cs).lookup y := by
  obtain ⟨h1, h2, h3, h4⟩ := prunedAll_presence h hy
  rw [rowCols_lookup, rowCols_lookup]
  have hp : presentIn inner Cs' y = presentIn inner Cs y := by
    cases inner with
    | true => simp only [presentIn, if_true, h1, h3]
    | false => simp only [presentIn, Bool.false_eq_true, if_false, h2]
  have hk : kindIn Cs' y = kindIn Cs y := by
    simp only [kindIn, h1, stackKind, h4]
  rw [hp, hk]

/-- the declared columns of a wrapped input -/
theorem wrapped_frame (t : Tree) (C : List Col) (I : List Lvl) (hS : declT t = .frame C I) (columns : List Name)
    (p : Parent) (deps : List Dep) (hcol : columns = (Dx.Cols.detProj p deps []).toList) :
    ∃ C', declT (wrap t (Dx.Cols.concatChild false columns (labels C))) = .frame C' I ∧ PrunedOf p.cols C C' ∧
      labels C' = Dx.Cols.concatKeepCols false columns (labels C) := by
  rcases Dx.Cols.concatChild_cases false columns (labels C) with hn | hsome
  · rw [hn]
    exact ⟨C, hS, prunedOf_refl _ _, (Dx.Cols.concatKeepCols_of_child_none hn).symm⟩
  · rw [hsome, declT_wrap_many t _ C I hS]
    have had : Adequate (labels C) [] p.cols (Dx.Cols.concatKeepCols false columns (labels C)) := by
      rw [hcol]; exact Dx.Cols.concatKeepCols_adequate false (labels C) p deps
    obtain ⟨sub, hs⟩ := selectCols_some_of_sub C _ had.sub
    refine ⟨sub, by simp only [pGetCols, hs], ⟨?_, ?_, ?_⟩, selectCols_labels hs⟩
    · intro y hy; exact adequate_lookup had hs y (Or.inl hy)
    · intro hne hsub
      have hl := selectCols_labels hs
      rw [hsub] at hl
      have : labels C ≠ [] := by
        intro h0
        apply hne
        cases C with
        | nil => rfl
        | cons a u => simp [labels] at h0
      exact Dx.Cols.concatKeepCols_ne_nil columns (labels C) this hl.symm
    · intro hn
      rw [selectCols_labels hs]
      exact had.nodup hn

/-- every input declares a frame: its columns and its index, input by input -/
inductive AllFrames : List Tree → List (List Col) → List (List Lvl) → Prop where
  | nil : AllFrames [] [] []
  | cons {t : Tree} {ts : List Tree} {C : List Col} {I : List Lvl} {Cs : List (List Col)} {Is : List (List Lvl)}
      (h : declT t = .frame C I) (r : AllFrames ts Cs Is) : AllFrames (t :: ts) (C :: Cs) (I :: Is)

def zipFrames : List (List Col) → List (List Lvl) → List Sch
  | C :: Cs, I :: Is => .frame C I :: zipFrames Cs Is
  | _, _ => []

theorem allFrames_declTs {ts : List Tree} {Cs : List (List Col)} {Is : List (List Lvl)} (h : AllFrames ts Cs Is) :
    declTs ts = zipFrames Cs Is ∧ (declTs ts).map frameLabels = Cs.map labels := by
  induction h with
  | nil => exact ⟨rfl, rfl⟩
  | cons h r ih =>
    simp only [declTs, zipFrames, h, List.map_cons, frameLabels, ih.1, ← ih.2]
    exact ⟨trivial, trivial⟩

theorem frameParts_zip : ∀ (Cs : List (List Col)) (Is : List (List Lvl)), Cs.length = Is.length →
    frameParts (zipFrames Cs Is) = some (Cs.zip Is)
  | [], [], _ => rfl
  | C :: Cs, I :: Is, h => by
    simp only [zipFrames, frameParts, List.zip_cons_cons]
    rw [frameParts_zip Cs Is (by simpa using h)]
    rfl
  | [], _ :: _, h => by simp at h
  | _ :: _, [], h => by simp at h

theorem allFrames_length {ts : List Tree} {Cs : List (List Col)} {Is : List (List Lvl)} (h : AllFrames ts Cs Is) :
    Cs.length = Is.length := by
  induction h with
  | nil => rfl
  | cons _ _ ih => rw [List.length_cons, List.length_cons, ih]

theorem all_hasColumns_zip : ∀ (Cs : List (List Col)) (Is : List (List Lvl)), (∀ C, C ∈ Cs → C ≠ []) →
    (zipFrames Cs Is).all hasColumns = true
  | [], _, _ => by cases ‹List (List Lvl)› <;> rfl
  | _ :: _, [], _ => rfl
  | C :: Cs, I :: Is, h => by
    rw [zipFrames, List.all_cons, all_hasColumns_zip Cs Is (fun X hX => h X (List.mem_cons_of_mem _ hX)), Bool.and_true]
    cases C with
    | nil => exact absurd rfl (h [] List.mem_cons_self)
    | cons a u => rfl

/-- the declared schema of a row-wise concat of frames that all have columns -/
theorem declConcat_rows (inner : Bool) (Cs : List (List Col)) (Is : List (List Lvl)) (hlen : Cs.length = Is.length)
    (hne : Cs ≠ []) (hcols : ∀ C, C ∈ Cs → C ≠ []) :
    declConcat false inner (zipFrames Cs Is) = .frame (rowCols inner Cs) (commonIdx Is) := by
  rw [declConcat_rows_all inner _ (all_hasColumns_zip Cs Is hcols)]
  unfold pConcatRows
  have hnz : (zipFrames Cs Is).isEmpty = false := by
    cases Cs with
    | nil => exact absurd rfl hne
    | cons C Cs' =>
      cases Is with
      | nil => simp at hlen
      | cons I Is' => rfl
  simp only [hnz, Bool.false_eq_true, if_false, frameParts_zip Cs Is hlen]
  congr 1
  · congr 1
    exact List.map_fst_zip (Nat.le_of_eq hlen)
  · congr 1
    exact List.map_snd_zip (Nat.le_of_eq hlen.symm)

theorem concat_inputs_pruned (p : Parent) (deps : List Dep) (columns : List Name)
    (hcol : columns = (Dx.Cols.detProj p deps []).toList) :
    ∀ {ts : List Tree} {Cs : List (List Col)} {Is : List (List Lvl)}, AllFrames ts Cs Is →
    ∃ Cs', AllFrames (concatInputs ts ((Cs.map labels).map (Dx.Cols.concatChild false columns))
        ((Cs.map labels).map (Dx.Cols.concatDropped false columns))) Cs' Is ∧
      PrunedAll p.cols Cs Cs' ∧ Cs'.map labels = (Cs.map labels).map (Dx.Cols.concatKeepCols false columns) := by
  intro ts Cs Is h
  induction h with
  | nil => exact ⟨[], .nil, .nil, rfl⟩
  | @cons t ts C I Cs Is hS r ih =>
    obtain ⟨Cs', hA, hP, hL⟩ := ih
    obtain ⟨C', hC', hpr, hlab⟩ := wrapped_frame t C I hS columns p deps hcol
    refine ⟨C' :: Cs', ?_, .cons hpr hP, ?_⟩
    · simp only [List.map_cons, concatInputs, Dx.Cols.concatDropped, Bool.false_and, Bool.false_eq_true, if_false]
      exact .cons hC' hA
    · simp only [List.map_cons, hlab, hL]

/-! ### labels of `rowCols` are `Dx.Cols.concatCols` -/

/-- the order-preserving union (the fold of `unionNames` / `Dx.Cols.concatCols`) adds nothing that is there -/
theorem foldl_union_of_mem : ∀ (l acc : List Name), (∀ c, c ∈ l → c ∈ acc) →
    l.foldl (fun acc x => if acc.contains x then acc else acc ++ [x]) acc = acc
  | [], _, _ => rfl
  | c :: t, acc, h => by
    rw [List.foldl_cons, if_pos (List.contains_iff_mem.mpr (h c List.mem_cons_self))]
    exact foldl_union_of_mem t acc (fun x hx => h x (List.mem_cons_of_mem _ hx))

/-- … and appends a duplicate-free list of new elements as it is -/
theorem foldl_union_of_new : ∀ (l acc : List Name), l.Nodup → (∀ c, c ∈ l → c ∉ acc) →
    l.foldl (fun acc x => if acc.contains x then acc else acc ++ [x]) acc = acc ++ l
  | [], acc, _, _ => (List.append_nil acc).symm
  | c :: t, acc, hn, hd => by
    rw [List.nodup_cons] at hn
    rw [List.foldl_cons, if_neg (fun hc => hd c List.mem_cons_self (List.contains_iff_mem.mp hc)),
      foldl_union_of_new t (acc ++ [c]) hn.2, List.append_assoc, List.singleton_append]
    intro x hx hxa
    rcases List.mem_append.mp hxa with h1 | h1
    · exact hd x (List.mem_cons_of_mem _ hx) h1
    · cases List.mem_singleton.mp h1
      exact hn.1 hx

theorem labels_map_relabel (g : Name → Kind) (l : List Col) : labels (l.map (fun c => (c.1, g c.1))) = labels l := by
  simp [labels, List.map_map, Function.comp_def]

theorem labels_rowCols (inner : Bool) : ∀ (Cs : List (List Col)), (∀ C, C ∈ Cs → (labels C).Nodup) →
    labels (rowCols inner Cs) = Dx.Cols.concatCols false inner (Cs.map labels)
  | [], _ => rfl
  | f :: fs, hn => by
    simp only [rowCols, List.map_cons, Dx.Cols.concatCols, Bool.false_eq_true, if_false]
    by_cases hid : fs.all (fun g => labels g == labels f) = true
    · rw [if_pos hid, labels_map_relabel]
      have hsame : ∀ g, g ∈ fs → labels g = labels f := by
        intro g hg
        have := List.all_eq_true.mp hid g hg
        simpa using this
      cases inner with
      | true =>
        simp only [if_true]
        symm
        apply List.filter_eq_self.mpr
        intro c hc
        apply List.all_eq_true.mpr
        intro l hl
        obtain ⟨g, hg, rfl⟩ := List.mem_map.mp hl
        rw [hsame g hg]
        exact List.contains_iff_mem.mpr hc
      | false =>
        simp only [Bool.false_eq_true, if_false, List.flatten_cons, List.foldl_append]
        rw [foldl_union_of_new (labels f) [] (hn f List.mem_cons_self) (fun _ _ h => nomatch h), List.nil_append]
        refine (foldl_union_of_mem (fs.map labels).flatten (labels f) (fun c hc => ?_)).symm
        obtain ⟨l, hl, hcl⟩ := List.mem_flatten.mp hc
        obtain ⟨g, hg, rfl⟩ := List.mem_map.mp hl
        rw [← hsame g hg]
        exact hcl
    · rw [if_neg hid]
      cases inner with
      | true =>
        simp only [if_true, interCols, labels_map_relabel]
        rw [labels_filter f (fun c => fs.all (fun g => (labels g).contains c))]
        apply List.filter_congr
        intro c _
        simp only [List.all_map, Function.comp_def]
      | false =>
        simp only [Bool.false_eq_true, if_false, unionCols]
        simp only [labels, List.map_map, Function.comp_def, List.map_id', unionNames, List.map_cons]

theorem labels_rowCols_nodup (inner : Bool) : ∀ (Cs : List (List Col)), (∀ C, C ∈ Cs → (labels C).Nodup) →
    (labels (rowCols inner Cs)).Nodup
  | [], _ => List.nodup_nil
  | f :: fs, hn => by
    simp only [rowCols]
    by_cases hid : fs.all (fun g => labels g == labels f) = true
    · rw [if_pos hid, labels_map_relabel]; exact hn f List.mem_cons_self
    · rw [if_neg hid]
      cases inner with
      | true =>
        simp only [if_true, interCols, labels_map_relabel]
        rw [labels_filter f (fun c => fs.all (fun g => (labels g).contains c))]
        exact List.Nodup.sublist List.filter_sublist (hn f List.mem_cons_self)
      | false =>
        simp only [Bool.false_eq_true, if_false, unionCols]
        simp only [labels, List.map_map, Function.comp_def, List.map_id']
        exact nodup_foldl_union _ [] List.nodup_nil

theorem declT_concat_rows (inner : Bool) (rt : Rt) {ts : List Tree} {Cs : List (List Col)} {Is : List (List Lvl)}
    (hA : AllFrames ts Cs Is) (hne : Cs ≠ []) (hcols : ∀ C, C ∈ Cs → C ≠ []) :
    declT (.concat false inner rt ts) = .frame (rowCols inner Cs) (commonIdx Is) := by
  simp only [declT, (allFrames_declTs hA).1]
  exact declConcat_rows inner Cs Is (allFrames_length hA) hne hcols

theorem push_concat_rows (deps : List Dep) (pop : UOp) (prt rt : Rt) (inner : Bool) (ts : List Tree) (t' : Tree) (p : Parent)
    (hp : parentOf pop = some p) (Cs : List (List Col)) (Is : List (List Lvl)) (hA : AllFrames ts Cs Is)
    (hcols : ∀ C, C ∈ Cs → C ≠ []) (hnd : ∀ C, C ∈ Cs → (labels C).Nodup)
    (h : pushdown deps (.un pop prt (.concat false inner rt ts)) = some t') :
    declT t' = declT (.un pop prt (.concat false inner rt ts)) := by
  simp only [pushdown, hp, (allFrames_declTs hA).2] at h
  cases hc : Dx.Cols.concat false inner (Cs.map labels) p deps with
  | none => rw [hc] at h; cases h
  | some w =>
    rw [hc] at h
    simp only [Option.map_some, Option.some.injEq] at h
    subst h
    obtain ⟨hch, hdr⟩ := Dx.Cols.concat_spec hc
    have hne : Cs ≠ [] := by
      intro h0
      subst h0
      simp [Dx.Cols.concat] at hc
    obtain ⟨Cs', hA', hP, hL⟩ := concat_inputs_pruned p deps _ rfl hA
    rw [← hch, ← hdr] at hA'
    have hcols' : ∀ C, C ∈ Cs' → C ≠ [] := prunedAll_forall hP (fun _ _ h => h.nonempty) hcols
    have hnd' : ∀ C, C ∈ Cs' → (labels C).Nodup := prunedAll_forall hP (fun _ _ h => h.nodup) hnd
    have hne' : Cs' ≠ [] := by
      intro h0
      subst h0
      cases hP
      exact hne rfl
    have hnew := declT_concat_rows inner rt hA' hne' hcols'
    rw [declT_un, declT_concat_rows inner rt hA hne hcols]
    by_cases hk : w.keep = true
    · simp only [hk, if_true, declT_un]
      rw [hnew]
      exact proj_congr hp _ _ _ (fun y hy => rowCols_pruned inner hP hy)
    · have hk' : w.keep = false := by simpa using hk
      simp only [hk', Bool.false_eq_true, if_false]
      rw [hnew]
      -- the parent is dropped: the new Concat has exactly the requested columns
      have hlab0 := Dx.Cols.concat_nokeep hc hk'
      have hfilt : (Cs.map labels).filter (fun f => !Dx.Cols.concatDropped false (Dx.Cols.detProj p deps []).toList f) = Cs.map labels :=
        List.filter_eq_self.mpr (fun _ _ => rfl)
      -- every pruned input still has a column: the labels the new Concat declares are its labels
      rw [Dx.Cols.concatLabels_of_nonempty false inner, hfilt, ← hL] at hlab0
      · rcases parentOf_cases hp with ⟨P, rfl, rfl⟩ | ⟨c, rfl, rfl⟩
        · -- … so it is its own projection onto them, and the parent cannot tell it from the whole Concat
          have hself := pGetCols_self (rowCols inner Cs') [] (commonIdx Is) (labels_rowCols_nodup inner Cs' hnd')
          rw [List.append_nil, labels_rowCols inner Cs' hnd', hlab0.1] at hself
          exact hself.symm.trans (proj_congr (pop := .getCols P) rfl _ _ _ (fun y hy => rowCols_pruned inner hP hy))
        · exact absurd hlab0.2 Bool.noConfusion
      · intro f hf
        rw [hfilt, ← hL] at hf
        obtain ⟨C', hC', rfl⟩ := List.mem_map.mp hf
        exact fun h0 => hcols' C' hC' (List.map_eq_nil_iff.mp h0)

end Dx.Meta

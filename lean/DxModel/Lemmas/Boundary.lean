/-
  Lemmas/Boundary.lean — the boundary constructs of Layers/Boundary.lean (C17).  `mergeLayers` is read key by key
  (a key is what the last layer defining it says); in the graph of `from_delayed` only a key popped from *every*
  Delayed's layer is missing, and the keys `Below` it evaluate as in the original graph (`run_graph_orig`);
  `run_stack_congr`: one query stacked on two collections with equal partition values.
-/
import DxModel.Layers.Boundary
import DxModel.Lemmas.ListBasics
namespace Dx
namespace Boundary

/-! ### cull -/

theorem cull_some {κ} (G : Graph κ) (keep : κ → Bool) (k : κ) (t : Tsk κ) (h : cull G keep k = some t) :
    G k = some t := by
  simp only [cull] at h
  split at h
  · exact h
  · cases h

theorem ranked_cull {κ} (G : Graph κ) (keep : κ → Bool) (rank : κ → Nat) (hr : Ranked G rank) :
    Ranked (cull G keep) rank := by
  intro k t hk d hd hdef
  have hk' := cull_some G keep k t hk
  apply hr k t hk' d hd
  cases hc : cull G keep d with
  | none => simp [hc] at hdef
  | some td => simp [cull_some G keep d td hc]

/-! ### toolz.merge -/

section merge
variable {κ : Type} (ls : List (Graph κ)) (k : κ) (v : Option (Tsk κ))

theorem mergeLayers_none_iff :
    mergeLayers ls k = none ↔ ∀ l ∈ ls, l k = none := by
  induction ls with
  | nil => simp [mergeLayers]
  | cons l ls ih =>
    simp only [mergeLayers, List.mem_cons, forall_eq_or_imp]
    cases hm : mergeLayers ls k with
    | some t =>
      simp only [reduceCtorEq, false_iff, not_and]
      intro _ hall
      rw [ih.mpr hall] at hm
      cases hm
    | none =>
      simp only
      exact ⟨fun h => ⟨h, ih.mp hm⟩, fun h => h.1⟩

theorem mergeLayers_weak (hall : ∀ l ∈ ls, l k = v ∨ l k = none) : mergeLayers ls k = v ∨ mergeLayers ls k = none := by
  induction ls with
  | nil => right; rfl
  | cons l ls ih =>
    have ih' := ih (fun l' hl' => hall l' (List.mem_cons_of_mem _ hl'))
    simp only [mergeLayers]
    cases hm : mergeLayers ls k with
    | some t =>
      rcases ih' with h | h
      · left; rw [← h, hm]
      · rw [hm] at h; cases h
    | none =>
      simp only
      exact hall l (List.mem_cons_self)

theorem mergeLayers_eq (hall : ∀ l ∈ ls, l k = v ∨ l k = none) (hex : v = none ∨ ∃ l ∈ ls, l k = v) :
    mergeLayers ls k = v := by
  rcases mergeLayers_weak ls k v hall with h | h
  · exact h
  · have hn := (mergeLayers_none_iff ls k).mp h
    rcases hex with hv | ⟨l, hl, hlv⟩
    · rw [h, hv]
    · rw [h, ← hlv, hn l hl]

theorem mergeLayers_cons_none (l : Graph κ) (ls : List (Graph κ)) (k : κ) (h : l k = none) :
    mergeLayers (l :: ls) k = mergeLayers ls k := by
  simp only [mergeLayers, h]
  cases mergeLayers ls k <;> rfl

end merge

/-! ### the walk below the root -/

theorem walkDeps_subset {κ} [DecidableEq κ] :
    ∀ (l : List (Delayed κ)) (seen : List κ), ∀ d ∈ walkDeps l seen, d ∈ l := by
  intro l
  induction l with
  | nil => intro seen d hd; simp [walkDeps] at hd
  | cons a t ih =>
    intro seen d hd
    simp only [walkDeps] at hd
    split at hd
    · exact List.mem_cons_of_mem _ (ih seen d hd)
    · rcases List.mem_cons.mp hd with h | h
      · rw [h]; exact List.mem_cons_self
      · exact List.mem_cons_of_mem _ (ih _ d h)

theorem walkDeps_cover {κ} [DecidableEq κ] :
    ∀ (l : List (Delayed κ)) (seen : List κ), ∀ d ∈ l,
      seen.contains d.key = true ∨ ∃ d' ∈ walkDeps l seen, d'.key = d.key := by
  intro l
  induction l with
  | nil => intro seen d hd; cases hd
  | cons a t ih =>
    intro seen d hd
    rw [walkDeps]
    split
    · next hs =>
      rcases List.mem_cons.mp hd with rfl | h
      · exact Or.inl hs
      · exact ih seen d h
    · rcases List.mem_cons.mp hd with rfl | h
      · exact Or.inr ⟨_, List.mem_cons_self, rfl⟩
      · rcases ih (a.key :: seen) d h with h' | ⟨d', hd', hk⟩
        · rcases List.mem_cons.mp (List.contains_iff_mem.mp h') with he | he
          · exact Or.inr ⟨a, List.mem_cons_self, he.symm⟩
          · exact Or.inl (List.contains_iff_mem.mpr he)
        · exact Or.inr ⟨d', List.mem_cons_of_mem _ hd', hk⟩

/-! ### look-ups in the graph of a FromDelayed expression whose Delayeds share one graph `G`
    (what `to_delayed` produces) -/

section lookups
variable {κ : Type} [DecidableEq κ] (e : FromDelayed κ) (G : Graph κ) (hG : ∀ d ∈ e.dfs, d.graph = G)
include hG

theorem depLayers_mem (l : Graph (BKey κ)) (hl : l ∈ (walkDeps e.dfs.reverse []).map delayedExprLayer) :
    ∃ d ∈ e.dfs, d.graph = G ∧ l = delayedExprLayer d := by
  obtain ⟨d, hd, rfl⟩ := List.mem_map.mp hl
  have hd' : d ∈ e.dfs := by simpa using walkDeps_subset _ _ d hd
  exact ⟨d, hd', hG d hd', rfl⟩

theorem graph_out (i : Nat) : e.graph (.out i) = e.ownLayer (.out i) := by
  have hn : mergeLayers ((walkDeps e.dfs.reverse []).map delayedExprLayer) (.out i) = none := by
    rw [mergeLayers_none_iff]
    intro l hl
    obtain ⟨d, _, _, rfl⟩ := depLayers_mem e G hG l hl
    rfl
  simp only [FromDelayed.graph, mergeLayers, hn]

/-- a key some layer of the walk defines as `v`, all others as `v` or not at all, is `v` in the merged graph -/
theorem graph_dep_eq (x : BKey κ) (hx : e.ownLayer x = none) (v : Option (Tsk (BKey κ)))
    (hall : ∀ d ∈ e.dfs, delayedExprLayer d x = v ∨ delayedExprLayer d x = none)
    (d : Delayed κ) (hd : d ∈ e.dfs) (hv : ∀ d' ∈ e.dfs, d'.key = d.key → delayedExprLayer d' x = v) :
    e.graph x = v := by
  rw [FromDelayed.graph, mergeLayers_cons_none _ _ _ hx]
  refine mergeLayers_eq _ _ _ (fun l hl => ?_) (Or.inr ?_)
  · obtain ⟨d', hd', _, rfl⟩ := depLayers_mem e G hG l hl
    exact hall d' hd'
  · rcases walkDeps_cover e.dfs.reverse [] d (List.mem_reverse.mpr hd) with h | ⟨d', hd', hk⟩
    · cases h
    · exact ⟨_, List.mem_map.mpr ⟨d', hd', rfl⟩,
        hv d' (List.mem_reverse.mp (walkDeps_subset _ _ d' hd')) hk⟩

theorem graph_wrap (d : Delayed κ) (hd : d ∈ e.dfs) :
    e.graph (.wrap d.key) = (G d.key).map (fun t => t.mapKeys BKey.orig) := by
  refine graph_dep_eq e G hG _ rfl _ (fun d' hd' => ?_) d hd (fun d' hd' hk => ?_)
  · by_cases hk : d.key = d'.key
    · left; simp only [delayedExprLayer, hk, if_true, hG d' hd']
    · right; simp only [delayedExprLayer, hk, if_false]
  · simp only [delayedExprLayer, hk, if_true, hG d' hd']

theorem orig_layer (k : κ) (d' : Delayed κ) (hd' : d' ∈ e.dfs) :
    delayedExprLayer d' (.orig k) = (if k = d'.key then none else (G k).map (fun t => t.mapKeys BKey.orig)) := by
  rw [delayedExprLayer, hG d' hd']

theorem orig_layer_or (k : κ) (d' : Delayed κ) (hd' : d' ∈ e.dfs) :
    delayedExprLayer d' (.orig k) = (G k).map (fun t => t.mapKeys BKey.orig) ∨
      delayedExprLayer d' (.orig k) = none := by
  rw [orig_layer e G hG k d' hd']
  by_cases hk : k = d'.key
  · right; exact if_pos hk
  · left; exact if_neg hk

theorem graph_orig_weak (k : κ) :
    e.graph (.orig k) = (G k).map (fun t => t.mapKeys BKey.orig) ∨ e.graph (.orig k) = none := by
  rw [FromDelayed.graph, mergeLayers_cons_none _ _ _ (by rfl)]
  refine mergeLayers_weak _ _ _ fun l hl => ?_
  obtain ⟨d', hd', _, rfl⟩ := depLayers_mem e G hG l hl
  exact orig_layer_or e G hG k d' hd'

theorem graph_orig (k : κ) (hex : ∃ d ∈ e.dfs, d.key ≠ k) :
    e.graph (.orig k) = (G k).map (fun t => t.mapKeys BKey.orig) := by
  obtain ⟨d, hd, hne⟩ := hex
  refine graph_dep_eq e G hG _ rfl _ (orig_layer_or e G hG k) d hd (fun d' hd' hk => ?_)
  rw [orig_layer e G hG k d' hd']
  exact if_neg fun h => hne (hk.symm.trans h.symm)

/-- `k` lies strictly below every key that `_DelayedExpr._layer` popped from *all* layers.  Each layer pops its own
    Delayed's key only and every other layer defines that key again (`graph_orig`), so a key is missing from the
    merge only when all Delayeds have the same key. -/
def Below (rank : κ → Nat) (k : κ) : Prop := ∀ c, (∀ d ∈ e.dfs, d.key = c) → rank k < rank c

omit hG in
theorem below_exists (rank : κ → Nat) (k : κ) (h : Below e rank k) : ∃ d ∈ e.dfs, d.key ≠ k := by
  by_cases hex : ∃ d ∈ e.dfs, d.key ≠ k
  · exact hex
  · exact absurd (h k fun d hd => Decidable.byContradiction fun hne => hex ⟨d, hd, hne⟩) (Nat.lt_irrefl _)

/-- every original key that is not popped evaluates in the re-imported graph as in the original graph -/
theorem run_graph_orig (I : Interp) (rank : κ → Nat) (hr : Ranked G rank) (inp : κ → Option V) :
    ∀ n k, (G k = none ∨ Below e rank k) →
      run I e.graph (liftB inp) n (.orig k) = run I G inp n k := by
  refine run_mapKeys I BKey.orig G e.graph inp (liftB inp) (fun k => G k = none ∨ Below e rank k) ?_
    (fun _ _ _ => rfl) ?_
  · intro k hk
    rcases hk with hk | hk
    · rcases graph_orig_weak e G hG k with h | h
      · exact h
      · rw [h, hk]; rfl
    · exact graph_orig e G hG k (below_exists e rank k hk)
  · -- a reference of a key below all popped keys is undefined or again below them
    intro k t hk hg r hrm
    cases hgr : G r with
    | none => exact Or.inl rfl
    | some tr =>
      have hb : Below e rank k := hk.resolve_left (by rw [hg]; exact Option.some_ne_none t)
      exact Or.inr fun c hc => Nat.lt_trans (hr k t hg r hrm (by rw [hgr]; rfl)) (hb c hc)

/-- **value of an output partition of `FromDelayed`** -/
theorem run_fromDelayed_out (I : Interp) (rank : κ → Nat) (hr : Ranked G rank) (inp : κ → Option V)
    (i p : Nat) (d : Delayed κ) (hi : e.sel[i]? = some p) (hp : e.dfs[p]? = some d) (hdef : (G d.key).isSome)
    (n : Nat) :
    run I e.graph (liftB inp) (n+2) (.out i) = I (wrapCode e.verifyMeta) [run I G inp (n+1) d.key] := by
  have hd : d ∈ e.dfs := List.mem_of_getElem? hp
  obtain ⟨t, hg⟩ := Option.isSome_iff_exists.mp hdef
  have ho : e.graph (.out i) = some (.apply (wrapCode e.verifyMeta) [.wrap d.key]) := by
    rw [graph_out e G hG i]; simp only [FromDelayed.ownLayer, hi, hp]
  have hw : e.graph (.wrap d.key) = some (t.mapKeys BKey.orig) := by
    rw [graph_wrap e G hG d hd, hg]; rfl
  rw [run_defined I _ _ (n+1) _ _ ho]
  show I _ [run I e.graph (liftB inp) (n+1) (.wrap d.key)] = _
  rw [run_defined I _ _ n _ _ hw, run_defined I _ _ n _ _ hg, evalTsk_mapKeys]
  refine congrArg (fun v => I _ [v]) (evalTsk_congr I _ _ t fun r hrm => ?_)
  -- a reference of the Delayed's own task lies below its key, the only key that can be popped everywhere
  refine run_graph_orig e G hG I rank hr inp n r ?_
  cases hgr : G r with
  | none => exact Or.inl rfl
  | some tr => exact Or.inr fun c hc => hc d hd ▸ hr d.key t hg r hrm (by rw [hgr]; rfl)

end lookups

/-! ### what `from_delayed ∘ to_delayed` builds -/

section roundtrip
variable {κ : Type} (G : Graph κ) (out : Nat → κ) (n : Nat) (og : Bool) (keep : κ → Bool)

theorem toDelayed_length :
    (toDelayed G out n og keep).length = n := by simp [toDelayed]

theorem toDelayed_get (i : Nat) (hi : i < n) :
    (toDelayed G out n og keep)[i]? = some { key := out i, graph := if og then cull G keep else G } := by
  simp [toDelayed, hi]

theorem toDelayed_graph :
    ∀ d ∈ toDelayed G out n og keep, d.graph = (if og then cull G keep else G) := by
  intro d hd
  simp only [toDelayed, List.mem_map] at hd
  obtain ⟨i, _, rfl⟩ := hd
  rfl

variable (dfs : List (Delayed κ)) (a : DivArg) (verify : Bool) (e : FromDelayed κ)
  (h : fromDelayed dfs a verify = .ok e)
include h

/-- the successful outcomes of `from_delayed` -/
theorem fromDelayed_ok :
    dfs.length ≠ 0 ∧ e.dfs = dfs ∧ e.verifyMeta = verify ∧ e.partitions = none ∧
    ((a = .none ∧ e.userDivisions = none) ∨ (∃ d, a = .given d ∧ d.length = dfs.length + 1 ∧ e.userDivisions = some d)) := by
  unfold fromDelayed at h
  split at h
  · cases h
  · next hne =>
    cases a with
    | sorted => cases h
    | none => cases h; exact ⟨hne, rfl, rfl, rfl, Or.inl ⟨rfl, rfl⟩⟩
    | given d =>
      dsimp only at h
      split at h
      · cases h
      · next hl => cases h; exact ⟨hne, rfl, rfl, rfl, Or.inr ⟨d, rfl, Decidable.not_not.mp hl, rfl⟩⟩

theorem fromDelayed_fullDivisions_length : e.fullDivisions.length = dfs.length + 1 := by
  obtain ⟨_, h1, _, _, h5⟩ := fromDelayed_ok dfs a verify e h
  rcases h5 with ⟨_, hu⟩ | ⟨d, _, hl, hu⟩
  · simp [FromDelayed.fullDivisions, hu, unknownDivs, h1]
  · simp [FromDelayed.fullDivisions, hu, hl]

theorem fromDelayed_sel : e.sel = List.range dfs.length := by
  obtain ⟨_, _, _, h4, _⟩ := fromDelayed_ok dfs a verify e h
  simp [FromDelayed.sel, h4, fromDelayed_fullDivisions_length dfs a verify e h]

end roundtrip

/-! ### FromGraph -/

/-- with one listed key per partition, every key `__dask_keys__` reports is defined (as an alias) -/
theorem FromGraph.daskKeys_defined {κ} (e : FromGraph κ) (h : e.keys.length = e.npartitions) :
    ∀ k ∈ e.daskKeys, (e.graph k).isSome := by
  intro k hk
  obtain ⟨i, hi, rfl⟩ := List.mem_map.mp hk
  have hi' : i < e.keys.length := h ▸ List.mem_range.mp hi
  rw [FromGraph.graph, fromGraphLayer, List.getElem?_eq_getElem hi']
  rfl

/-! ### persist -/

theorem litOf_const {κ} (v : V) (t : Tsk κ) (h : litOf v = some t) : ∃ rows, v = .frame rows ∧ t = .const rows := by
  cases v <;> simp [litOf] at h
  exact ⟨_, rfl, h.symm⟩

section persist
variable {κ : Type} [DecidableEq κ] (out : Nat → κ) (n : Nat) (res : Nat → V)

theorem persistedLayer_out (i : Nat) (hi : i < n) :
    ∃ j, j < n ∧ out j = out i ∧ persistedLayer out n res (out i) = litOf (res j) := by
  simp only [persistedLayer]
  cases hf : (List.range n).reverse.find? (fun j => out j == out i) with
  | none =>
    have := List.find?_eq_none.mp hf i (by simpa using hi)
    simp at this
  | some j =>
    have hp := List.find?_some hf
    have hm := List.mem_of_find?_eq_some hf
    exact ⟨j, by simpa using hm, by simpa using hp, rfl⟩

theorem persistedLayer_literal (k : κ) (t : Tsk κ)
    (h : persistedLayer out n res k = some t) : ∃ rows, t = .const rows := by
  simp only [persistedLayer] at h
  split at h
  · obtain ⟨rows, _, ht⟩ := litOf_const _ _ h
    exact ⟨rows, ht⟩
  · cases h

theorem persistedLayer_foreign (k : κ)
    (h : ∀ i, i < n → out i ≠ k) : persistedLayer out n res k = none := by
  simp only [persistedLayer]
  have : (List.range n).reverse.find? (fun i => out i == k) = none := by
    apply List.find?_eq_none.mpr
    intro j hj
    have hj' : j < n := by simpa using hj
    simpa using h j hj'
  rw [this]

/-- with results that depend on the key only (`dict(zip(keys, results))` of a real run), the entry of an
    output key is its own result -/
theorem persistedLayer_out_eq
    (hres : ∀ i j, out i = out j → res i = res j) (i : Nat) (hi : i < n) :
    persistedLayer out n res (out i) = litOf (res i) := by
  obtain ⟨j, _, hoj, hpl⟩ := persistedLayer_out out n res i hi
  rw [hpl, hres j i hoj]

end persist

/-! ### stacks -/

section stacks
variable {lam υ : Type} (I : Interp) (L : Graph lam) (o : Nat → lam) (U : Graph (υ ⊕ Nat))

theorem stack_eq_gunion :
    stack L o U = gunion (stackLower L) (stackUpper o U) := by
  funext k
  cases k with
  | inl k => simp [stack, gunion, stackLower, stackUpper]
  | inr u =>
    simp only [stack, gunion, stackLower, stackUpper]
    cases U (.inl u) <;> rfl

theorem stack_cutOK :
    CutOK (stackLower (υ := υ) L) (stackUpper o U) := by
  refine ⟨?_, ?_⟩
  · intro k hk
    cases k with
    | inl k => rfl
    | inr u => simp [stackLower] at hk
  · intro k t hk d hd
    cases k with
    | inr u => simp [stackLower] at hk
    | inl k =>
      simp only [stackLower] at hk
      cases hL : L k with
      | none => simp [hL] at hk
      | some t0 =>
        simp only [hL, Option.map_some, Option.some.injEq] at hk
        subst hk
        rw [Tsk.refs_mapKeys] at hd
        obtain ⟨r, _, rfl⟩ := List.mem_map.mp hd
        rfl

/-- the collection's own layer evaluates inside a stack as it does alone -/
theorem run_stack_lower (inp : lam → Option V) (n : Nat) (k : lam) :
    run I (stack L o U) (stackInp inp) n (.inl k) = run I L inp n k :=
  run_mapKeys I Sum.inl L (stack L o U) inp (stackInp inp) (fun _ => True) (fun _ _ => rfl)
    (fun _ _ _ => rfl) (fun _ _ _ _ _ _ => trivial) n k trivial

theorem run_stack_undefined (inp : lam → Option V) (u : υ) (h : U (.inl u) = none) (n : Nat) :
    run I (stack L o U) (stackInp inp) n (.inr u) = .err := by
  rw [run_undefined I _ _ _ (show stack L o U (.inr u) = none by rw [stack, h]; rfl)]; rfl

end stacks

/-- **One query on two collections.** If partition `i` of the first (evaluated with `a` more units of fuel) and
    partition `i` of the second (with `b` more) have the same value for every `i` the query reads, every key of
    the query has the same value on both. -/
theorem run_stack_congr {lam₁ lam₂ υ} (I : Interp) (L₁ : Graph lam₁) (L₂ : Graph lam₂) (o₁ : Nat → lam₁)
    (o₂ : Nat → lam₂) (inp₁ : lam₁ → Option V) (inp₂ : lam₂ → Option V) (U : Graph (υ ⊕ Nat)) (urank : υ → Nat)
    (hU : ∀ u t, U (.inl u) = some t → ∀ u', Sum.inl u' ∈ t.refs → (U (.inl u')).isSome → urank u' < urank u)
    (n a b : Nat) (hdep : ∀ u t, U (.inl u) = some t → ∀ i, Sum.inr i ∈ t.refs → i < n)
    (hout : ∀ i, i < n → ∀ m, run I L₁ inp₁ (m + a) (o₁ i) = run I L₂ inp₂ (m + b) (o₂ i)) :
    ∀ m u, urank u < m →
      run I (stack L₁ o₁ U) (stackInp inp₁) (m + a) (.inr u)
        = run I (stack L₂ o₂ U) (stackInp inp₂) (m + b) (.inr u) := by
  intro m
  induction m with
  | zero => intro u hu; exact absurd hu (Nat.not_lt_zero _)
  | succ m ih =>
    intro u hu
    cases hUu : U (.inl u) with
    | none => rw [run_stack_undefined I L₁ o₁ U inp₁ u hUu, run_stack_undefined I L₂ o₂ U inp₂ u hUu]
    | some t =>
      rw [Nat.add_right_comm m 1 a, Nat.add_right_comm m 1 b,
        run_defined I _ _ _ _ (t.mapKeys (stackRef o₁)) (by rw [stack, hUu]; rfl),
        run_defined I _ _ _ _ (t.mapKeys (stackRef o₂)) (by rw [stack, hUu]; rfl),
        evalTsk_mapKeys, evalTsk_mapKeys]
      refine evalTsk_congr I _ _ t fun r hrm => ?_
      cases r with
      | inl u' =>
        cases hU' : U (.inl u') with
        | none =>
          exact (run_stack_undefined I L₁ o₁ U inp₁ u' hU' _).trans
            (run_stack_undefined I L₂ o₂ U inp₂ u' hU' _).symm
        | some t' =>
          exact ih u' (Nat.lt_of_lt_of_le (hU u t hUu u' hrm (by rw [hU']; rfl)) (Nat.le_of_lt_succ hu))
      | inr i =>
        exact (run_stack_lower I L₁ o₁ U inp₁ _ _).trans
          ((hout i (hdep u t hUu i hrm) m).trans (run_stack_lower I L₂ o₂ U inp₂ _ _).symm)

/-! ### check_meta -/

theorem equalDtypes_self (a : DType) : equalDtypes (some a) (some a) = true := by
  cases a with
  | num i => rfl
  | other i => simp [equalDtypes]
  | cat c => cases c <;> simp [equalDtypes]

end Boundary
end Dx

/-
  Lemmas/DriversSem.lean — what an expression computes (compositional denotation), the relation
  "may replace" between values, and what it means for a rule system to be sound.

  The relation is a *preorder* `le` that `sem` is monotone in (`Sem`).  Two instances matter:
    * a congruence `≈` (`Congruence`: refl/symm/trans + `sem` respects it) — results equal up to row
      order / index labels where the query leaves them unspecified;
    * the definedness refinement on `Option U` (`PSem.toSem`): `a ⊒ b` iff whenever `b` is defined,
      `a` is defined with an equivalent value — "an optimized query never fails where the
      unoptimized one succeeds".
-/
import DxModel.Drivers
namespace Dx

/-- pointwise relation of two lists of the same length (core has no `List.Forall₂`) -/
inductive Forall2 {α β : Type} (r : α → β → Prop) : List α → List β → Prop where
  | nil : Forall2 r [] []
  | cons {a b l l'} : r a b → Forall2 r l l' → Forall2 r (a :: l) (b :: l')

structure Sem (V : Type) where
  /-- meaning of a node from its class, its non-expression operands and its operands' meanings -/
  sem : Nat → Nat → List V → V
  /-- `le a b`: `a` is an acceptable replacement of `b` -/
  le : V → V → Prop
  refl : ∀ a, le a a
  trans : ∀ {a b c}, le a b → le b c → le a c
  mono : ∀ c l vs ws, Forall2 le vs ws → le (sem c l vs) (sem c l ws)

variable {V : Type}

mutual
def denote (S : Sem V) : Expr → V
  | .node c l as => S.sem c l (denoteList S as)
def denoteList (S : Sem V) : List Expr → List V
  | [] => []
  | a :: t => denote S a :: denoteList S t
end

theorem denoteList_eq_map (S : Sem V) : ∀ as, denoteList S as = as.map (denote S)
  | [] => rfl
  | a :: t => by simp [denoteList, denoteList_eq_map S t]

theorem ite_of {α : Type} {Q : α → Prop} {c : Prop} [Decidable c] {a b : α} (ha : Q a) (hb : Q b) :
    Q (if c then a else b) := by
  by_cases h : c
  · rw [if_pos h]; exact ha
  · rw [if_neg h]; exact hb

/-- `Ref S a b`: expression `a` may replace expression `b` -/
def Ref (S : Sem V) (a b : Expr) : Prop := S.le (denote S a) (denote S b)

theorem Ref.refl (S : Sem V) (a : Expr) : Ref S a a := S.refl _
theorem Ref.of_eq (S : Sem V) {a b : Expr} (h : denote S a = denote S b) : Ref S a b := by
  unfold Ref; rw [h]; exact S.refl _
theorem Ref.ite {S : Sem V} {c : Prop} [Decidable c] {a b e : Expr} (ha : Ref S a e) (hb : Ref S b e) :
    Ref S (if c then a else b) e :=
  ite_of (Q := fun x => Ref S x e) ha hb
theorem Ref.trans {S : Sem V} {a b c : Expr} (h1 : Ref S a b) (h2 : Ref S b c) : Ref S a c :=
  S.trans h1 h2

theorem denoteList_forall2 (S : Sem V) : ∀ {new old : List Expr}, Forall2 (Ref S) new old →
    Forall2 S.le (denoteList S new) (denoteList S old) := by
  intro new old h
  induction h with
  | nil => exact .nil
  | cons h _ ih => exact .cons h ih

/-- rebuilding a node from replaced operands: `type(expr)(*new_operands)` -/
theorem Ref.rebuild (S : Sem V) (c l : Nat) {new old : List Expr} (h : Forall2 (Ref S) new old) :
    Ref S (.node c l new) (.node c l old) := by
  unfold Ref
  simp only [denote]
  exact S.mono c l _ _ (denoteList_forall2 S h)

theorem Ref.rebuild' (S : Sem V) (e : Expr) {new : List Expr} (h : Forall2 (Ref S) new e.args) :
    Ref S (.node e.cls e.lit new) e := by
  cases e with
  | node c l as => exact Ref.rebuild S c l h

theorem forall2_map_ref (S : Sem V) (f : Expr → Expr) : ∀ as : List Expr, (∀ a, Ref S (f a) a) →
    Forall2 (Ref S) (as.map f) as
  | [], _ => .nil
  | a :: t, h => .cons (h a) (forall2_map_ref S f t h)

theorem forall2_refl (S : Sem V) : ∀ as : List Expr, Forall2 (Ref S) as as
  | [] => .nil
  | a :: t => .cons (Ref.refl S a) (forall2_refl S t)

theorem forall2_splice (S : Sem V) {a b : Expr} (h : Ref S a b) (post : List Expr) :
    ∀ pre : List Expr, Forall2 (Ref S) (pre ++ a :: post) (pre ++ b :: post)
  | [] => .cons h (forall2_refl S post)
  | x :: t => .cons (Ref.refl S x) (forall2_splice S h post t)

/-- Every rule output may replace the expression the driver replaces by it: for `down`, `tuneDown`,
    `lower` the node itself, for `up`/`tuneUp` the *parent*.  `up` is sound for every dependents map
    that satisfies the side condition `P child parent deps`. -/
structure RulesSoundUnder (S : Sem V) (R : Rules) (P : Expr → Expr → Deps → Prop) : Prop where
  down_ok : ∀ e o, R.down e = some o → Ref S o e
  up_ok : ∀ c p d o, P c p d → R.up c p d = some o → Ref S o p
  tuneDown_ok : ∀ e o, R.tuneDown e = some o → Ref S o e
  tuneUp_ok : ∀ c p o, R.tuneUp c p = some o → Ref S o p
  lower_ok : ∀ e o, R.lower e = some o → Ref S o e
  fuse_ok : ∀ e, Ref S (R.fuse e) e

/-- soundness for an ARBITRARY dependents map (stale, incomplete, thinned by dead weak references) -/
def RulesSound (S : Sem V) (R : Rules) : Prop := RulesSoundUnder S R (fun _ _ _ => True)

/-- `simplified` only ever maps an expression to something that may replace it -/
def CacheSound (S : Sem V) (c : Cache) : Prop := ∀ k v, (k, v) ∈ c → Ref S v k

/-- every recorded `_simplify_up` firing saw a dependents map satisfying the side condition -/
def TraceGood (P : Expr → Expr → Deps → Prop) (tr : List Firing) : Prop :=
  ∀ f, f ∈ tr → P f.child f.parent f.deps

theorem TraceGood.trivial (tr : List Firing) : TraceGood (fun _ _ _ => True) tr := fun _ _ => True.intro

/-! ### congruences -/

/-- an equivalence on values that every operator respects -/
structure Congruence (V : Type) where
  sem : Nat → Nat → List V → V
  r : V → V → Prop
  refl : ∀ a, r a a
  symm : ∀ {a b}, r a b → r b a
  trans : ∀ {a b c}, r a b → r b c → r a c
  congr : ∀ c l vs ws, Forall2 r vs ws → r (sem c l vs) (sem c l ws)

def Congruence.toSem (C : Congruence V) : Sem V :=
  { sem := C.sem, le := C.r, refl := C.refl, trans := C.trans, mono := C.congr }

/-- equality is a congruence for every interpretation -/
def Congruence.ofEq (sem : Nat → Nat → List V → V) : Congruence V where
  sem := sem
  r := Eq
  refl := fun _ => rfl
  symm := Eq.symm
  trans := Eq.trans
  congr := by
    intro c l vs ws h
    have : vs = ws := by
      induction h with
      | nil => rfl
      | cons h _ ih => rw [h, ih]
    rw [this]

/-! ### partial semantics -/

/-- operators may fail (`none`); `eqv` is an equivalence on defined values that the operators respect
    wherever they are defined -/
structure PSem (U : Type) where
  psem : Nat → Nat → List U → Option U
  eqv : U → U → Prop
  refl : ∀ a, eqv a a
  symm : ∀ {a b}, eqv a b → eqv b a
  trans : ∀ {a b c}, eqv a b → eqv b c → eqv a c
  congr : ∀ c l vs ws v, Forall2 eqv vs ws → psem c l ws = some v →
            ∃ v', psem c l vs = some v' ∧ eqv v' v

variable {U : Type}

/-- all operands defined -/
def allSome : List (Option U) → Option (List U)
  | [] => some []
  | none :: _ => none
  | some a :: t => match allSome t with
    | some r => some (a :: r)
    | none => none

/-- `a ⊒ b`: whenever `b` is defined, `a` is defined with an equivalent value -/
def PSem.le (P : PSem U) (a b : Option U) : Prop := ∀ v, b = some v → ∃ v', a = some v' ∧ P.eqv v' v

/-- strict lifting: a node fails when an operand fails -/
def PSem.lift (P : PSem U) (c l : Nat) (ovs : List (Option U)) : Option U :=
  match allSome ovs with
  | some vs => P.psem c l vs
  | none => none

theorem allSome_cons_eq_some {o : Option U} {t : List (Option U)} {ws : List U} (h : allSome (o :: t) = some ws) :
    ∃ b r, o = some b ∧ allSome t = some r ∧ ws = b :: r := by
  cases o with
  | none => cases h
  | some b =>
    cases hr : allSome t with
    | none => rw [allSome, hr] at h; cases h
    | some r => rw [allSome, hr] at h; exact ⟨b, r, rfl, rfl, (Option.some.inj h).symm⟩

theorem allSome_le (P : PSem U) : ∀ {ovs ows : List (Option U)}, Forall2 P.le ovs ows →
    ∀ ws, allSome ows = some ws → ∃ vs, allSome ovs = some vs ∧ Forall2 P.eqv vs ws := by
  intro ovs ows h
  induction h with
  | nil =>
    intro ws h
    cases h
    exact ⟨[], rfl, .nil⟩
  | cons hab _ ih =>
    intro ws h
    obtain ⟨b, r, rfl, hr, rfl⟩ := allSome_cons_eq_some h
    obtain ⟨a, rfl, hav⟩ := hab b rfl
    obtain ⟨vs, hvs, hf⟩ := ih r hr
    exact ⟨a :: vs, by rw [allSome, hvs], .cons hav hf⟩

def PSem.toSem (P : PSem U) : Sem (Option U) where
  sem := P.lift
  le := P.le
  refl := fun a v h => ⟨v, h, P.refl v⟩
  trans := by
    intro a b c hab hbc v hv
    obtain ⟨v', hv', e1⟩ := hbc v hv
    obtain ⟨v'', hv'', e2⟩ := hab v' hv'
    exact ⟨v'', hv'', P.trans e2 e1⟩
  mono := by
    intro c l ovs ows h v hv
    unfold PSem.lift at hv ⊢
    cases hw : allSome ows with
    | none => rw [hw] at hv; cases hv
    | some ws =>
      rw [hw] at hv
      obtain ⟨vs, hvs, hf⟩ := allSome_le P h ws hw
      rw [hvs]
      exact P.congr c l vs ws v hf hv

/-- denotation of a query that may fail -/
def denoteP (P : PSem U) (e : Expr) : Option U := denote P.toSem e

theorem denoteP_bind (P : PSem U) (c l : Nat) (as : List Expr) :
    denoteP P (.node c l as) = (allSome (as.map (denoteP P))).bind (P.psem c l) := by
  unfold denoteP
  simp only [denote, denoteList_eq_map]
  show P.lift c l _ = _
  unfold PSem.lift
  cases allSome (as.map (denote P.toSem)) <;> rfl

end Dx

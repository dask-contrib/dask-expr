/-
  Lemmas/TreeReduce.lean — the level loop of `TreeReduce._layer`, followed one iteration at a time:
  `graphLoop_le` / `graphLoop_node` / `graphLoop_step` say what an iteration does to a key, and every
  result about the loop (value, agreement with the emitted dict, independence of the iteration bound
  for split_every ≥ 2, Closed / Ranked) is an induction on the bound over these three, with
  `graphLoop_some` / `graphLoop_none` listing which keys an iteration defines.
-/
import DxModel.Lemmas.LayerRun
import DxModel.Layers.TreeReduce
namespace Dx
open Tree

theorem nchunks_one (m : Nat) : nchunks 1 m = m := Nat.div_one m

/-- `m + k - 1 < m + k ≤ m * 2 ≤ m * k` -/
theorem nchunks_lt (k m : Nat) (hk : 2 ≤ k) (hm : k < m) : nchunks k m < m :=
  have hpos : 0 < k := Nat.lt_of_lt_of_le Nat.zero_lt_two hk
  (Nat.div_lt_iff_lt_mul hpos).mpr
    (Nat.lt_of_lt_of_le (Nat.sub_lt (Nat.add_pos_right m hpos) Nat.one_pos)
      (Nat.le_trans (Nat.add_le_add_left (Nat.le_of_lt hm) m) (Nat.mul_two m ▸ Nat.mul_le_mul_left m hk)))

/-- with `k ≥ 2` a level longer than `k` is followed by a strictly shorter one, so a bound that
    suffices for the level suffices, less one, for the next -/
theorem nchunks_le_bound {k m f : Nat} (hk : 2 ≤ k) (hlt : m > k) (h : m ≤ f + 1 + k) : nchunks k m ≤ f + k :=
  Nat.le_of_lt_succ
    (Nat.lt_of_lt_of_le (nchunks_lt k m hk hlt) (Nat.le_trans h (Nat.le_of_eq (Nat.add_right_comm f 1 k))))

theorem length_chunks {α} (k : Nat) (xs : List α) : (chunks k xs).length = nchunks k xs.length := by
  rw [chunks, List.length_map, List.length_range]

theorem chunks_flatten {α} (k : Nat) (l : List α) (hk : 1 ≤ k) : (chunks k l).flatten = l := by
  unfold chunks
  rw [List.flatten_eq_flatMap, List.flatMap_map]
  simp only [id_eq]
  rw [range_flatMap_take]
  exact List.take_of_length_le (le_ceilDiv_mul hk)

theorem chunks_nonempty {α} (k : Nat) (l : List α) (hk : 1 ≤ k) : ∀ b ∈ chunks k l, b ≠ [] := by
  intro b hb h
  obtain ⟨i, hi, rfl⟩ := List.mem_map.mp hb
  -- an empty slice would start at or beyond the end of `l`
  rcases List.take_eq_nil_iff.mp h with h0 | h0
  · exact Nat.ne_of_gt hk h0
  · exact Nat.not_le.mpr ((lt_ceilDiv_iff hk).mp (List.mem_range.mp hi)) (List.drop_eq_nil_iff.mp h0)

theorem chunks_map {α β} (f : α → β) (k : Nat) (l : List α) :
    chunks k (l.map f) = (chunks k l).map (List.map f) := by
  simp [chunks, List.map_take, List.map_drop]

theorem chunks_ne_nil {α} (k : Nat) (l : List α) (hk : 1 ≤ k) (hl : l ≠ []) : chunks k l ≠ [] := by
  intro h
  have := chunks_flatten k l hk
  rw [h] at this
  exact hl this.symm

/-- what `combine` and `aggregate` of a reduction must satisfy: aggregating the combined batches is
    aggregating all their elements (the batches `partition_all` yields are non-empty) -/
def HomLaw {α β} (comb : List α → α) (agg : List α → β) : Prop :=
  ∀ bs : List (List α), bs ≠ [] → (∀ b ∈ bs, b ≠ []) → agg (bs.map comb) = agg bs.flatten

theorem treeVal_succ {α} (comb : List α → α) (k f : Nat) (xs : List α) :
    treeVal comb k (f+1) xs = if xs.length > k then treeVal comb k f ((chunks k xs).map comb) else xs :=
  rfl

theorem treeVal_agg {α β} (comb : List α → α) (agg : List α → β) (h : HomLaw comb agg)
    (k : Nat) (hk : 1 ≤ k) : ∀ f xs, agg (treeVal comb k f xs) = agg xs := by
  intro f
  induction f with
  | zero => intro xs; rfl
  | succ f ih =>
    intro xs
    rw [treeVal_succ]
    by_cases hlt : xs.length > k
    · rw [if_pos hlt, ih, h _ (chunks_ne_nil k xs hk (List.ne_nil_of_length_pos (Nat.zero_lt_of_lt hlt)))
        (chunks_nonempty k xs hk), chunks_flatten k xs hk]
    · rw [if_neg hlt]

/-! ### one iteration of the level loop: the loop stops, emits the tasks of level `j`, or leaves a key
    to the remaining iterations -/

theorem graphLoop_le (p : Params) (k f j : Nat) (keys : List Key) (h : ¬ keys.length > k) :
    graphLoop p k (f+1) j keys = final keys :=
  funext fun _ => if_neg h

theorem graphLoop_node (p : Params) (k f j : Nat) (keys : List Key) (i : Nat) (hlt : keys.length > k) :
    graphLoop p k (f+1) j keys (.node j i) =
      if i < nchunks k keys.length then some (.apply (combFn p) ((keys.drop (i * k)).take k)) else none := by
  show (if keys.length > k then _ else _) = _
  rw [if_pos hlt]
  exact if_pos rfl

theorem graphLoop_step (p : Params) (k f j : Nat) (keys : List Key) (q : Key) (hlt : keys.length > k)
    (hq : ∀ i, q ≠ .node j i) :
    graphLoop p k (f+1) j keys q =
      graphLoop p k f (j+1) ((List.range (nchunks k keys.length)).map (Key.node j)) q := by
  show (if keys.length > k then _ else _) = _
  rw [if_pos hlt]
  cases q with
  | node j' i => exact if_neg fun (e : j' = j) => hq i (e ▸ rfl)
  | _ => rfl

/-- the keys the loop started at level `j` can still define: `out` and the nodes of level `≥ j` -/
abbrev LoopKey (j : Nat) (q : Key) : Prop := q = .out ∨ ∃ j' i, q = .node j' i ∧ j ≤ j'

/-- a graph that agrees with the loop on `out` and on the levels from `j` on agrees with the remaining
    iterations on `out` and the levels from `j + 1` on -/
theorem agrees_step {p : Params} {k f j : Nat} {keys : List Key} {g : Graph Key}
    (hg : ∀ q, LoopKey j q → g q = graphLoop p k (f+1) j keys q)
    (hlt : keys.length > k) (q : Key) (hq : LoopKey (j + 1) q) :
    g q = graphLoop p k f (j+1) ((List.range (nchunks k keys.length)).map (Key.node j)) q := by
  rcases hq with rfl | ⟨j', i, rfl, hj⟩
  · rw [hg _ (.inl rfl)]
    exact graphLoop_step p k f j keys _ hlt fun _ => Key.noConfusion
  · rw [hg _ (.inr ⟨j', i, rfl, Nat.le_of_succ_le hj⟩)]
    exact graphLoop_step p k f j keys _ hlt fun _ e => Nat.ne_of_gt hj (Key.node.inj e).1

theorem run_final (I : Interp) (g : Graph Key) (inp : Key → Option V) (keys : List Key) (cur : List V)
    (B : Nat) (hg : g .out = final keys .out)
    (hcur : ∀ F, B ≤ F → keys.map (run I g inp F) = cur) :
    ∀ F, B + 1 ≤ F → run I g inp F .out = I aggFn cur
  | F+1, hF => by
    rw [run_defined I g inp F .out _ hg]
    exact congrArg (I aggFn) (hcur F (Nat.le_of_succ_le_succ hF))

/-- The value of the loop started at level `j` with `f` iterations left.  `g` is any graph that agrees with
    the loop on the keys the loop can still define (`LoopKey j`); `keys` are the
    keys of the current level and `cur` their values, reached with fuel `B`.  Each iteration left is one
    task deeper and `out` one more, hence the fuel `B + f + 1`. -/
theorem run_loop (I : Interp) (p : Params) (k : Nat) (inp : Key → Option V) (g : Graph Key) :
    ∀ (f j : Nat) (keys : List Key) (cur : List V) (B : Nat),
    (∀ q, LoopKey j q → g q = graphLoop p k f j keys q) →
    (∀ F, B ≤ F → keys.map (run I g inp F) = cur) →
    ∀ F, B + f + 1 ≤ F → run I g inp F .out = I aggFn (treeVal (I (combFn p)) k f cur) := by
  intro f
  induction f with
  | zero =>
    intro j keys cur B hg hcur F hF
    exact run_final I g inp keys cur B (hg .out (.inl rfl)) hcur F hF
  | succ f ih =>
    intro j keys cur B hg hcur F hF
    have hlen : cur.length = keys.length := by rw [← hcur B (Nat.le_refl _), List.length_map]
    by_cases hlt : keys.length > k
    · rw [treeVal_succ, if_pos (hlen ▸ hlt)]
      refine ih (j+1) _ _ (B+1) (agrees_step hg hlt) ?_ F (by rw [Nat.add_right_comm B 1 f]; exact hF)
      -- the keys of level `j` evaluate to the combined batches of the current values
      intro F' hF'
      cases F' with
      | zero => cases hF'
      | succ F' =>
        rw [← hcur F' (Nat.le_of_succ_le_succ hF'), chunks_map, chunks, List.map_map, List.map_map, List.map_map]
        apply List.map_congr_left
        intro i hi
        have hgi : g (.node j i) = some (.apply (combFn p) ((keys.drop (i * k)).take k)) := by
          rw [hg _ (.inr ⟨j, i, rfl, Nat.le_refl _⟩), graphLoop_node p k f j keys i hlt,
            if_pos (List.mem_range.mp hi)]
        exact run_defined I g inp F' _ _ hgi
    · rw [treeVal_succ, if_neg (hlen ▸ hlt)]
      refine run_final I g inp keys cur B ?_ hcur F
        (Nat.le_trans (Nat.succ_le_succ (Nat.le_add_right B (f+1))) hF)
      rw [hg .out (.inl rfl), graphLoop_le p k f j keys hlt]

theorem final_eq_some (keys : List Key) (q : Key) (t : Tsk Key) :
    final keys q = some t ↔ q = .out ∧ t = .apply aggFn keys := by
  cases q with
  | out => exact ⟨fun h => ⟨rfl, (Option.some.inj h).symm⟩, fun h => h.2 ▸ rfl⟩
  | dep i => exact ⟨fun h => (nomatch h), fun h => (nomatch h.1)⟩
  | node j i => exact ⟨fun h => (nomatch h), fun h => (nomatch h.1)⟩

/-- how an iteration defines a task: the loop stops with the aggregate task, the task is a combine
    task of level `j`, or it is defined by the remaining iterations -/
theorem graphLoop_some (p : Params) (k f j : Nat) (keys : List Key) (q : Key) (t : Tsk Key)
    (h : graphLoop p k (f+1) j keys q = some t) :
    (¬ keys.length > k ∧ q = .out ∧ t = .apply aggFn keys) ∨
    (keys.length > k ∧ ∃ i, q = .node j i ∧ t = .apply (combFn p) ((keys.drop (i * k)).take k)) ∨
    (keys.length > k ∧
      graphLoop p k f (j+1) ((List.range (nchunks k keys.length)).map (Key.node j)) q = some t) := by
  by_cases hlt : keys.length > k
  · by_cases hq : ∃ i, q = .node j i
    · obtain ⟨i, rfl⟩ := hq
      rw [graphLoop_node p k f j keys i hlt] at h
      obtain ⟨_, ⟨⟩⟩ := Option.ite_none_right_eq_some.mp h
      exact .inr (.inl ⟨hlt, i, rfl, rfl⟩)
    · rw [graphLoop_step p k f j keys q hlt fun i e => hq ⟨i, e⟩] at h
      exact .inr (.inr ⟨hlt, h⟩)
  · rw [graphLoop_le p k f j keys hlt] at h
    exact .inl ⟨hlt, (final_eq_some keys q t).mp h⟩

/-- dependency keys, and keys below the starting level, are not defined by the loop -/
theorem graphLoop_none (p : Params) (k : Nat) : ∀ f j keys q, q ≠ .out →
    (∀ j' i, q = .node j' i → j' < j) → graphLoop p k f j keys q = none := by
  have hfinal : ∀ keys q, q ≠ .out → final keys q = none := by
    intro keys q hq
    cases q with
    | out => exact absurd rfl hq
    | _ => rfl
  intro f
  induction f with
  | zero => intro j keys q hq _; exact hfinal keys q hq
  | succ f ih =>
    intro j keys q hq hlow
    by_cases hlt : keys.length > k
    · rw [graphLoop_step p k f j keys q hlt fun i e => Nat.lt_irrefl j (hlow j i e)]
      exact ih _ _ q hq fun j' i e => Nat.lt_succ_of_lt (hlow j' i e)
    · rw [graphLoop_le p k f j keys hlt]
      exact hfinal keys q hq

/-- the graph function and the transliterated dict define the same tasks, iteration by iteration -/
theorem dictLoop_iff (p : Params) (k : Nat) : ∀ f j keys q t,
    (q, t) ∈ dictLoop p k f j keys ↔ graphLoop p k f j keys q = some t := by
  have hstop : ∀ keys q t, (q, t) ∈ [(Key.out, Tsk.apply aggFn keys)] ↔ final keys q = some t := by
    intro keys q t
    rw [final_eq_some, List.mem_singleton, Prod.mk.injEq]
  intro f
  induction f with
  | zero => intro j keys q t; exact hstop keys q t
  | succ f ih =>
    intro j keys q t
    by_cases hlt : keys.length > k
    · rw [show dictLoop p k (f+1) j keys = _ from if_pos hlt, List.mem_append, ih]
      by_cases hq : ∃ i, q = .node j i
      · -- a key of level `j`: one of the entries just emitted, and none of the later ones
        obtain ⟨i, rfl⟩ := hq
        rw [graphLoop_node p k f j keys i hlt,
          graphLoop_none p k f (j+1) _ _ Key.noConfusion fun j' i' e => (Key.node.inj e).1 ▸ Nat.lt_succ_self j]
        constructor
        · rintro (hm | h)
          · obtain ⟨i', hi', e⟩ := List.mem_map.mp hm
            cases e
            exact if_pos (List.mem_range.mp hi')
          · cases h
        · intro h
          obtain ⟨hi, ⟨⟩⟩ := Option.ite_none_right_eq_some.mp h
          exact .inl (List.mem_map.mpr ⟨i, List.mem_range.mpr hi, rfl⟩)
      · rw [graphLoop_step p k f j keys q hlt fun i e => hq ⟨i, e⟩]
        refine ⟨fun h => h.resolve_left fun hm => ?_, .inr⟩
        obtain ⟨i, _, e⟩ := List.mem_map.mp hm
        exact hq ⟨i, (Prod.mk.inj e).1.symm⟩
    · rw [show dictLoop p k (f+1) j keys = _ from if_neg hlt, graphLoop_le p k f j keys hlt]
      exact hstop keys q t

theorem graphLoop_stable (p : Params) (k : Nat) (hk : 2 ≤ k) : ∀ f j keys, keys.length ≤ f + k →
    graphLoop p k (f+1) j keys = graphLoop p k f j keys := by
  intro f
  induction f with
  | zero => intro j keys h; exact graphLoop_le p k 0 j keys (Nat.not_lt.mpr ((Nat.zero_add k) ▸ h))
  | succ f ih =>
    intro j keys h
    by_cases hlt : keys.length > k
    · have hnext := ih (j+1) ((List.range (nchunks k keys.length)).map (Key.node j))
        (by rw [List.length_map, List.length_range]; exact nchunks_le_bound hk hlt h)
      funext q
      by_cases hq : ∃ i, q = .node j i
      · obtain ⟨i, rfl⟩ := hq
        rw [graphLoop_node p k (f+1) j keys i hlt, graphLoop_node p k f j keys i hlt]
      · rw [graphLoop_step p k (f+1) j keys q hlt fun i e => hq ⟨i, e⟩,
          graphLoop_step p k f j keys q hlt fun i e => hq ⟨i, e⟩, hnext]
    · rw [graphLoop_le p k (f+1) j keys hlt, graphLoop_le p k f j keys hlt]

/-- With `k ≥ 2` and a bound of at least `length - k` iterations the loop exits through its own
    condition: one more iteration changes nothing, and the final list has at most `k` entries. -/
theorem treeVal_stable {α} (comb : List α → α) (k : Nat) (hk : 2 ≤ k) : ∀ f xs, xs.length ≤ f + k →
    treeVal comb k (f+1) xs = treeVal comb k f xs ∧ (treeVal comb k f xs).length ≤ k := by
  intro f
  induction f with
  | zero =>
    intro xs h
    have h' : xs.length ≤ k := Nat.zero_add k ▸ h
    exact ⟨if_neg (Nat.not_lt.mpr h'), h'⟩
  | succ f ih =>
    intro xs h
    rw [treeVal_succ comb k (f+1) xs, treeVal_succ comb k f xs]
    by_cases hlt : xs.length > k
    · rw [if_pos hlt, if_pos hlt]
      exact ih _ (by rw [List.length_map, length_chunks]; exact nchunks_le_bound hk hlt h)
    · rw [if_neg hlt, if_neg hlt]
      exact ⟨rfl, Nat.not_lt.mp hlt⟩

/-- with `split_every = 1` an iteration does not shorten the key list: for every bound the loop
    runs until the bound (the real `while` would never exit) -/
theorem sizes_one (f m : Nat) (hm : 1 < m) : sizes 1 f m = List.replicate (f+1) m := by
  induction f with
  | zero => rfl
  | succ f ih =>
    simp only [sizes, hm, if_true]
    rw [nchunks_one, ih]
    rfl

theorem sizes_length_le (k : Nat) (hk : 2 ≤ k) : ∀ f m, (sizes k f m).length ≤ m + 1 := by
  intro f
  induction f with
  | zero => intro m; exact Nat.le_add_left 1 m
  | succ f ih =>
    intro m
    by_cases hlt : m > k
    · rw [show sizes k (f+1) m = m :: sizes k f (nchunks k m) from if_pos hlt, List.length_cons]
      exact Nat.succ_le_succ (Nat.le_trans (ih (nchunks k m)) (nchunks_lt k m hk hlt))
    · rw [show sizes k (f+1) m = [m] from if_neg hlt]
      exact Nat.le_add_left 1 m

def treeRank (n : Nat) : Key → Nat
  | .dep _ => 0
  | .node j _ => j
  | .out => n + 1

/-- Every reference of a task of the loop (state as in `run_loop`) is defined in `g` or an input, provided
    the keys of the current level are. -/
theorem loop_closed (p : Params) (k : Nat) (inp : Key → Option V) (g : Graph Key) :
    ∀ f j keys,
    (∀ q, LoopKey j q → g q = graphLoop p k f j keys q) →
    (∀ d ∈ keys, (g d).isSome ∨ (inp d).isSome) →
    ∀ q t, graphLoop p k f j keys q = some t → ∀ d ∈ t.refs, (g d).isSome ∨ (inp d).isSome := by
  intro f
  induction f with
  | zero =>
    intro j keys _ hk q t h d hd
    obtain ⟨_, rfl⟩ := (final_eq_some keys q t).mp h
    exact hk d hd
  | succ f ih =>
    intro j keys hg hk q t h d hd
    rcases graphLoop_some p k f j keys q t h with ⟨_, _, rfl⟩ | ⟨_, i, _, rfl⟩ | ⟨hlt, h⟩
    · exact hk d hd
    · exact hk d (List.mem_of_mem_drop (List.mem_of_mem_take hd))
    · refine ih (j+1) _ (agrees_step hg hlt) ?_ q t h d hd
      -- the keys of level `j` are defined by `g`
      intro d hd
      obtain ⟨i, hi, rfl⟩ := List.mem_map.mp hd
      left
      rw [hg _ (.inr ⟨j, i, rfl, Nat.le_refl _⟩), graphLoop_node p k f j keys i hlt,
        if_pos (List.mem_range.mp hi)]
      rfl

/-- References go down in `treeRank N` (level `j` has rank `j`, `out` rank `N + 1`) as long as the levels
    stay below `N + 1` and the current keys rank below the level being built. -/
theorem loop_ranked (p : Params) (k N : Nat) :
    ∀ f j keys, j + f ≤ N + 1 → (∀ d ∈ keys, treeRank N d < j) →
    ∀ q t, graphLoop p k f j keys q = some t → ∀ d ∈ t.refs, treeRank N d < treeRank N q := by
  intro f
  induction f with
  | zero =>
    intro j keys hj hk q t h d hd
    obtain ⟨rfl, rfl⟩ := (final_eq_some keys q t).mp h
    exact Nat.lt_of_lt_of_le (hk d hd) hj
  | succ f ih =>
    intro j keys hj hk q t h d hd
    rcases graphLoop_some p k f j keys q t h with ⟨_, rfl, rfl⟩ | ⟨_, i, rfl, rfl⟩ | ⟨hlt, h⟩
    · exact Nat.lt_of_lt_of_le (hk d hd) (Nat.le_trans (Nat.le_add_right j (f+1)) hj)
    · exact hk d (List.mem_of_mem_drop (List.mem_of_mem_take hd))
    · refine ih (j+1) _ (Nat.succ_add_eq_add_succ j f ▸ hj) ?_ q t h d hd
      intro d hd
      obtain ⟨i, _, rfl⟩ := List.mem_map.mp hd
      exact Nat.lt_succ_self j

/-- `split_every = False` is the loop with no iteration allowed: graph, dict and value of the layer
    are those of the loop with some `k` and some bound `f ≤ n` -/
theorem layer_eq_loop (p : Params) : ∃ k f, f ≤ p.n ∧ layer p = graphLoop p k f 1 (depKeys p.n) ∧
    dict p = dictLoop p k f 1 (depKeys p.n) ∧
    ∀ (comb agg : List V → V) (xs : List V), xs.length = p.n →
      treeEval comb agg p.splitEvery xs = agg (treeVal comb k f xs) := by
  unfold layer dict
  cases p.splitEvery with
  | none => exact ⟨0, 0, Nat.zero_le _, funext fun _ => rfl, rfl, fun _ _ _ _ => rfl⟩
  | some k => exact ⟨k, p.n, Nat.le_refl _, rfl, rfl, fun _ _ _ h => h ▸ rfl⟩

theorem layer_dep_none (p : Params) (i : Nat) : layer p (.dep i) = none := by
  obtain ⟨k, f, _, e, _⟩ := layer_eq_loop p
  rw [e]
  exact graphLoop_none p k _ _ _ _ Key.noConfusion fun _ _ => Key.noConfusion

theorem depKeys_run (I : Interp) (p : Params) (vals : Nat → V) (F : Nat) :
    (depKeys p.n).map (run I (layer p) (inputs vals) F) = (List.range p.n).map vals := by
  rw [depKeys, List.map_map]
  exact List.map_congr_left fun i _ => run_input I (layer p) (inputs vals) (.dep i) _ (layer_dep_none p i) rfl F

/-- `run (layer) = treeEval`: the aggregate task receives the values the loop semantics computes -/
theorem run_tree (I : Interp) (p : Params) (vals : Nat → V) (F : Nat) (hF : p.n + 2 ≤ F) :
    run I (layer p) (inputs vals) F .out =
      treeEval (I (combFn p)) (I aggFn) p.splitEvery ((List.range p.n).map vals) := by
  obtain ⟨k, f, hf, e, _, et⟩ := layer_eq_loop p
  rw [et _ _ _ (by rw [List.length_map, List.length_range])]
  exact run_loop I p k (inputs vals) (layer p) f 1 (depKeys p.n) _ 0 (fun q _ => congrFun e q)
    (fun F _ => depKeys_run I p vals F) F
    (Nat.le_trans (Nat.succ_le_succ (Nat.le_trans (Nat.le_of_eq (Nat.zero_add f)) hf)) (Nat.le_of_succ_le hF))

/-- the layer is closed over any input function that defines the `n` chunk results -/
theorem tree_closed' (p : Params) (inp : Key → Option V) (h : ∀ i, i < p.n → (inp (.dep i)).isSome) :
    Closed (layer p) inp := by
  obtain ⟨k, f, _, e, _⟩ := layer_eq_loop p
  intro q t hq d hd
  rw [e] at hq
  refine loop_closed p k inp (layer p) f 1 (depKeys p.n) (fun q _ => congrFun e q) ?_ q t hq d hd
  intro d hd
  obtain ⟨i, hi, rfl⟩ := List.mem_map.mp hd
  exact .inr (h i (List.mem_range.mp hi))

theorem tree_closed (p : Params) (vals : Nat → V) : Closed (layer p) (inputs vals) :=
  tree_closed' p _ fun _ _ => rfl

theorem tree_ranked (p : Params) : Ranked (layer p) (treeRank p.n) := by
  obtain ⟨k, f, hf, e, _⟩ := layer_eq_loop p
  intro q t h d hd _
  rw [e] at h
  refine loop_ranked p k p.n f 1 (depKeys p.n) (Nat.add_comm f 1 ▸ Nat.succ_le_succ hf) ?_ q t h d hd
  intro d hd
  obtain ⟨i, _, rfl⟩ := List.mem_map.mp hd
  exact Nat.zero_lt_one

theorem tree_stratified (p : Params) (inp : Key → Option V) (h : ∀ i, i < p.n → (inp (.dep i)).isSome) :
    Stratified (layer p) inp (treeRank p.n) :=
  .of_closed_ranked (tree_closed' p inp h) (tree_ranked p)

theorem dict_iff (p : Params) (q : Key) (t : Tsk Key) : (q, t) ∈ dict p ↔ layer p q = some t := by
  obtain ⟨k, f, _, e, e', _⟩ := layer_eq_loop p
  rw [e, e']
  exact dictLoop_iff p k f 1 _ q t

end Dx

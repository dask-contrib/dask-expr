/-
  Lemmas/Partitions.lean — evaluation of the Partitions / PartitionsFiltered layers; the gather loop `pick`;
  chunk starts `range(0, len, cs)`;
  truthfulness of `_divisions_of_selection` and of row-local operators, as instances of `divInv_coarsen`
  (Lemmas/RepartitionDiv.lean).
-/
import DxModel.Layers.Partitions
import DxModel.Lemmas.RepartitionDiv
import DxModel.Lemmas.ListBasics
namespace Dx.Parts
open Dx Dx.Repartition

/-! ### selected partitions, the filtered layer -/

theorem flatMap_sel_segment (P : List Nat) (parts : Nat → List Row) : ∀ (c s : Nat), s + c ≤ P.length →
    (List.range' s c).flatMap (sel P parts) = ((P.drop s).take c).flatMap parts := by
  intro c
  induction c with
  | zero => intro _ _; rfl
  | succ c ih =>
    intro s h
    have hs : s < P.length := Nat.lt_of_lt_of_le (Nat.lt_add_of_pos_right (Nat.succ_pos c)) h
    rw [List.range'_succ, List.flatMap_cons, List.drop_eq_getElem_cons hs, List.take_succ_cons, List.flatMap_cons,
      ih (s + 1) (by rwa [Nat.add_assoc, Nat.add_comm 1 c]), sel, List.getElem?_eq_getElem hs]

theorem flatMap_sel (P : List Nat) (parts : Nat → List Row) :
    (List.range P.length).flatMap (sel P parts) = P.flatMap parts :=
  (flatMap_congr' _ _ _ fun j _ => by unfold sel; cases P[j]? <;> rfl).trans (flatMap_getElem? parts P)

theorem filteredTask_not_out (ft : Nat → Tsk Key) (P : List Nat) (d : Key) (h : ∀ j, d ≠ Key.out j) :
    filteredTask ft P d = none := by
  cases d with
  | out j => exact absurd rfl (h j)
  | dep i => rfl
  | src t i => rfl

/-- output `j` of the layer filtered to `P` and output `j'` of the layer filtered to `Q` are the same
    value whenever both stand for the same original partition -/
theorem run_filtered (I : Interp) (ft : Nat → Tsk Key) (hleaf : LeafTasks ft) (P Q : List Nat)
    (inp : Key → Option V) (fuel j j' p : Nat) (hj : P[j]? = some p) (hq : Q[j']? = some p) :
    run I (filteredTask ft P) inp (fuel+1) (.out j) = run I (filteredTask ft Q) inp (fuel+1) (.out j') := by
  have hg : filteredTask ft P (.out j) = some (ft p) := by simp [filteredTask, hj]
  have hg' : filteredTask ft Q (.out j') = some (ft p) := by simp [filteredTask, hq]
  rw [run_defined _ _ _ fuel _ _ hg, run_defined _ _ _ fuel _ _ hg']
  apply evalTsk_congr
  intro d hd
  have hno := hleaf p d hd
  rw [run_undefined I _ inp d (filteredTask_not_out ft P d hno),
      run_undefined I _ inp d (filteredTask_not_out ft Q d hno)]

/-! ### `pick` and its copies -/

theorem pick_eq_map (Q : List Nat) : ∀ (P R : List Nat), pick Q P = some R →
    (∀ p ∈ P, p < Q.length) ∧ R = P.map (fun i => Q.getD i 0) := by
  intro P
  induction P with
  | nil =>
    intro R h
    cases h
    exact ⟨fun _ hp => (nomatch hp), rfl⟩
  | cons p0 t ih =>
    intro R h
    unfold pick at h
    split at h
    · rename_i x r hx hr
      cases h
      have ⟨hlt, hmap⟩ := ih r hr
      exact ⟨List.forall_mem_cons.mpr ⟨(List.getElem?_eq_some_iff.mp hx).1, hlt⟩,
        by rw [List.map_cons, getD_of_getElem? hx, hmap]⟩
    · cases h

theorem pick_valid (Q : List Nat) : ∀ (P : List Nat), (∀ p ∈ P, p < Q.length) →
    pick Q P = some (P.map (fun i => Q.getD i 0)) := by
  intro P
  induction P with
  | nil => intro _; rfl
  | cons p t ih =>
    intro h
    have hp : p < Q.length := h p (List.mem_cons_self ..)
    simp [pick, ih (fun x hx => h x (List.mem_cons_of_mem _ hx)), List.getElem?_eq_getElem hp]

/-- `[op.iterable[p] for p in self.partitions]` is the same indexing loop -/
theorem selectArgs_eq_pick (args : List Nat) : ∀ (P : List Nat), selectArgs args P = pick args P := by
  intro P
  induction P with
  | nil => rfl
  | cons p t ih => simp only [selectArgs, pick, ih]

theorem allLengths_length (locs : List Nat) : (allLengths locs).length = locs.length - 1 := by
  rw [allLengths, List.length_map, List.length_range]

theorem allLengths_getD (locs : List Nat) {i : Nat} (hi : i < locs.length - 1) :
    (allLengths locs).getD i 0 = locs.getD (i+1) 0 - locs.getD i 0 :=
  getD_of_getElem? (getElem?_map_range _ hi)

/-! ### python's `range(0, len, cs)`: chunk starts of FromArray and of the FusedIO buckets -/

/-- number of chunks: `len(range(0, len, cs))` -/
def nChunks (len cs : Nat) : Nat := (len + cs - 1) / cs

/-- chunk `i` exists iff its first position does: all facts about chunk boundaries come from this -/
theorem lt_nChunks_iff {len cs i : Nat} (hcs : 1 ≤ cs) : i < nChunks len cs ↔ i * cs < len :=
  lt_ceilDiv_iff hcs

theorem le_nChunks_mul {len cs : Nat} (hcs : 1 ≤ cs) : len ≤ nChunks len cs * cs :=
  le_ceilDiv_mul hcs

theorem nChunks_pos {len cs : Nat} (hcs : 1 ≤ cs) (hlen : 1 ≤ len) : 1 ≤ nChunks len cs :=
  (lt_nChunks_iff hcs).mpr (by rw [Nat.zero_mul]; exact hlen)

theorem pyRange_length (len cs : Nat) : (pyRange len cs).length = nChunks len cs := by
  simp [pyRange, nChunks]

theorem pyRange_getElem? (len cs i : Nat) (hi : i < nChunks len cs) : (pyRange len cs)[i]? = some (i * cs) := by
  unfold pyRange nChunks at *
  simp [hi]

/-! ### instances of `divInv_coarsen`: row-local operators, selections -/

theorem sublist_flatMap_of_mem {α β} {f : α → List β} {l : List α} {a : α} (h : a ∈ l) :
    (f a).Sublist (l.flatMap f) := by
  rw [List.flatMap_def]
  exact List.sublist_flatten_of_mem (List.mem_map_of_mem h)

/-- every output partition carries a sub-sequence of the index labels of the corresponding input
    partition (row-local operators, filters): the divisions stay truthful -/
theorem divInv_of_idx_sublist {d : List Int} {n : Nat} {parts out : Nat → List Row}
    (hinv : DivInv d n parts)
    (hsub : ∀ i, i < n → ((out i).map (·.idx)).Sublist ((parts i).map (·.idx))) :
    DivInv d n out := by
  refine divInv_coarsen hinv id hinv.len (fun _ _ h _ => h) (Nat.le_refl n) (fun _ _ => rfl) ?_
  intro i hi
  refine (hsub i hi).trans ((sublist_flatMap_of_mem ?_).map _)
  rw [id, id, Nat.add_sub_cancel_left]
  exact List.mem_range'_1.mpr ⟨Nat.le_refl i, Nat.lt_succ_self i⟩

/-! ### `_divisions_of_selection` is truthful for strictly ascending selections -/

/-- the two transliterated "strictly ascending" checks are one function -/
theorem strictAsc_eq_strictMono : ∀ (l : List Nat), strictAsc l = strictMono l
  | [] => rfl
  | [_] => rfl
  | a :: b :: t => by rw [strictAsc, strictMono, strictAsc_eq_strictMono (b :: t)]

theorem selDivisions_unknown (full : List Int) (P : List Nat) (h : strictAsc P = false) :
    selDivisions full P = .ok none := by
  simp [selDivisions, h]

theorem selDivisions_spec (full : List Int) (P : List Nat) (d' : List Int)
    (h : selDivisions full P = .ok (some d')) :
    ∃ last, P.getLast? = some last ∧ strictAsc P = true ∧ d'.length = P.length + 1 ∧
    (∀ (j p : Nat), P[j]? = some p → d'[j]? = full[p]?) ∧
    d'[P.length]? = full[last + 1]? ∧ last + 1 < full.length := by
  unfold selDivisions at h
  split at h
  · cases h
  · rename_i hs
    split at h
    · cases h
    · rename_i last hl
      split at h
      · rename_i los hi hf hh
        cases h
        have ⟨hlen, hsp⟩ := fewerDivisions_spec full P los hf
        refine ⟨last, hl, (Bool.not_eq_false _).mp hs, by rw [List.length_append, hlen]; rfl, ?_, ?_,
          (List.getElem?_eq_some_iff.mp hh).1⟩
        · intro j p hj
          rw [List.getElem?_append_left (hlen ▸ (List.getElem?_eq_some_iff.mp hj).1)]
          exact hsp j p hj
        · rw [List.getElem?_append_right (Nat.le_of_eq hlen), hlen, Nat.sub_self, hh]; rfl
      · cases h

theorem selDivisions_ok (full : List Int) (P : List Nat) (n : Nat) (hlen : full.length = n + 1)
    (hs : strictAsc P = true) (hne : P ≠ []) (hlt : ∀ p ∈ P, p < n) :
    ∃ d', selDivisions full P = .ok (some d') := by
  obtain ⟨last, hl⟩ : ∃ last, P.getLast? = some last := by
    cases h : P.getLast? with
    | none => exact absurd (List.getLast?_eq_none_iff.mp h) hne
    | some l => exact ⟨l, rfl⟩
  have hlm : last ∈ P := List.mem_of_getLast? hl
  obtain ⟨los, hlos⟩ := fewerDivisions_some full P (fun x hx => hlen ▸ Nat.lt_succ_of_lt (hlt x hx))
  have hh : last + 1 < full.length := hlen ▸ Nat.succ_lt_succ (hlt last hlm)
  exact ⟨los ++ [full[last + 1]], by simp [selDivisions, hs, hl, hlos, List.getElem?_eq_getElem hh]⟩

/-- **Truthfulness of a strictly ascending selection** (any gaps): lower bounds of the selected
    partitions plus the upper bound of the last one.  The selection `P`, closed by `last + 1`, is the list of
    positions at which the divisions are read; output `j` is the first partition of its range. -/
theorem divInv_sel (full : List Int) (n : Nat) (parts : Nat → List Row) (P : List Nat) (d' : List Int)
    (hinv : DivInv full n parts) (hlt : ∀ p ∈ P, p < n)
    (h : selDivisions full P = .ok (some d')) :
    DivInv d' P.length (sel P parts) := by
  obtain ⟨last, hl, hs, hlen, hsp, hdl, _⟩ := selDivisions_spec full P d' h
  obtain ⟨ys, rfl⟩ := List.getLast?_eq_some_iff.mp hl
  have hpw := strictMono_pairwise _ (strictAsc_eq_strictMono _ ▸ hs)
  have hb : ((ys ++ [last]) ++ [last + 1]).Pairwise (· < ·) := by
    refine List.pairwise_append.mpr ⟨hpw, List.pairwise_singleton _ _, fun a ha b hb => ?_⟩
    cases List.mem_singleton.mp hb
    rcases List.mem_append.mp ha with ha | ha
    · exact Nat.lt_succ_of_lt ((List.pairwise_append.mp hpw).2.2 a ha last (List.mem_singleton.mpr rfl))
    · cases List.mem_singleton.mp ha; exact Nat.lt_succ_self _
  have hposL : ∀ j (hj : j < (ys ++ [last]).length), ((ys ++ [last]) ++ [last + 1]).getD j 0 = (ys ++ [last])[j] :=
    fun j hj => getD_of_getElem? (by rw [List.getElem?_append_left hj]; exact List.getElem?_eq_getElem hj)
  have hposR : ((ys ++ [last]) ++ [last + 1]).getD (ys ++ [last]).length 0 = last + 1 :=
    getD_of_getElem? (by rw [List.getElem?_append_right (Nat.le_refl _), Nat.sub_self]; rfl)
  refine divInv_coarsen hinv (fun j => ((ys ++ [last]) ++ [last + 1]).getD j 0) hlen
    (fun i j hij hj => pairwise_getD hb 0 hij (by rw [List.length_append]; exact Nat.lt_succ_of_le hj)) ?_ ?_ ?_
  · rw [hposR]
    exact hlt last (List.mem_append_right _ (List.mem_singleton.mpr rfl))
  · intro j hj
    rcases Nat.lt_or_eq_of_le hj with hj | rfl
    · rw [hposL j hj]
      exact getD_eq_of_getElem? 0 (hsp j _ (List.getElem?_eq_getElem hj))
    · rw [hposR]
      exact getD_eq_of_getElem? 0 hdl
  · intro j hj
    have hlt' := pairwise_getD hb 0 (Nat.lt_succ_self j)
      (by rw [List.length_append]; exact Nat.succ_lt_succ hj : j + 1 < ((ys ++ [last]) ++ [last + 1]).length)
    simp only [sel, List.getElem?_eq_getElem hj]
    refine (sublist_flatMap_of_mem (List.mem_range'_1.mpr ⟨?_, ?_⟩)).map _
    · rw [hposL j hj]; exact Nat.le_refl _
    · rw [Nat.add_sub_cancel' (Nat.le_of_lt hlt'), ← hposL j hj]; exact hlt'

/-- `_divisions_of_selection` on a strictly ascending, non-empty, in-range selection succeeds and is truthful -/
theorem selDivisions_truthful (full : List Int) (n : Nat) (parts : Nat → List Row) (P : List Nat)
    (hinv : DivInv full n parts) (hs : strictAsc P = true) (hne : P ≠ []) (hP : ∀ p ∈ P, p < n) :
    ∃ d', selDivisions full P = .ok (some d') ∧ DivInv d' P.length (sel P parts) := by
  obtain ⟨d', hd⟩ := selDivisions_ok full P n hinv.len hs hne hP
  exact ⟨d', hd, divInv_sel full n parts P d' hinv hP hd⟩

end Dx.Parts

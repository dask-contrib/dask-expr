/-
  Lemmas/FragSem.lean — the denotation of the fragment (DxModel/Fragment.lean): equations of `denoteP (fragP I)`,
  labels of a value = `schemaOf`, values are normal (no column outside the labels) and duplicate-free.
-/
import DxModel.Lemmas.FragCode
import DxModel.Lemmas.ColsSem
namespace Dx.Frag
open Dx Dx.Cols

variable {γ ι : Type}

abbrev den (I : Interp γ ι) (e : Expr) : Option (FVal γ) := denoteP (fragP I) e

/-- values of the fragment are compared by equality: "may replace" is "defined with the same value whenever the
    replaced expression is" -/
theorem ref_iff (I : Interp γ ι) (a b : Expr) : Ref (fragP I).toSem a b ↔ ∀ v, den I b = some v → den I a = some v :=
  ⟨fun h v hv => by obtain ⟨v', hv', rfl⟩ := h v hv; exact hv', fun h v hv => ⟨v, h v hv, rfl⟩⟩

/-! ### equations -/

theorem den_node (I : Interp γ ι) (c l : Nat) (as : List Expr) :
    den I (.node c l as) = (allSome (as.map (den I))).bind (semOp I (opOf c l)) :=
  denoteP_bind (fragP I) c l as

theorem den_expr (I : Interp γ ι) (e : Expr) : den I e = (allSome (e.args.map (den I))).bind (semOp I e.op) := by
  cases e with
  | node c l as => exact den_node I c l as

theorem den_mk (I : Interp γ ι) (o : Op) (as : List Expr) :
    den I (mk o as) = (allSome (as.map (den I))).bind (semOp I o) := by
  rw [den_expr, mk_op, mk_args]

theorem schemaOf_node (c l : Nat) (as : List Expr) :
    schemaOf (.node c l as) = (allSome (as.map schemaOf)).bind (schOp (opOf c l)) :=
  denoteP_bind schP c l as

theorem schemaOf_expr (e : Expr) : schemaOf e = (allSome (e.args.map schemaOf)).bind (schOp e.op) := by
  cases e with
  | node c l as => exact schemaOf_node c l as

theorem schemaOf_mk (o : Op) (as : List Expr) :
    schemaOf (mk o as) = (allSome (as.map schemaOf)).bind (schOp o) := by
  rw [schemaOf_expr, mk_op, mk_args]

theorem allSome_eq_some {α : Type} : ∀ {l : List (Option α)} {vs : List α}, allSome l = some vs → l = vs.map some := by
  intro l
  induction l with
  | nil => intro vs h; cases h; rfl
  | cons o t ih =>
    intro vs h
    obtain ⟨b, r, rfl, hr, rfl⟩ := allSome_cons_eq_some h
    rw [ih hr, List.map_cons]

theorem allSome_map_some {α : Type} : ∀ vs : List α, allSome (vs.map some) = some vs := by
  intro vs
  induction vs with
  | nil => rfl
  | cons a t ih => rw [List.map_cons, allSome, ih]

theorem allSome_map {α β : Type} (f : α → β) : ∀ l : List (Option α),
    allSome (l.map (Option.map f)) = (allSome l).map (List.map f) := by
  intro l
  induction l with
  | nil => rfl
  | cons o t ih =>
    cases o with
    | none => rfl
    | some a =>
      rw [List.map_cons, Option.map_some, allSome, allSome, ih]
      cases allSome t <;> rfl

theorem mem_of_allSome_map {α β : Type} {f : α → Option β} {as : List α} {vs : List β}
    (h : allSome (as.map f) = some vs) {v : β} (hv : v ∈ vs) : ∃ a, a ∈ as ∧ f a = some v :=
  List.mem_map.mp (allSome_eq_some h ▸ List.mem_map_of_mem hv)

/-- `Expr` is nested through `List`: the hypothesis for the operands of a node is stated by membership -/
theorem expr_ind {P : Expr → Prop} (h : ∀ c l (as : List Expr), (∀ a, a ∈ as → P a) → P (.node c l as)) (e : Expr) :
    P e :=
  Expr.rec (motive_2 := fun as => ∀ a, a ∈ as → P a) h (fun _ ha => nomatch ha)
    (fun _ _ hb ht a ha => (List.mem_cons.mp ha).elim (fun e => e ▸ hb) (ht a)) e

theorem den_some {I : Interp γ ι} {e : Expr} {v : FVal γ} (h : den I e = some v) :
    ∃ vs, e.args.map (den I) = vs.map some ∧ semOp I e.op vs = some v := by
  rw [den_expr] at h
  obtain ⟨vs, ha, hs⟩ := Option.bind_eq_some_iff.mp h
  exact ⟨vs, allSome_eq_some ha, hs⟩

theorem den_of_args {I : Interp γ ι} {e : Expr} {vs : List (FVal γ)} (h : e.args.map (den I) = vs.map some) :
    den I e = semOp I e.op vs := by
  rw [den_expr, h, allSome_map_some]; rfl

/-! ### labels of a value -/

theorem semOp_sch (I : Interp γ ι) (o : Op) (vs : List (FVal γ)) :
    (semOp I o vs).map FVal.sch = schOp o (vs.map FVal.sch) := by
  unfold semOp
  cases schOp o (vs.map FVal.sch) with
  | none => rfl
  | some s => rfl

theorem den_schL_of (I : Interp γ ι) (as : List Expr) (h : ∀ a, a ∈ as → (den I a).map FVal.sch = schemaOf a) :
    (allSome (as.map (den I))).map (List.map FVal.sch) = allSome (as.map schemaOf) := by
  rw [← allSome_map, List.map_map]
  exact congrArg allSome (List.map_congr_left h)

theorem den_sch (I : Interp γ ι) : ∀ e : Expr, (den I e).map FVal.sch = schemaOf e := by
  intro e
  induction e using expr_ind with
  | h c l as ih =>
    rw [den_node, schemaOf_node, ← den_schL_of I as ih]
    cases allSome (as.map (den I)) with
    | none => rfl
    | some vs => exact semOp_sch I (opOf c l) vs

theorem den_schL (I : Interp γ ι) : ∀ as : List Expr,
    (allSome (as.map (den I))).map (List.map FVal.sch) = allSome (as.map schemaOf) :=
  fun as => den_schL_of I as fun a _ => den_sch I a

theorem den_schema {I : Interp γ ι} {e : Expr} {v : FVal γ} (h : den I e = some v) : schemaOf e = some v.sch := by
  rw [← den_sch I e, h]; rfl

/-- `schemaOf` decides definedness -/
theorem den_isSome (I : Interp γ ι) (e : Expr) : (den I e).isSome = (schemaOf e).isSome := by
  rw [← den_sch I e, Option.isSome_map]

/-! ### normal frames -/

/-- no column outside the labels -/
def Normal (F : Frame γ) : Prop := ∀ c, F.cols.contains c = false → F.val c = none

theorem normal_select (cs : List Name) (F : Frame γ) : Normal (F.select cs) :=
  fun _ hc => if_neg (Bool.eq_false_iff.mp hc)

theorem frame_ext {A B : Frame γ} (hc : A.cols = B.cols) (hA : Normal A) (hB : Normal B)
    (hv : ∀ c, c ∈ A.cols → A.val c = B.val c) : A = B := by
  obtain ⟨ac, av⟩ := A
  obtain ⟨bc, bv⟩ := B
  obtain rfl : ac = bc := hc
  refine congrArg (Frame.mk ac) (funext fun c => ?_)
  by_cases h : ac.contains c = true
  · exact hv c (List.contains_iff_mem.mp h)
  · exact (hA c (eq_false_of_ne_true h)).trans (hB c (eq_false_of_ne_true h)).symm

theorem select_self {F : Frame γ} (h : Normal F) : F.select F.cols = F :=
  frame_ext rfl (normal_select _ _) h (fun _ hc => select_val_mem hc)

theorem select_congr {A B : Frame γ} (P : List Name) (h : ∀ c, c ∈ P → A.val c = B.val c) :
    A.select P = B.select P :=
  frame_ext rfl (normal_select _ _) (normal_select _ _)
    (fun c hc => (select_val_mem hc).trans ((h c hc).trans (select_val_mem hc).symm))

theorem semOp_of_sch {I : Interp γ ι} {o : Op} {vs : List (FVal γ)} {s : Schema}
    (h : schOp o (vs.map FVal.sch) = some s) : semOp I o vs = some ⟨(frameOp I o vs).select s.cols, s.ser⟩ := by
  unfold semOp; rw [h]

theorem semOp_some {I : Interp γ ι} {o : Op} {vs : List (FVal γ)} {v : FVal γ} (h : semOp I o vs = some v) :
    ∃ s, schOp o (vs.map FVal.sch) = some s ∧ v = ⟨(frameOp I o vs).select s.cols, s.ser⟩ := by
  unfold semOp at h
  split at h
  next s hs => exact ⟨s, hs, (Option.some.inj h).symm⟩
  · cases h

theorem den_normal {I : Interp γ ι} {e : Expr} {v : FVal γ} (h : den I e = some v) : Normal v.fr := by
  obtain ⟨vs, _, hs⟩ := den_some h
  obtain ⟨s, _, rfl⟩ := semOp_some hs
  exact normal_select _ _

/-! ### labels are duplicate-free -/

theorem nodup_assignCols (keys frame : List Name) (h : frame.Nodup) : (assignCols keys frame).Nodup := by
  refine List.nodup_append.mpr ⟨h, (nodup_dedupFirst keys).sublist List.filter_sublist, fun a ha b hb hab => ?_⟩
  have hn := (List.mem_filter.mp hb).2
  rw [← hab, List.contains_iff_mem.mpr ha] at hn
  cases hn

theorem nodup_concatCols (inner : Bool) (fs : List (List Name)) (h : ∀ f ∈ fs, f.Nodup) :
    (concatCols false inner fs).Nodup := by
  cases fs with
  | nil => exact List.nodup_nil
  | cons f fs =>
    cases inner with
    | true => exact List.Nodup.sublist List.filter_sublist (h f (List.mem_cons_self ..))
    | false => exact nodup_foldl_union _ [] List.nodup_nil

theorem ite_some {α : Type} {c : Prop} [Decidable c] {a s : α} (h : (if c then some a else none) = some s) :
    c ∧ a = s :=
  ⟨(Option.ite_none_right_eq_some.mp h).1, Option.some.inj (Option.ite_none_right_eq_some.mp h).2⟩

theorem schOp_nodup {o : Op} {ss : List Schema} {s : Schema} (h : schOp o ss = some s)
    (hs : ∀ t, t ∈ ss → t.cols.Nodup) : s.cols.Nodup := by
  revert h
  -- one goal per branch of `schOp`, in its order: the undefined ones go, in the others `s` is the value built
  fun_cases schOp o ss <;> rintro ⟨⟩
  -- src
  next hc => exact of_decide_eq_true (Bool.and_eq_true_iff.mp (Bool.and_eq_true_iff.mp hc).1).2
  -- proj many
  next hc => exact of_decide_eq_true (Bool.and_eq_true_iff.mp (Bool.and_eq_true_iff.mp hc).1).2
  -- proj one
  · exact List.pairwise_singleton _ _
  -- elem
  · exact hs _ (List.mem_cons_self ..)
  -- bink
  · exact hs _ (List.mem_cons_self ..)
  -- bin, two Series
  · exact List.pairwise_singleton _ _
  -- bin, two frames
  next a _ _ _ => exact hs a (List.mem_cons_self ..)
  -- assign
  · exact nodup_assignCols _ _ (hs _ (List.mem_cons_self ..))
  -- rename
  next hc => exact of_decide_eq_true (Bool.and_eq_true_iff.mp hc).2
  -- filter
  · exact hs _ (List.mem_cons_self ..)
  -- merge
  next hc => exact of_decide_eq_true (Bool.and_eq_true_iff.mp (Bool.and_eq_true_iff.mp hc).2).2
  -- concat
  · dsimp only
    refine nodup_concatCols _ _ fun f hf => ?_
    obtain ⟨t, ht, rfl⟩ := List.mem_map.mp hf
    exact hs t ht

theorem schemaOf_nodup : ∀ (e : Expr) (s : Schema), schemaOf e = some s → s.cols.Nodup := by
  intro e
  induction e using expr_ind with
  | h c l as ih =>
    intro s h
    rw [schemaOf_node] at h
    obtain ⟨ss, ha, hs⟩ := Option.bind_eq_some_iff.mp h
    refine schOp_nodup hs fun t ht => ?_
    obtain ⟨a, hm, hat⟩ := mem_of_allSome_map ha ht
    exact ih a hm t hat

theorem schemaOf_nodupL : ∀ (as : List Expr) (ss : List Schema), allSome (as.map schemaOf) = some ss →
    ∀ t, t ∈ ss → t.cols.Nodup := by
  intro as ss h t ht
  obtain ⟨a, _, hat⟩ := mem_of_allSome_map h ht
  exact schemaOf_nodup a t hat

theorem den_nodup {I : Interp γ ι} {e : Expr} {v : FVal γ} (h : den I e = some v) : v.fr.cols.Nodup :=
  schemaOf_nodup e _ (den_schema h)

end Dx.Frag

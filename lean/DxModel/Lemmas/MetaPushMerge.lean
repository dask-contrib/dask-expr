/-
  Lemmas/MetaPushMerge.lean — `Merge._simplify_up(Projection)` keeps the declared schema of the projection
  (labels with their suffixes, kinds, fresh index), under the hypothesis C04 needs as well: a join key that also names
  a column of the other side is a key common to both sides.
-/
import DxModel.Lemmas.MetaPush
import DxModel.Lemmas.ColsMerge
namespace Dx.Meta
open Dx.Cols (Parent Dep mergeLists mergeLabels labelL labelR KeysDoNotCollide)

theorem labels_mergeCols (m : Dx.Cols.MergeP) (A B : List Col) :
    labels (mergeCols m A B) = mergeLabels m (labels A) (labels B) := by
  unfold mergeCols mergeLabels labels
  simp only [List.map_append, List.map_map, List.filter_map]
  rfl

/-- the parent finds every label it asks for -/
theorem parent_lookup_some {pop : UOp} {p : Parent} (hp : parentOf pop = some p) (rc : List Col) (ri : List Lvl)
    (hok : declU pop (.frame rc ri) ≠ .bad) : ∀ y, y ∈ p.cols → ∃ k, rc.lookup y = some k := by
  intro y hy
  cases hl : rc.lookup y with
  | some k => exact ⟨k, rfl⟩
  | none =>
    exfalso
    apply hok
    rcases parentOf_cases hp with ⟨cs, rfl, rfl⟩ | ⟨c, rfl, rfl⟩
    · have : selectCols rc cs = none := by
        clear hok hp
        induction cs with
        | nil => cases hy
        | cons c t ih =>
          simp only [selectCols]
          rcases List.mem_cons.mp hy with rfl | hy'
          · rw [hl]
          · rw [ih hy']
            cases rc.lookup c <;> rfl
      simp only [declU_getCols, pGetCols, this]
    · cases List.mem_singleton.mp hy
      simp only [declU_getCol, pGetCol, hl]

theorem selectCols_mem_of {A sub : List Col} {child : List Name} (hs : selectCols A child = some sub)
    (hn : (labels A).Nodup) {c : Col} (hc : c ∈ A) (hsrc : c.1 ∈ child) : c ∈ sub := by
  apply lookup_mem
  rw [selectCols_lookup hs, if_pos (List.contains_iff_mem.mpr hsrc)]
  exact lookup_of_mem_nodup hn c hc

/-- `left.merge(right)` of the two sides pruned by `mergeLists`: what the parent asks for (`P`, part of `proj`) is
    found as in the merge of the whole sides.  The pruned sides label their columns as the whole sides do (every kept
    column keeps its collision partner), so the pruned result is a part of the whole result. -/
theorem pMerge_sameOn (m : Dx.Cols.MergeP) {L R subL subR : List Col} (li ri : List Lvl) {P proj : List Name}
    (hLn : (labels L).Nodup) (hRn : (labels R).Nodup) (hkeys : KeysDoNotCollide m (labels L) (labels R))
    (hsL : selectCols L (mergeLists m (labels L) (labels R) proj).1 = some subL)
    (hsR : selectCols R (mergeLists m (labels L) (labels R) proj).2 = some subR)
    (hP : ∀ y, y ∈ P → proj.contains y = true) (hok : pMergeChecks m L R = true)
    (hfound : ∀ y, y ∈ P → ∃ k, (mergeCols m L R).lookup y = some k) :
    SameOn P (pMerge m (.frame subL li) (.frame subR ri)) (pMerge m (.frame L li) (.frame R ri)) := by
  -- What is used of the two pruned label lists is stated first: below they are generalised to `pl`, `pr`, and these
  -- facts are all that is kept about them.
  have hpl_sub := Dx.Cols.merge_left_sub m (labels L) (labels R) proj hRn
  have hpr_sub := Dx.Cols.merge_right_sub m (labels L) (labels R) proj hRn
  have hlabL : ∀ c, c ∈ (mergeLists m (labels L) (labels R) proj).1 →
      labelL m (mergeLists m (labels L) (labels R) proj).2 c = labelL m (labels R) c := fun c hc =>
    Dx.Cols.labelL_pruned m (labels R) _ c hpr_sub (Dx.Cols.merge_left_twin hRn hkeys hc)
  have hlabR : ∀ c, c ∈ (mergeLists m (labels L) (labels R) proj).2 →
      labelR m (mergeLists m (labels L) (labels R) proj).1 c = labelR m (labels L) c := fun c hc =>
    Dx.Cols.labelR_pruned m (labels L) _ c hpl_sub (Dx.Cols.merge_right_twin hRn hkeys hc)
  have hsrcL : ∀ c, c ∈ labels L → proj.contains (labelL m (labels R) c) = true →
      c ∈ (mergeLists m (labels L) (labels R) proj).1 := fun c hc hr =>
    (Dx.Cols.merge_left_source m (labels L) (labels R) proj hRn hkeys.1 hc hr).1
  have hsrcR : ∀ c, c ∈ labels R → proj.contains (labelR m (labels L) c) = true →
      c ∈ (mergeLists m (labels L) (labels R) proj).2 := fun c hc hr =>
    (Dx.Cols.merge_right_source m (labels L) (labels R) proj hRn hkeys.2 hc hr).1
  have hkL : ∀ k, k ∈ m.leftOn → k ∈ labels L → k ∈ (mergeLists m (labels L) (labels R) proj).1 := fun k hk hl =>
    Dx.Cols.merge_left_keys m (labels L) (labels R) proj hRn hk hl
  have hkR : ∀ k, k ∈ m.rightOn → k ∈ labels R → k ∈ (mergeLists m (labels L) (labels R) proj).2 := fun k hk hr =>
    Dx.Cols.merge_right_keys m (labels L) (labels R) proj hRn hk hr
  have hok0 := hok
  simp only [pMergeChecks, Bool.and_eq_true, List.all_eq_true, decide_eq_true_eq] at hok
  obtain ⟨⟨c1, c2L, c2R⟩, hnd⟩ := hok
  have hnd' : (labels (mergeCols m subL subR)).Nodup := by
    rw [labels_mergeCols, selectCols_labels hsL, selectCols_labels hsR]
    rw [labels_mergeCols] at hnd
    exact Dx.Cols.mergeLabels_pruned_nodup hLn hRn hkeys hnd
  have hlsL := selectCols_labels hsL
  have hlsR := selectCols_labels hsR
  generalize (mergeLists m (labels L) (labels R) proj).1 = pl at *
  generalize (mergeLists m (labels L) (labels R) proj).2 = pr at *
  have hok' : pMergeChecks m subL subR = true := by
    simp only [pMergeChecks, Bool.and_eq_true, List.all_eq_true, decide_eq_true_eq, hlsL, hlsR]
    exact ⟨⟨c1, fun k hk => List.contains_iff_mem.mpr (hkL k hk (List.contains_iff_mem.mp (c2L k hk))),
      fun k hk => List.contains_iff_mem.mpr (hkR k hk (List.contains_iff_mem.mp (c2R k hk)))⟩, hnd'⟩
  rw [pMerge_frame, pMerge_frame, hok', hok0, if_pos rfl, if_pos rfl]
  refine Or.inr ⟨_, _, _, rfl, rfl, fun y hy => ?_⟩
  obtain ⟨k, hk⟩ := hfound y hy
  rw [hk]
  refine lookup_of_mem_nodup hnd' (y, k) ?_
  have hmem := lookup_mem hk
  unfold mergeCols at hmem ⊢
  rw [hlsL, hlsR]
  rcases List.mem_append.mp hmem with hm1 | hm1
  · obtain ⟨c, hc, hce⟩ := List.mem_map.mp hm1
    cases hce
    have hsrc := hsrcL c.1 (List.mem_map_of_mem hc) (hP _ hy)
    exact List.mem_append_left _ (List.mem_map.mpr ⟨c, selectCols_mem_of hsL hLn hc hsrc, by rw [hlabL c.1 hsrc]⟩)
  · obtain ⟨c, hc, hce⟩ := List.mem_map.mp hm1
    cases hce
    obtain ⟨hcR, hck⟩ := List.mem_filter.mp hc
    have hsrc := hsrcR c.1 (List.mem_map_of_mem hcR) (hP _ hy)
    exact List.mem_append_right _ (List.mem_map.mpr
      ⟨c, List.mem_filter.mpr ⟨selectCols_mem_of hsR hRn hcR hsrc, hck⟩, by rw [hlabR c.1 hsrc]⟩)

theorem push_merge (deps : List Dep) (pop : UOp) (prt rt : Rt) (m : MergeP) (l r t' : Tree) (p : Parent)
    (hp : parentOf pop = some p) (L : List Col) (li : List Lvl) (R : List Col) (ri : List Lvl)
    (hL : declT l = .frame L li) (hR : declT r = .frame R ri)
    (hLn : (labels L).Nodup) (hRn : (labels R).Nodup)
    (hkeys : KeysDoNotCollide m.cp (labels L) (labels R))
    (hok : declT (.un pop prt (.merge m rt l r)) ≠ .bad)
    (h : pushdown deps (.un pop prt (.merge m rt l r)) = some t') :
    declT t' = declT (.un pop prt (.merge m rt l r)) := by
  simp only [pushdown, hp, hL, hR, frameLabels] at h
  cases hm : Dx.Cols.merge m.cp (labels L) (labels R) p deps with
  | none => rw [hm] at h; cases h
  | some w =>
    rw [hm] at h
    simp only [Option.map_some, Option.some.injEq] at h
    subst h
    cases Dx.Cols.merge_spec hm
    simp only [child0, child1, List.headD_cons, List.drop_succ_cons, List.drop_zero, if_true]
    obtain ⟨subL, hsL⟩ := selectCols_some_of_sub L _
      (Dx.Cols.merge_left_sub m.cp (labels L) (labels R) (Dx.Cols.detProj p deps []).toList hRn)
    obtain ⟨subR, hsR⟩ := selectCols_some_of_sub R _
      (Dx.Cols.merge_right_sub m.cp (labels L) (labels R) (Dx.Cols.detProj p deps []).toList hRn)
    simp only [declT, declMerge] at hok ⊢
    rw [hL, hR] at hok
    rw [declT_wrap_many l _ L li hL, declT_wrap_many r _ R ri hR, hL, hR]
    simp only [pGetCols, hsL, hsR]
    have hokm : pMergeChecks m.cp L R = true := by
      cases hb : pMergeChecks m.cp L R with
      | true => rfl
      | false => rw [pMerge_frame, hb] at hok; exact absurd (declU_parent_bad hp) hok
    rw [pMerge_frame, hokm, if_pos rfl] at hok
    exact SameOn.proj hp (pMerge_sameOn m.cp li ri hLn hRn hkeys hsL hsR
      (fun y hy => Dx.Cols.detProj_contains.mpr (Dx.Cols.parent_mem_union hy)) hokm
      (parent_lookup_some hp _ rangeIdx hok))

end Dx.Meta

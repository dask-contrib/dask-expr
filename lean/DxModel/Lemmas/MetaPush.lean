/-
  Lemmas/MetaPush.lean — the projection push-down rules of `Dx.Cols`, applied to expression trees, keep the
  declared schema of the root (C07).  A projection onto `P` cannot tell apart two frames whose columns agree under
  the labels of `P` (`SameOn`); every rule that keeps the parent prunes the input to a sub-list of its labels
  (`push_pruned`), and each operator maps the pruned and the whole input to results that are `SameOn` the request.
-/
import DxModel.Meta
import DxModel.MetaPush
import DxModel.Lemmas.Meta
import DxModel.Lemmas.MetaConcat
import DxModel.Lemmas.Cols
import DxModel.Lemmas.ColsRules
import DxModel.Lemmas.ColsSem
namespace Dx.Meta
open Dx.Cols (Parent Dep Rw Sel Adequate)

theorem selectCols_cons {cols : List Col} {c : Name} {cs : List Name} {sub : List Col}
    (h : selectCols cols (c :: cs) = some sub) :
    ∃ k r, cols.lookup c = some k ∧ selectCols cols cs = some r ∧ sub = (c, k) :: r := by
  rw [selectCols] at h
  cases hc : cols.lookup c with
  | none => rw [hc] at h; cases h
  | some k =>
    cases hr : selectCols cols cs with
    | none => rw [hc, hr] at h; cases h
    | some r => rw [hc, hr] at h; cases h; exact ⟨k, r, rfl, rfl, rfl⟩

theorem selectCols_labels : ∀ {cols : List Col} {cs : List Name} {sub : List Col}, selectCols cols cs = some sub → labels sub = cs
  | _, [], sub, h => by cases h; rfl
  | cols, c :: cs, sub, h => by
    obtain ⟨k, r, _, hr, rfl⟩ := selectCols_cons h
    exact congrArg (c :: ·) (selectCols_labels hr)

theorem selectCols_lookup : ∀ {cols : List Col} {cs : List Name} {sub : List Col}, selectCols cols cs = some sub →
    ∀ c, sub.lookup c = if cs.contains c then cols.lookup c else none
  | _, [], sub, h, c => by cases h; rfl
  | cols, x :: cs, sub, h, c => by
    obtain ⟨k, r, hx, hr, rfl⟩ := selectCols_cons h
    rw [List.lookup_cons, List.contains_cons]
    cases hb : (c == x) with
    | true => cases eq_of_beq hb; exact hx.symm
    | false => exact selectCols_lookup hr c

theorem selectCols_some_of_sub : ∀ (cols : List Col) (cs : List Name), (∀ c, c ∈ cs → c ∈ labels cols) →
    ∃ sub, selectCols cols cs = some sub
  | _, [], _ => ⟨[], rfl⟩
  | cols, c :: cs, h => by
    obtain ⟨r, hr⟩ := selectCols_some_of_sub cols cs (fun x hx => h x (by simp [hx]))
    cases hc : cols.lookup c with
    | none => exact absurd (h c (by simp)) ((lookup_none_iff cols c).mp hc)
    | some k => exact ⟨(c, k) :: r, by simp [selectCols, hc, hr]⟩

theorem selectCols_congr (A B : List Col) : ∀ (P : List Name), (∀ c, c ∈ P → A.lookup c = B.lookup c) →
    selectCols A P = selectCols B P
  | [], _ => rfl
  | c :: cs, h => by
    simp only [selectCols, h c (by simp), selectCols_congr A B cs (fun x hx => h x (by simp [hx]))]

/-- an adequate child: the columns the parent asks for and the operator's keys are found with the kinds they had -/
theorem adequate_lookup {cols : List Col} {keys P child : List Name} {sub : List Col}
    (had : Adequate (labels cols) keys P child) (hs : selectCols cols child = some sub) :
    ∀ c, (c ∈ P ∨ c ∈ keys) → sub.lookup c = cols.lookup c := by
  intro c hc
  rw [selectCols_lookup hs c]
  by_cases hm : child.contains c = true
  · rw [if_pos hm]
  · rw [if_neg hm]
    have hnot : c ∉ labels cols := by
      intro hin
      apply hm
      apply List.contains_iff_mem.mpr
      rcases hc with h | h
      · exact had.req c h hin
      · exact had.keys c h hin
    exact ((lookup_none_iff cols c).mpr hnot).symm

theorem selectCols_mem : ∀ {cols : List Col} {cs : List Name} {sub : List Col}, selectCols cols cs = some sub →
    ∀ x, x ∈ sub → x ∈ cols
  | _, [], sub, h, x, hx => by cases h; cases hx
  | cols, c :: cs, sub, h, x, hx => by
    obtain ⟨k, r, hc, hr, rfl⟩ := selectCols_cons h
    rcases List.mem_cons.mp hx with rfl | hx'
    · exact lookup_mem hc
    · exact selectCols_mem hr x hx'

theorem parentOf_cases {pop : UOp} {p : Parent} (hp : parentOf pop = some p) :
    (∃ cs, pop = .getCols cs ∧ p = .list cs) ∨ (∃ c, pop = .getCol c ∧ p = .scalar c) := by
  cases pop <;> cases hp
  · exact Or.inl ⟨_, rfl, rfl⟩
  · exact Or.inr ⟨_, rfl, rfl⟩

theorem declU_getCols (cs : List Name) (cols : List Col) (idx : List Lvl) :
    declU (.getCols cs) (.frame cols idx) = pGetCols cs (.frame cols idx) := rfl
theorem declU_getCol (c : Name) (cols : List Col) (idx : List Lvl) :
    declU (.getCol c) (.frame cols idx) = pGetCol c (.frame cols idx) := rfl

/-- two schemas that a projection onto the labels `P` cannot tell apart: equal, or frames over one index whose
    columns agree under every label of `P` -/
def SameOn (P : List Name) (s s' : Sch) : Prop :=
  s = s' ∨ ∃ a b i, s = .frame a i ∧ s' = .frame b i ∧ ∀ c, c ∈ P → a.lookup c = b.lookup c

/-- the parent only looks the requested labels up -/
theorem SameOn.proj {pop : UOp} {p : Parent} (hp : parentOf pop = some p) {s s' : Sch} (h : SameOn p.cols s s') :
    declU pop s = declU pop s' := by
  rcases h with rfl | ⟨a, b, i, rfl, rfl, h⟩
  · rfl
  · rcases parentOf_cases hp with ⟨cs, rfl, rfl⟩ | ⟨c, rfl, rfl⟩
    · simp only [declU_getCols, pGetCols]
      rw [selectCols_congr a b cs h]
    · simp only [declU_getCol, pGetCol]
      rw [h c List.mem_cons_self]

theorem proj_congr {pop : UOp} {p : Parent} (hp : parentOf pop = some p) (rc rc' : List Col) (ri : List Lvl)
    (h : ∀ c, c ∈ p.cols → rc'.lookup c = rc.lookup c) :
    declU pop (.frame rc' ri) = declU pop (.frame rc ri) :=
  SameOn.proj hp (Or.inr ⟨_, _, _, rfl, rfl, h⟩)

/-- `frame[parent.operand("columns")]` is the parent itself -/
theorem wrap_operand {pop : UOp} {p : Parent} (hp : parentOf pop = some p) (t : Tree) :
    declT (wrap t (some p.operand)) = declU pop (declT t) := by
  rcases parentOf_cases hp with ⟨cs, rfl, rfl⟩ | ⟨c, rfl, rfl⟩ <;> rfl

theorem parent_overFrame {pop : UOp} {p : Parent} (hp : parentOf pop = some p) : p.overFrame := by
  rcases parentOf_cases hp with ⟨cs, rfl, rfl⟩ | ⟨c, rfl, rfl⟩ <;> trivial

theorem declU_parent_bad {pop : UOp} {p : Parent} (hp : parentOf pop = some p) : declU pop .bad = .bad := by
  rcases parentOf_cases hp with ⟨cs, rfl, rfl⟩ | ⟨c, rfl, rfl⟩ <;> rfl

theorem declT_wrap_many (t : Tree) (cs : List Name) (cols : List Col) (idx : List Lvl) (hS : declT t = .frame cols idx) :
    declT (wrap t (some (.many cs))) = pGetCols cs (.frame cols idx) := by
  simp only [wrap, declT, declU, hS]

theorem declU_keep (s : Sch) : declU .keep s = s := rfl
theorem declT_un (op : UOp) (rt : Rt) (t : Tree) : declT (.un op rt t) = declU op (declT t) := by simp only [declT]

/-! ### an operator over a pruned input, below the parent projection

Every rule that keeps the parent puts `frame[child]` below the operator, for some sub-list `child` of the frame's
labels.  The rewritten query declares what the query declared as soon as the operator's two results cannot be told
apart by the parent. -/

theorem push_pruned {pop : UOp} {p : Parent} (hp : parentOf pop = some p) (prt rt : Rt) (op : UOp) {t : Tree}
    {cols : List Col} {idx : List Lvl} {child : List Name} (hS : declT t = .frame cols idx)
    (hsub : ∀ c, c ∈ child → c ∈ labels cols)
    (hop : ∀ sub, selectCols cols child = some sub → SameOn p.cols (declU op (.frame sub idx)) (declU op (.frame cols idx))) :
    declT (.un pop prt (.un op rt (wrap t (some (.many child))))) = declT (.un pop prt (.un op rt t)) := by
  obtain ⟨sub, hs⟩ := selectCols_some_of_sub cols child hsub
  rw [declT_un, declT_un, declT_un, declT_un, declT_wrap_many t child cols idx hS, hS]
  simp only [pGetCols, hs]
  exact (hop sub hs).proj hp

/-- shape of a rewrite by a rule that keeps the parent and prunes the input to `child`; `h` is the branch of
    `pushdown` (DxModel/MetaPush.lean) for such a rule -/
theorem keep1_shape {pop : UOp} {prt rt : Rt} {op : UOp} {t t' : Tree} {orw : Option Rw} {child : List Name}
    (hspec : ∀ w, orw = some w → w.isKeep1 child)
    (h : orw.map (fun w => (if w.keep then Tree.un pop prt (.un op rt (wrap t (child0 w))) else .un op rt (wrap t (child0 w)))) = some t') :
    t' = .un pop prt (.un op rt (wrap t (some (.many child)))) := by
  cases orw with
  | none => cases h
  | some w =>
    simp only [Option.map_some, Option.some.injEq] at h
    obtain ⟨hc, hkeep, _⟩ := hspec w rfl
    rw [← h]
    simp only [hkeep, if_true, child0, hc, List.headD_cons]

/-- shape of a rewrite by `plain_column_projection`: the parent goes and the input is projected as the parent projects
    (every requested label exists), or the parent stays over an input pruned to an adequate `child` -/
theorem plain_shape {pop : UOp} {p : Parent} (hp : parentOf pop = some p) {cols : List Col} {deps : List Dep} {w : Rw}
    (h : Dx.Cols.plain (labels cols) p deps = some w) :
    (w.keep = false ∧ child0 w = some p.operand ∧ ∀ c, c ∈ p.cols → c ∈ labels cols) ∨
    (w.keep = true ∧ ∃ child, child0 w = some (.many child) ∧ Adequate (labels cols) [] p.cols child) := by
  have had := Dx.Cols.plainSel_adequate (labels cols) p deps []
  rcases Dx.Cols.plain_cases h with ⟨he, rfl⟩ | ⟨hne, rfl⟩
  · refine Or.inl ⟨rfl, congrArg some he, ?_⟩
    have hop : p.operand.toList = p.cols := by
      rcases parentOf_cases hp with ⟨cs, rfl, rfl⟩ | ⟨c, rfl, rfl⟩ <;> rfl
    rw [he, hop] at had
    exact had.sub
  · refine Or.inr ⟨rfl, ?_⟩
    cases hsel : Dx.Cols.plainSel (labels cols) (Dx.Cols.detProj p deps []) with
    | one c =>
      exfalso
      apply hne
      rw [hsel, Dx.Cols.plain_collapse (parent_overFrame hp) hsel]
      rfl
    | many child =>
      rw [hsel] at had
      exact ⟨child, rfl, had⟩

theorem adequate_sameOn {cols : List Col} {keys P child : List Name} {sub : List Col} {idx : List Lvl}
    (had : Adequate (labels cols) keys P child) (hs : selectCols cols child = some sub) :
    SameOn P (.frame sub idx) (.frame cols idx) :=
  Or.inr ⟨_, _, _, rfl, rfl, fun c hc => adequate_lookup had hs c (Or.inl hc)⟩

/-- A rule that is `plain_column_projection` below an operator, whose new node `op keep` may depend on whether the
    parent stays: the rewritten query declares what the query declared when `op false` commutes with a parent whose
    labels all exist, and `op true` cannot be told apart by the parent over an adequately pruned input. -/
theorem push_plain {pop : UOp} {p : Parent} (hp : parentOf pop = some p) (prt rt : Rt) (op : Bool → UOp) {t : Tree}
    {cols : List Col} {idx : List Lvl} {deps : List Dep} {w : Rw} (hS : declT t = .frame cols idx)
    (hpl : Dx.Cols.plain (labels cols) p deps = some w)
    (hdrop : (∀ c, c ∈ p.cols → c ∈ labels cols) →
      declU (op false) (declU pop (.frame cols idx)) = declU pop (declU (op true) (.frame cols idx)))
    (hkeep : ∀ child sub, Adequate (labels cols) [] p.cols child → selectCols cols child = some sub →
      SameOn p.cols (declU (op true) (.frame sub idx)) (declU (op true) (.frame cols idx))) :
    declT (if w.keep then .un pop prt (.un (op w.keep) rt (wrap t (child0 w))) else .un (op w.keep) rt (wrap t (child0 w))) =
      declT (.un pop prt (.un (op true) rt t)) := by
  rcases plain_shape hp hpl with ⟨hk, hc, hsub⟩ | ⟨hk, child, hc, had⟩
  · simp only [hk, hc, Bool.false_eq_true, if_false]
    rw [declT_un, wrap_operand hp t, declT_un, declT_un, hS]
    exact hdrop hsub
  · simp only [hk, hc, if_true]
    exact push_pruned hp prt rt _ hS had.sub (fun sub hs => hkeep child sub had hs)

/-! ### set_index and groupby: the input is pruned to the requested columns plus the operator's keys -/

theorem pSetIndex_sameOn {c : Name} {d : Bool} {P : List Name} {sub cols : List Col} {idx : List Lvl}
    (hl : ∀ y, y ∈ P ∨ y ∈ [c] → sub.lookup y = cols.lookup y) :
    SameOn P (pSetIndex c d (.frame sub idx)) (pSetIndex c d (.frame cols idx)) := by
  simp only [pSetIndex]
  rw [hl c (Or.inr List.mem_cons_self)]
  cases cols.lookup c with
  | none => exact Or.inl rfl
  | some k =>
    refine Or.inr ⟨_, _, _, rfl, rfl, fun y hy => ?_⟩
    cases d with
    | true =>
      simp only [if_true]
      rw [lookup_filter_key (· != c), lookup_filter_key (· != c), hl y (Or.inl hy)]
    | false => exact hl y (Or.inl hy)

theorem declGroupby_eq (keys : List Name) (sl : Slice) (f : Agg) (s : Sch) (hf : f ≠ .mean) :
    declGroupby keys sl f s = if isGroupAgg f then pGroupby keys sl f s else .bad := by
  unfold declGroupby
  by_cases hg : isGroupAgg f = true
  · simp only [hg, Bool.not_true, Bool.false_eq_true, if_false, hf, if_true]
    exact (acaMeta_squash (gbChunk keys sl f) (pGroupLevel (gbSecond f)) (pGroupLevel (gbSecond f)) s
      (gbFixed keys sl hf s)).trans (gbFixed keys sl hf s)
  · simp [hg]

theorem keyLevels_congr (A B : List Col) : ∀ (keys : List Name), (∀ k, k ∈ keys → A.lookup k = B.lookup k) →
    keyLevels A keys = keyLevels B keys
  | [], _ => rfl
  | k :: ks, h => by
    simp only [keyLevels, h k (by simp), keyLevels_congr A B ks (fun x hx => h x (by simp [hx]))]

theorem aggCols_all_some {f : Agg} : ∀ {A r : List Col}, aggCols f A = some r → ∀ x, x ∈ A → ∃ k, aggKind f x.2 = some k
  | [], _, _, x, hx => by cases hx
  | a :: t, r, h, x, hx => by
    obtain ⟨k, r', ha, ht, rfl⟩ := aggCols_cons h
    rcases List.mem_cons.mp hx with rfl | hx'
    · exact ⟨k, ha⟩
    · exact aggCols_all_some ht x hx'

theorem aggCols_of_all_some {f : Agg} : ∀ (A : List Col), (∀ x, x ∈ A → ∃ k, aggKind f x.2 = some k) → ∃ r, aggCols f A = some r
  | [], _ => ⟨[], rfl⟩
  | a :: t, h => by
    obtain ⟨k, hk⟩ := h a (by simp)
    obtain ⟨r, hr⟩ := aggCols_of_all_some t (fun x hx => h x (by simp [hx]))
    exact ⟨(a.1, k) :: r, by simp [aggCols, hk, hr]⟩

theorem aggCols_lookup {f : Agg} : ∀ {A r : List Col}, aggCols f A = some r → ∀ c, r.lookup c = (A.lookup c).bind (aggKind f)
  | [], r, h, c => by cases h; rfl
  | (n, k0) :: t, r, h, c => by
    obtain ⟨k, r', ha, ht, rfl⟩ := aggCols_cons h
    rw [List.lookup_cons, List.lookup_cons]
    cases hb : (c == n) with
    | true => exact ha.symm
    | false => exact aggCols_lookup ht c

/-- `df.groupby(keys)[sl].f()` over a pruned frame that still has the keys, a list selection and what the parent asks
    for: the parent sees no difference, provided the aggregation of the whole frame does not raise (a pruned column
    may be the one that `f` cannot aggregate) -/
theorem pGroupby_sameOn {keys : List Name} {sl : Slice} (hsl : ∀ c, sl ≠ .one c) {f : Agg} {P : List Name}
    {sub cols : List Col} {idx : List Lvl}
    (hl : ∀ y, y ∈ P ∨ y ∈ keys ++ sliceCols sl → sub.lookup y = cols.lookup y) (hmem : ∀ x, x ∈ sub → x ∈ cols)
    (hok : pGroupby keys sl f (.frame cols idx) ≠ .bad) :
    SameOn P (pGroupby keys sl f (.frame sub idx)) (pGroupby keys sl f (.frame cols idx)) := by
  unfold pGroupby
  simp only
  rw [keyLevels_congr sub cols keys (fun k hk => hl k (Or.inr (List.mem_append_left _ hk)))]
  cases hke : keys.isEmpty with
  | true => exact Or.inl rfl
  | false =>
    simp only [Bool.false_eq_true, if_false]
    cases hkl : keyLevels cols keys with
    | none => exact Or.inl rfl
    | some lv =>
      simp only
      cases sl with
      | one c => exact absurd rfl (hsl c)
      | many cs =>
        simp only
        rw [selectCols_congr sub cols cs (fun c hc => hl c (Or.inr (List.mem_append_right _ hc)))]
        exact Or.inl rfl
      | all =>
        simp only
        by_cases hsz : f = .size
        · simp only [if_pos hsz]; exact Or.inl rfl
        · simp only [if_neg hsz]
          cases hr : aggCols f (cols.filter (fun x => !keys.contains x.1)) with
          | none =>
            -- the only place where the whole frame can fail and the pruned one succeed
            refine absurd ?_ hok
            simp only [pGroupby, hke, hkl, hr, if_neg hsz, Bool.false_eq_true, if_false]
          | some r =>
            obtain ⟨r', hr'⟩ := aggCols_of_all_some (f := f) (sub.filter (fun x => !keys.contains x.1)) (fun x hx =>
              aggCols_all_some hr x (List.mem_filter.mpr ⟨hmem x (List.mem_filter.mp hx).1, (List.mem_filter.mp hx).2⟩))
            rw [hr']
            refine Or.inr ⟨_, _, _, rfl, rfl, fun y hy => ?_⟩
            rw [aggCols_lookup hr', aggCols_lookup hr, lookup_filter_key (fun n => !keys.contains n),
              lookup_filter_key (fun n => !keys.contains n), hl y (Or.inl hy)]

theorem labels_zip (new : List Name) (ks : List Kind) : ∀ c, c ∈ labels (new.zip ks) → c ∈ new := by
  intro c hc
  obtain ⟨x, hx, rfl⟩ := List.mem_map.mp hc
  exact (List.of_mem_zip hx).1

theorem noClash_not_mem {new old : List Name} (h : noClash new old = true) {c : Name} (hc : c ∈ old) : c ∉ new := by
  intro hn
  simp only [noClash, Bool.and_eq_true, List.all_eq_true] at h
  have := h.1 c hn
  simp only [Bool.not_eq_true'] at this
  exact contains_false.mp this hc

theorem noClash_sub {new old old' : List Name} (h : noClash new old = true) (hs : ∀ c, c ∈ old' → c ∈ old) :
    noClash new old' = true := by
  simp only [noClash, Bool.and_eq_true, List.all_eq_true] at h ⊢
  refine ⟨?_, h.2⟩
  intro n hn
  have := h.1 n hn
  simp only [Bool.not_eq_true'] at this ⊢
  exact contains_false.mpr (fun hc => contains_false.mp this (hs n hc))

/-- looking a frame column up in a reset frame goes past the former index -/
theorem lookup_reset {new : List Name} {ks : List Kind} {cols : List Col} (hn : noClash new (labels cols) = true)
    {c : Name} (hc : c ∈ labels cols) : (new.zip ks ++ cols).lookup c = cols.lookup c := by
  rw [List.lookup_append]
  have : (new.zip ks).lookup c = none := by
    apply (lookup_none_iff _ c).mpr
    intro h
    exact noClash_not_mem hn hc (labels_zip new ks c h)
  rw [this, Option.none_or]

/-- the guard of `ResetIndex._simplify_up`: the label of the former index does not depend on the pruned columns -/
theorem resetLabels_sub (idx : List Lvl) (C : List Col) (cols sub : List Name) (hs : ∀ c, c ∈ sub → c ∈ cols)
    (hg : indexNamed (.frame C idx) = true ∨ "index" ∉ cols) : resetLabels idx sub = resetLabels idx cols := by
  cases idx with
  | nil => rfl
  | cons a t =>
    obtain ⟨n, k⟩ := a
    cases t with
    | nil =>
      cases n with
      | none =>
        rcases hg with hg | hg
        · simp [indexNamed] at hg
        · have h1 : cols.contains "index" = false := contains_false.mpr hg
          have h2 : sub.contains "index" = false := contains_false.mpr (fun h => hg (hs _ h))
          simp only [resetLabels, h1, h2]
      | some x => rfl
    | cons b u => cases n <;> rfl

/-- `reset_index` of a pruned frame: the parent sees no difference when the label of the former index does not depend
    on the pruned columns (the guard of `ResetIndex._simplify_up`) and does not clash with a column -/
theorem pResetIndex_sameOn {d : Bool} {P : List Name} {sub cols : List Col} {idx : List Lvl}
    (hl : ∀ y, y ∈ P → sub.lookup y = cols.lookup y) (hlabs : ∀ c, c ∈ labels sub → c ∈ labels cols)
    (hguard : d = true ∨ indexNamed (.frame cols idx) = true ∨ "index" ∉ labels cols)
    (hclash : d = false → noClash (resetLabels idx (labels cols)) (labels cols) = true) :
    SameOn P (pResetIndex d (.frame sub idx)) (pResetIndex d (.frame cols idx)) := by
  cases d with
  | true => exact Or.inr ⟨_, _, _, rfl, rfl, hl⟩
  | false =>
    have hn := hclash rfl
    have hlab : resetLabels idx (labels sub) = resetLabels idx (labels cols) :=
      resetLabels_sub idx cols _ _ hlabs (hguard.resolve_left Bool.noConfusion)
    simp only [pResetIndex, Bool.false_eq_true, if_false, hlab, hn, noClash_sub hn hlabs, if_true]
    refine Or.inr ⟨_, _, _, rfl, rfl, fun c hc => ?_⟩
    rw [List.lookup_append, List.lookup_append, hl c hc]

/-- a `reset_index(drop=False)` that the parent can project is not an error: the former index does not clash with a
    column -/
theorem noClash_of_ok {pop : UOp} {p : Parent} (hp : parentOf pop = some p) {d : Bool} {cols : List Col} {idx : List Lvl}
    (hok : declU pop (pResetIndex d (.frame cols idx)) ≠ .bad) (hd : d = false) :
    noClash (resetLabels idx (labels cols)) (labels cols) = true := by
  subst hd
  cases hn : noClash (resetLabels idx (labels cols)) (labels cols) with
  | true => rfl
  | false =>
    refine absurd ?_ hok
    simp only [pResetIndex, Bool.false_eq_true, if_false, hn]
    exact declU_parent_bad hp

/-- the rule's other outcome, `ResetIndex(frame[P], drop=True)` without the parent: a projection whose labels all exist
    commutes with dropping the index, and does not see the former index as a column -/
theorem reset_of_projected {pop : UOp} {p : Parent} (hp : parentOf pop = some p) {d : Bool} {cols : List Col} (idx : List Lvl)
    (hsub : ∀ c, c ∈ p.cols → c ∈ labels cols)
    (hclash : d = false → noClash (resetLabels idx (labels cols)) (labels cols) = true) :
    pResetIndex true (declU pop (.frame cols idx)) = declU pop (pResetIndex d (.frame cols idx)) := by
  have hdrop : pResetIndex true (declU pop (.frame cols idx)) = declU pop (.frame cols rangeIdx) := by
    rcases parentOf_cases hp with ⟨cs, rfl, rfl⟩ | ⟨c, rfl, rfl⟩
    · obtain ⟨sel, hsel⟩ := selectCols_some_of_sub cols cs hsub
      simp only [declU_getCols, pGetCols, hsel, pResetIndex, if_true]
    · cases hk : cols.lookup c with
      | none => exact absurd (hsub c List.mem_cons_self) ((lookup_none_iff cols c).mp hk)
      | some k => simp only [declU_getCol, pGetCol, hk, pResetIndex, if_true]
  refine hdrop.trans (SameOn.proj hp ?_)
  cases d with
  | true => exact Or.inl rfl
  | false =>
    have hn := hclash rfl
    simp only [pResetIndex, Bool.false_eq_true, if_false, hn, if_true]
    exact Or.inr ⟨_, _, _, rfl, rfl, fun c hc => (lookup_reset hn (hsub c hc)).symm⟩

theorem lookup_mapLabels (φ : Name → Name) : ∀ (l : List Col) (y : Name),
    (l.map (fun c => (φ c.1, c.2))).lookup y = (l.find? (fun c => φ c.1 == y)).map (·.2)
  | [], _ => rfl
  | (n, k) :: t, y => by
    simp only [List.map_cons, List.lookup_cons, List.find?_cons]
    by_cases h : φ n = y
    · subst h; simp
    · have h1 : (y == φ n) = false := by simpa using fun e => h e.symm
      have h2 : (φ n == y) = false := by simpa using h
      rw [h1, h2]
      exact lookup_mapLabels φ t y

/-- relabelling a pruned input: a requested label whose source column is unique and kept is found as before -/
theorem relabel_lookup_sub (φ : Name → Name) (cols sub : List Col) (child : List Name) (y : Name)
    (hs : selectCols cols child = some sub) (hn : (labels cols).Nodup)
    (hsrc : ∀ x, x ∈ labels cols → φ x = y → x ∈ child)
    (huniq : ∀ x x', x ∈ labels cols → x' ∈ labels cols → φ x = y → φ x' = y → x = x') :
    (sub.map (fun c => (φ c.1, c.2))).lookup y = (cols.map (fun c => (φ c.1, c.2))).lookup y := by
  rw [lookup_mapLabels, lookup_mapLabels]
  cases hc : cols.find? (fun c => φ c.1 == y) with
  | none =>
    rw [List.find?_eq_none] at hc
    have : sub.find? (fun c => φ c.1 == y) = none := by
      rw [List.find?_eq_none]
      intro x hx
      exact hc x (selectCols_mem hs x hx)
    rw [this]
  | some e =>
    have hec : e ∈ cols := List.mem_of_find?_eq_some hc
    have hey : φ e.1 = y := by simpa using List.find?_some hc
    have hel : e.1 ∈ labels cols := List.mem_map.mpr ⟨e, hec, rfl⟩
    have hin : (e.1, e.2) ∈ sub := by
      apply lookup_mem
      rw [selectCols_lookup hs, if_pos (List.contains_iff_mem.mpr (hsrc e.1 hel hey))]
      exact lookup_of_mem_nodup hn e hec
    cases hsf : sub.find? (fun c => φ c.1 == y) with
    | none =>
      rw [List.find?_eq_none] at hsf
      exact absurd (by simpa using hey) (hsf _ hin)
    | some e' =>
      have he'c : e' ∈ cols := selectCols_mem hs e' (List.mem_of_find?_eq_some hsf)
      have he'y : φ e'.1 = y := by simpa using List.find?_some hsf
      have h1 : e'.1 = e.1 := huniq _ _ (List.mem_map.mpr ⟨e', he'c, rfl⟩) hel he'y hey
      have h2 := lookup_of_mem_nodup hn e' he'c
      have h3 := lookup_of_mem_nodup hn e hec
      rw [h1, h3] at h2
      simp only [Option.map_some]
      exact (Option.some.inj h2).symm ▸ rfl

theorem renameOne_eq_fwd (m : List (Name × Name)) (c : Name) : renameOne m c = Dx.Cols.renameFwd m c := by
  unfold renameOne Dx.Cols.renameFwd
  induction m with
  | nil => rfl
  | cons kv t ih =>
    obtain ⟨k, v⟩ := kv
    simp only [List.lookup_cons, List.find?_cons]
    by_cases h : c = k
    · subst h; simp
    · have h1 : (c == k) = false := by simpa using h
      have h2 : (k == c) = false := by simpa using fun e => h e.symm
      rw [h1, h2]
      exact ih

theorem pRename_eq_affix (m : List (Name × Name)) (s : Sch) : pRename m s = pAffix (renameOne m) s := by
  cases s <;> rfl

/-- a relabelling operator over an input pruned to a sub-list that keeps the unique source of every requested label:
    the parent sees no difference -/
theorem pAffix_sameOn (φ : Name → Name) {P : List Name} {cols sub : List Col} {idx : List Lvl} {child : List Name}
    (hs : selectCols cols child = some sub) (hn : (labels cols).Nodup)
    (hsrc : ∀ x, x ∈ labels cols → φ x ∈ P → x ∈ child)
    (huniq : ∀ x x', x ∈ labels cols → x' ∈ labels cols → φ x ∈ P → φ x' = φ x → x' = x) :
    SameOn P (pAffix φ (.frame sub idx)) (pAffix φ (.frame cols idx)) :=
  Or.inr ⟨_, _, _, rfl, rfl, fun y hy =>
    relabel_lookup_sub φ cols sub child y hs hn (fun x hx hxy => hsrc x hx (hxy ▸ hy))
      (fun x x' hx hx' hxy hx'y => (huniq x x' hx hx' (hxy ▸ hy) (by rw [hx'y, hxy])).symm)⟩

end Dx.Meta

/-
  Lemmas/LayerMergeTree.lean — `LayerWF` of `RepartitionQuantiles._layer` (Layers/MergeTree.lean) for every number of
  input partitions and every tree shape accepted by `levelsOK`.
-/
import DxModel.LayerOK
import DxModel.Layers.MergeTree
namespace Dx
namespace RQ

theorem spansFrom_length : ∀ (gs : List Nat) (s : Nat), (spansFrom s gs).length = gs.length
  | [], _ => rfl
  | _ :: t, _ => congrArg Nat.succ (spansFrom_length t _)

theorem spansFrom_bounds {a c : Nat} (gs : List Nat) : ∀ (s i : Nat), (spansFrom s gs)[i]? = some (a, c) →
    a + c ≤ s + total gs := by
  induction gs with
  | nil => intro s i h; cases h
  | cons c0 t ih =>
    intro s i h
    cases i with
    | zero =>
      cases h
      exact Nat.add_le_add_left (Nat.le_add_right _ _) _
    | succ i => exact Nat.add_assoc s c0 _ ▸ ih (s + c0) i h

theorem spans_bounds {gs : List Nat} {i s c : Nat} (h : (spans gs)[i]? = some (s, c)) : s + c ≤ total gs :=
  Nat.zero_add (total gs) ▸ spansFrom_bounds gs 0 i h

theorem spans_some (gs : List Nat) (i : Nat) (hi : i < gs.length) : ∃ sc, (spans gs)[i]? = some sc :=
  ⟨_, List.getElem?_eq_getElem ((spansFrom_length gs 0).symm ▸ hi)⟩

theorem spans_lt (gs : List Nat) (i : Nat) (sc : Nat × Nat) (h : (spans gs)[i]? = some sc) : i < gs.length :=
  spansFrom_length gs 0 ▸ (List.getElem?_eq_some_iff.mp h).1

/-- width of the level below level `l` -/
def widthBelow (p : Params) : Nat → Nat
  | 0 => p.n
  | l + 1 => match p.levels[l]? with
      | some gs => gs.length
      | none => 0

theorem levelsOKFrom_cons {w : Nat} {g : List Nat} {t : List (List Nat)} :
    levelsOKFrom w (g :: t) = true ↔ total g ≤ w ∧ 1 ≤ g.length ∧ levelsOKFrom g.length t = true := by
  simp only [levelsOKFrom, Bool.and_eq_true, decide_eq_true_eq, and_assoc]

theorem levelsOKFrom_spec (levels : List (List Nat)) : ∀ (w l : Nat) (gs : List Nat),
    levelsOKFrom w levels = true → levels[l]? = some gs → total gs ≤ widthBelow ⟨w, levels⟩ l ∧ 1 ≤ gs.length := by
  induction levels with
  | nil => intro w l gs _ h; cases h
  | cons g t ih =>
    intro w l gs hok h
    obtain ⟨h1, h2, h3⟩ := levelsOKFrom_cons.mp hok
    cases l with
    | zero => cases h; exact ⟨h1, h2⟩
    | succ l =>
      have := ih g.length l gs h3 h
      -- `widthBelow ⟨w, g :: t⟩ (l + 1)` reduces to `widthBelow ⟨g.length, t⟩ l` only for a constructor `l`
      cases l <;> exact this

theorem levels_spec (p : Params) (hok : levelsOK p = true) (l : Nat) (gs : List Nat) (h : p.levels[l]? = some gs) :
    total gs ≤ widthBelow p l ∧ 1 ≤ gs.length :=
  levelsOKFrom_spec p.levels p.n l gs (Bool.and_eq_true_iff.mp hok).2 h

def spec (p : Params) : LSpec Key :=
  { task := layer p
    nout := 1
    out := fun _ => .out
    outIdx := fun k => match k with | .out => some 0 | _ => none
    depOf := fun k => match k with | .dep i => some (0, i) | _ => none
    rank := fun k => match k with
      | .dep _ => 0 | .summ _ => 1 | .dtype => 1 | .node l _ => l + 2 | .out => p.levels.length + 3
    bound := p.levels.length + 3 }

/-- a node of the tree is the single fallback node over the first summary, or group `i` of level `l` -/
theorem node_eq_some {p : Params} {l i : Nat} {t : Tsk Key} : layer p (.node l i) = some t ↔
    (p.levels = [] ∧ l = 0 ∧ i = 0 ∧ t = .apply mergeFn [.summ 0]) ∨
    ∃ gs s c, p.levels[l]? = some gs ∧ (spans gs)[i]? = some (s, c) ∧
      t = .apply mergeFn ((List.range' s c).map (prevKey l)) := by
  unfold layer
  cases hp : p.levels with
  | nil =>
    simp only [List.isEmpty_nil, if_true, Option.ite_none_right_eq_some, Option.some.injEq, true_and, eq_comm (a := t),
      and_assoc, List.getElem?_nil, false_and, exists_false, or_false, reduceCtorEq]
  | cons g gs =>
    simp only [List.isEmpty_cons, Bool.false_eq_true, if_false, reduceCtorEq, false_and, false_or]
    constructor
    · intro h
      split at h
      · rename_i gs hg
        split at h
        · rename_i s c hs
          exact ⟨gs, s, c, hg, hs, (Option.some.inj h).symm⟩
        · cases h
      · cases h
    · rintro ⟨gs, s, c, hg, hs, rfl⟩
      simp only [hg, hs]

theorem node_isSome (p : Params) (l i : Nat) (gs : List Nat) (h : p.levels[l]? = some gs) (hi : i < gs.length) :
    (layer p (.node l i)).isSome :=
  have ⟨(s, c), hsc⟩ := spans_some gs i hi
  Option.isSome_iff_exists.mpr ⟨_, node_eq_some.mpr (.inr ⟨gs, s, c, h, hsc, rfl⟩)⟩

theorem summ_isSome (p : Params) (i : Nat) (hi : i < p.n) : (layer p (.summ i)).isSome :=
  Option.isSome_iff_exists.mpr ⟨_, if_pos hi⟩

theorem prevKey_isSome (p : Params) (l j : Nat) (hj : j < widthBelow p l) : (layer p (prevKey l j)).isSome := by
  cases l with
  | zero => exact summ_isSome p j hj
  | succ l =>
    cases hg : p.levels[l]? with
    | none => rw [widthBelow, hg] at hj; cases hj
    | some gs => rw [widthBelow, hg] at hj; exact node_isSome p l j gs hg hj

/-- `max(merge_dsk)` is a key of the tree -/
theorem mergedKey_ok (p : Params) (hok : levelsOK p = true) :
    (layer p (mergedKey p)).isSome ∧ (spec p).rank (mergedKey p) < p.levels.length + 3 := by
  unfold mergedKey
  split
  · rename_i hl
    exact ⟨Option.isSome_iff_exists.mpr ⟨_, node_eq_some.mpr (.inl ⟨List.getLast?_eq_none_iff.mp hl, rfl, rfl, rfl⟩)⟩,
      Nat.lt_add_left _ (Nat.lt_succ_self 2)⟩
  · rename_i gs hl
    rw [List.getLast?_eq_getElem?] at hl
    exact ⟨node_isSome p _ _ gs hl (Nat.sub_one_lt_of_lt (levels_spec p hok _ gs hl).2),
      Nat.lt_succ_of_le (Nat.add_le_add_right (Nat.sub_le _ 1) 2)⟩

theorem rq_wf (p : Params) (hok : levelsOK p = true) : LayerWF (spec p) [p.n] := by
  have hn : 0 < p.n := of_decide_eq_true (Bool.and_eq_true_iff.mp hok).1
  refine .ofRefs ?_ (fun _ _ => rfl) ?_ ?_ ?_ ?_
  · intro i hi
    obtain rfl : i = 0 := Nat.lt_one_iff.mp hi
    rfl
  · intro k i _ hidx
    cases k <;> cases hidx
    exact ⟨Nat.one_pos, rfl⟩
  · intro k hk; cases k <;> first | rfl | cases hk
  · intro k t hk r hr
    cases k with
    | dep => cases hk
    | dtype =>
      cases hk
      cases List.mem_singleton.mp hr
      exact .dep rfl rfl hn
    | summ i =>
      obtain ⟨hi, ht⟩ := Option.ite_none_right_eq_some.mp hk
      cases ht
      cases List.mem_singleton.mp hr
      exact .dep rfl rfl hi
    | out =>
      cases hk
      rcases List.mem_cons.mp hr with rfl | hr
      · exact .own (mergedKey_ok p hok).1 (mergedKey_ok p hok).2
      · cases List.mem_singleton.mp hr
        exact .own rfl (Nat.lt_add_left _ (show 1 < 3 by decide))
    | node l i =>
      rcases node_eq_some.mp hk with ⟨_, rfl, _, rfl⟩ | ⟨gs, s, c, hg, hs, rfl⟩
      · cases List.mem_singleton.mp hr
        exact .own (summ_isSome p 0 hn) (Nat.lt_succ_self 1)
      · obtain ⟨j, hj, rfl⟩ := List.mem_map.mp hr
        have hjw : j < widthBelow p l :=
          Nat.lt_of_lt_of_le (List.mem_range'_1.mp hj).2
            (Nat.le_trans (spans_bounds hs) (levels_spec p hok l gs hg).1)
        exact .own (prevKey_isSome p l j hjw) (by cases l <;> exact Nat.lt_succ_self _)
  · intro k hk
    cases k with
    | dep => cases hk
    | dtype => exact Nat.le_add_left 1 _
    | summ => exact Nat.le_add_left 1 _
    | out => exact Nat.le_refl _
    | node l i =>
      obtain ⟨t, ht⟩ := Option.isSome_iff_exists.mp hk
      rcases node_eq_some.mp ht with ⟨_, rfl, _⟩ | ⟨gs, _, _, hg, _⟩
      · exact Nat.le_add_left 2 _
      · exact Nat.add_le_add_right (Nat.le_of_lt (Nat.lt_succ_of_lt (List.getElem?_eq_some_iff.mp hg).1)) 2

end RQ
end Dx

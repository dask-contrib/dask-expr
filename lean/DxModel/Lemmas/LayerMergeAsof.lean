/-
  Lemmas/LayerMergeAsof.lean — `LayerWF` of `MergeAsofIndexed._layer` (Layers/MergeAsof.lean): the Blelloch
  up and down sweep of `prefix_reduction` / `suffix_reduction` is closed and ranked for every `n ≤ 2^L`, and so is the
  merge layer on top of it for every result of `pair_partitions` accepted by `paramsOK`.
-/
import DxModel.LayerOK
import DxModel.Layers.MergeAsof
namespace Dx
namespace Scan

theorem pow_pos' (a : Nat) : 0 < 2 ^ a := Nat.pow_pos (by decide)

/-- level `e` of the sweep has twice as many blocks as level `e + 1` -/
theorem pow_split (L e : Nat) (h : e < L) : 2 ^ (L - e) = 2 * 2 ^ (L - (e + 1)) := by
  rw [← Nat.succ_pred_eq_of_pos (Nat.sub_pos_of_lt h), Nat.pow_succ, Nat.mul_comm]; rfl

theorem child_lt {L e k : Nat} (h : e < L) (hk : k < 2 ^ (L - (e + 1))) : 2 * k + 1 < 2 ^ (L - e) := by
  rw [pow_split L e h]
  exact Nat.mul_le_mul_left 2 hk  -- `2 * k + 1 < x` unfolds to `2 * (k + 1) ≤ x`

theorem parent_lt {L e k : Nat} (h : e < L) (hk : k < 2 ^ (L - e)) : k / 2 < 2 ^ (L - (e + 1)) :=
  Nat.div_lt_of_lt_mul (pow_split L e h ▸ hk)

theorem idx_lt (rev : Bool) {n i : Nat} (h : i < n) : (if rev then n - 1 - i else i) < n := by
  split
  · exact Nat.lt_of_le_of_lt (Nat.sub_le _ _) (Nat.sub_lt (Nat.zero_lt_of_lt h) Nat.one_pos)
  · exact h

theorem isSome_ite_of {α} {c : Prop} [Decidable c] {x : Option α} (hx : c → x.isSome) :
    (if c then x else none).isSome ↔ c := by
  split
  · exact iff_of_true (hx ‹c›) ‹c›
  · exact iff_of_false nofun ‹¬c›

theorem up_isSome (p : Params) (e k : Nat) : (layer p (.up e k)).isSome ↔ e ≤ p.L ∧ k < 2 ^ (p.L - e) :=
  match e with
  | 0 => (isSome_ite_of (fun _ => by split <;> rfl)).trans ⟨fun h => ⟨p.L.zero_le, h⟩, And.right⟩
  | _ + 1 => Option.isSome_ite

theorem down_isSome (p : Params) (e k : Nat) : (layer p (.down e k)).isSome ↔ e ≤ p.L ∧ k < 2 ^ (p.L - e) := by
  by_cases he : e = p.L
  · rw [show layer p (.down e k) = _ from if_pos he, he, Nat.sub_self]
    exact Option.isSome_ite.trans ⟨fun h => ⟨p.L.le_refl, Nat.lt_one_iff.mpr h⟩, fun h => Nat.lt_one_iff.mp h.2⟩
  · rw [show layer p (.down e k) = _ from if_neg he]
    exact (isSome_ite_of (fun _ => by split <;> rfl)).trans
      ⟨fun h => ⟨Nat.le_of_lt h.1, h.2⟩, fun h => ⟨Nat.lt_of_le_of_ne h.1 he, h.2⟩⟩

theorem res_isSome (p : Params) (i : Nat) : (layer p (.res i)).isSome ↔ i < p.n :=
  Option.isSome_ite

theorem forall_mem_ordered {P : Key → Prop} {rev : Bool} {a b : Key} (ha : P a) (hb : P b) :
    ∀ r ∈ ordered rev a b, P r := by
  cases rev
  · exact List.forall_mem_cons.mpr ⟨ha, List.forall_mem_cons.mpr ⟨hb, nofun⟩⟩
  · exact List.forall_mem_cons.mpr ⟨hb, List.forall_mem_cons.mpr ⟨ha, nofun⟩⟩

/-! `Scan.rank` puts the up-sweep (ranks `≤ L + 1`) before the down-sweep (ranks `L + 2 … 2L + 2`), the results last. -/

theorem rank_up_le (p : Params) {e : Nat} (he : e ≤ p.L) (k : Nat) : rank p (.up e k) ≤ p.L + 1 :=
  Nat.succ_le_succ he

theorem rank_down_le (p : Params) (e k : Nat) : rank p (.down e k) ≤ 2 * p.L + 2 :=
  Nat.le_trans (Nat.add_le_add_left (Nat.sub_le p.L e) _) (by omega)

/-- what is to be shown of a reference `r` of the task at `k`: smaller rank, and (when `n ≤ 2^L`) a defined key of
    the reduction or an existing partition of the frame -/
def RefBelow (p : Params) (k r : Key) : Prop :=
  rank p r < rank p k ∧ (p.n ≤ 2 ^ p.L → (layer p r).isSome ∨ ∃ j, r = .src j ∧ j < p.n)

theorem RefBelow.own {p : Params} {k r : Key} (hr : rank p r < rank p k) (hs : (layer p r).isSome) : RefBelow p k r :=
  ⟨hr, fun _ => .inl hs⟩

theorem scan_refs (p : Params) (k : Key) (t : Tsk Key) (hk : layer p k = some t) : ∀ r ∈ t.refs, RefBelow p k r := by
  cases k with
  | src => cases hk
  | res i =>
    obtain ⟨hi, ht⟩ := Option.ite_none_right_eq_some.mp hk
    cases ht
    exact List.forall_mem_singleton.mpr ⟨Nat.lt_succ_of_le (rank_down_le ..), fun hn =>
      .inl ((down_isSome ..).mpr ⟨p.L.zero_le, Nat.lt_of_lt_of_le (idx_lt p.rev hi) hn⟩)⟩
  | up e kk =>
    cases e with
    | zero =>
      obtain ⟨_, hk⟩ := Option.ite_none_right_eq_some.mp hk
      by_cases h : kk < p.n
      · cases (if_pos h).symm.trans hk
        exact List.forall_mem_singleton.mpr ⟨Nat.one_pos, fun _ => .inr ⟨_, rfl, idx_lt p.rev h⟩⟩
      · cases (if_neg h).symm.trans hk
        nofun
    | succ e =>
      obtain ⟨⟨he, hkk⟩, ht⟩ := Option.ite_none_right_eq_some.mp hk
      cases ht
      have h1 := child_lt he hkk
      exact forall_mem_ordered
        (.own (Nat.lt_succ_self _) ((up_isSome ..).mpr ⟨Nat.le_of_lt he, Nat.lt_of_succ_lt h1⟩))
        (.own (Nat.lt_succ_self _) ((up_isSome ..).mpr ⟨Nat.le_of_lt he, h1⟩))
  | down e kk =>
    by_cases hL : e = p.L
    · obtain ⟨_, ht⟩ := Option.ite_none_right_eq_some.mp ((if_pos hL).symm.trans hk)
      cases ht
      nofun
    · obtain ⟨⟨he, hkk⟩, ht⟩ := Option.ite_none_right_eq_some.mp ((if_neg hL).symm.trans hk)
      have parent : RefBelow p (.down e kk) (.down (e + 1) (kk / 2)) :=
        .own (Nat.add_lt_add_left (Nat.sub_lt_sub_left he e.lt_succ_self) _)
          ((down_isSome ..).mpr ⟨he, parent_lt he hkk⟩)
      by_cases hodd : kk % 2 = 1
      · cases (if_pos hodd).symm.trans ht
        exact forall_mem_ordered parent
          (.own (Nat.lt_of_le_of_lt (rank_up_le p (Nat.le_of_lt he) _) (Nat.lt_add_right _ (Nat.lt_succ_self _)))
            ((up_isSome ..).mpr ⟨Nat.le_of_lt he, Nat.lt_of_le_of_lt (Nat.sub_le kk 1) hkk⟩))
      · cases (if_neg hodd).symm.trans ht
        exact List.forall_mem_singleton.mpr parent

theorem scan_closed (p : Params) (hn : p.n ≤ 2 ^ p.L) (k : Key) (t : Tsk Key) (hk : layer p k = some t) :
    ∀ r ∈ t.refs, (layer p r).isSome ∨ ∃ j, r = .src j ∧ j < p.n :=
  fun r hr => (scan_refs p k t hk r hr).2 hn

theorem scan_ranked (p : Params) (k : Key) (t : Tsk Key) (hk : layer p k = some t) :
    ∀ r ∈ t.refs, rank p r < rank p k :=
  fun r hr => (scan_refs p k t hk r hr).1

theorem scan_bounded (p : Params) (k : Key) (h : (layer p k).isSome) : rank p k ≤ 2 * p.L + 3 := by
  cases k with
  | src => cases h
  | res => exact Nat.le_refl _
  | up e kk => exact Nat.le_trans (rank_up_le p ((up_isSome p e kk).mp h).1 kk) (by omega)
  | down e kk => exact Nat.le_succ_of_le (rank_down_le p e kk)

end Scan

namespace Asof

def spec (p : Params) : LSpec Key :=
  { task := layer p
    nout := p.nl
    out := Key.out
    outIdx := fun k => match k with | .out i => some i | _ => none
    depOf := fun k => match k with | .l i => some (0, i) | .r j => some (1, j) | _ => none
    rank := fun k => match k with
      | .l _ => 0 | .r _ => 0 | .t k => Scan.rank (tp p) k | .h k => Scan.rank (hp p) k | .out _ => 2 * p.L + 4
    bound := 2 * p.L + 4 }

theorem layer_t_eq (p : Params) (k : Scan.Key) :
    layer p (.t k) = if p.tails then (Scan.layer (tp p) k).map (fun t => t.mapKeys embT) else none := by
  cases k
  case src => exact (ite_self none).symm
  all_goals rfl

theorem layer_h_eq (p : Params) (k : Scan.Key) :
    layer p (.h k) = if p.heads then (Scan.layer (hp p) k).map (fun t => t.mapKeys embH) else none := by
  cases k
  case src => exact (ite_self none).symm
  all_goals rfl

theorem layer_out_eq (p : Params) (i : Nat) :
    layer p (.out i) = p.pairs[i]?.map (fun J => .apply mergeFn (J.flatMap (frameRefs p i))) := by
  simp only [layer]
  cases p.pairs[i]? <;> rfl

/-- One of the two reductions (over the right frame, `rev` for the suffix one) inside the merge layer: `c` is the
    constructor of its keys, `e` the embedding of its references, `flag` whether the direction asks for it. -/
structure Emb (p : Params) (rev flag : Bool) (c e : Scan.Key → Key) : Prop where
  src : ∀ j, e (.src j) = .r j
  own : ∀ k, (Scan.layer ⟨p.m, p.L, rev⟩ k).isSome → e k = c k
  task : ∀ k, layer p (c k) = if flag then (Scan.layer ⟨p.m, p.L, rev⟩ k).map (fun t => t.mapKeys e) else none
  rank : ∀ k, (spec p).rank (c k) = Scan.rank ⟨p.m, p.L, rev⟩ k

theorem embT_ok (p : Params) : Emb p false p.tails .t embT where
  src _ := rfl
  own k h := by
    cases k
    case src => cases h
    all_goals rfl
  task := layer_t_eq p
  rank _ := rfl

theorem embH_ok (p : Params) : Emb p true p.heads .h embH where
  src _ := rfl
  own k h := by
    cases k
    case src => cases h
    all_goals rfl
  task := layer_h_eq p
  rank _ := rfl

namespace Emb
variable {p : Params} {rev flag : Bool} {c e : Scan.Key → Key} (E : Emb p rev flag c e)
include E

theorem isSome (hf : flag = true) (k : Scan.Key) :
    (layer p (c k)).isSome = (Scan.layer ⟨p.m, p.L, rev⟩ k).isSome := by
  rw [E.task, if_pos hf, Option.isSome_map]

/-- what `Scan.scan_refs` says carries over: `src j` is partition `j` of the right frame -/
theorem refs (hN : p.m ≤ 2 ^ p.L) {k : Scan.Key} {t : Tsk Key} (hk : layer p (c k) = some t) :
    ∀ r ∈ t.refs, (spec p).RefOK [p.nl, p.m] (c k) r := by
  obtain ⟨hf, hk⟩ := Option.ite_none_right_eq_some.mp ((E.task k).symm.trans hk)
  obtain ⟨t0, h0, rfl⟩ := Option.map_eq_some_iff.mp hk
  intro r hr
  rw [Tsk.refs_mapKeys] at hr
  obtain ⟨r0, hr0, rfl⟩ := List.mem_map.mp hr
  obtain ⟨hlt, hcl⟩ := Scan.scan_refs _ k t0 h0 r0 hr0
  rcases hcl hN with h1 | ⟨j, rfl, hj⟩
  · rw [E.own r0 h1]
    exact .own ((E.isSome hf r0).trans h1) (by rw [E.rank, E.rank]; exact hlt)
  · rw [E.src]
    exact .dep rfl rfl hj

theorem bounded {k : Scan.Key} (hk : (layer p (c k)).isSome) : (spec p).rank (c k) ≤ (spec p).bound := by
  rw [E.task] at hk
  split at hk
  · rw [E.rank]
    exact Nat.le_succ_of_le (Scan.scan_bounded _ k (Option.isSome_map ▸ hk))
  · cases hk

end Emb

theorem mem_frameRefs (p : Params) (i j : Nat) (r : Key) (h : r ∈ frameRefs p i j) :
    r = .l i ∨ r = .r j ∨ (p.tails = true ∧ r = .t (.res j)) ∨ (p.heads = true ∧ r = .h (.res j)) := by
  simpa only [frameRefs, List.mem_append, List.mem_cons, List.mem_ite_nil_right, List.mem_singleton, List.not_mem_nil,
    or_false, or_assoc] using h

theorem asof_wf (p : Params) (hok : paramsOK p = true) : LayerWF (spec p) [p.nl, p.m] := by
  simp only [paramsOK, Bool.and_eq_true, decide_eq_true_eq, List.all_eq_true] at hok
  obtain ⟨⟨hlen, hJ⟩, hN⟩ := hok
  have out_some : ∀ i, (layer p (.out i)).isSome ↔ i < p.nl := by
    intro i
    rw [layer_out_eq, Option.isSome_map, isSome_getElem?, hlen]
  refine .ofRefs (fun _ _ => rfl) (fun i => (out_some i).mpr) ?_ ?_ ?_ ?_
  · intro k i hk hidx
    cases k <;> cases hidx
    exact ⟨(out_some _).mp hk, rfl⟩
  · intro k hk
    cases k <;> first | rfl | cases hk
  · intro k t hk
    cases k with
    | l | r => cases hk
    | t => exact (embT_ok p).refs hN hk
    | h => exact (embH_ok p).refs hN hk
    | out i =>
      obtain ⟨J, hpi, rfl⟩ := Option.map_eq_some_iff.mp ((layer_out_eq p i).symm.trans hk)
      intro r hr
      obtain ⟨j, hjJ, hrj⟩ := List.mem_flatMap.mp hr
      have hjm : j < p.m := hJ J (List.mem_of_getElem? hpi) j hjJ
      rcases mem_frameRefs p i j r hrj with rfl | rfl | ⟨ht, rfl⟩ | ⟨hh, rfl⟩
      · exact .dep rfl rfl ((out_some i).mp (Option.isSome_of_eq_some hk))
      · exact .dep rfl rfl hjm
      · exact .own (((embT_ok p).isSome ht _).trans ((Scan.res_isSome _ j).mpr hjm)) (Nat.lt_succ_self _)
      · exact .own (((embH_ok p).isSome hh _).trans ((Scan.res_isSome _ j).mpr hjm)) (Nat.lt_succ_self _)
  · intro k hk
    cases k with
    | l | r => cases hk
    | t => exact (embT_ok p).bounded hk
    | h => exact (embH_ok p).bounded hk
    | out => exact Nat.le_refl _

end Asof
end Dx

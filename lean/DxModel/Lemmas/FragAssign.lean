/-
  Lemmas/FragAssign.lean — soundness of the Assign rules of the fragment: `Assign._simplify_up` (from `C04_assign_wf`,
  `C04_assign_values`, both outcomes through `projOver_sound`) and `Assign._simplify_down` (nested Assigns become one:
  `assignFrame_assignFrame`), and of `Projection._simplify_down` (from `C04_projdown_squash`).
-/
import DxModel.Lemmas.FragRules
namespace Dx.Frag
open Dx Dx.Cols

variable {γ ι : Type}

/-! ### nodes with a frame and further operands -/

theorem den_cons_some {I : Interp γ ι} {e x : Expr} {rest : List Expr} {v : FVal γ} (ha : e.args = x :: rest)
    (h : den I e = some v) :
    ∃ vx vs, den I x = some vx ∧ rest.map (den I) = vs.map some ∧ semOp I e.op (vx :: vs) = some v := by
  obtain ⟨ws, hws, hs⟩ := den_some h
  rw [ha] at hws
  cases ws with
  | nil => cases hws
  | cons vx vs =>
    obtain ⟨hx, hr⟩ := List.cons.inj hws
    exact ⟨vx, vs, hx, hr, hs⟩

theorem den_cons_of {I : Interp γ ι} {e x : Expr} {rest : List Expr} {vx : FVal γ} {vs : List (FVal γ)}
    (ha : e.args = x :: rest) (hx : den I x = some vx) (hr : rest.map (den I) = vs.map some) :
    den I e = semOp I e.op (vx :: vs) := by
  apply den_of_args
  rw [ha, List.map_cons, hx, hr]; rfl

theorem zip_col_fst {I : Interp γ ι} {keys : List Name} {vs : List (FVal γ)} (h : keys.length = vs.length) :
    (keys.zip (vs.map (FVal.col I))).map (·.1) = keys :=
  List.map_fst_zip (Nat.le_of_eq (by rw [List.length_map]; exact h))

theorem semOp_assign_iff (I : Interp γ ι) (keys : List Name) (F : FVal γ) (vs : List (FVal γ)) (v : FVal γ) :
    semOp I (.assign keys) (F :: vs) = some v ↔
      F.ser = false ∧ (∀ w, w ∈ vs → w.ser = true) ∧ keys.length = vs.length ∧
        v = ⟨assignFrame (keys.zip (vs.map (FVal.col I))) F.fr, false⟩ := by
  refine (semOp_iff (I := I) (o := .assign keys) (vs := F :: vs) (s := ⟨assignCols keys F.fr.cols, false⟩) rfl ?_
    (normal_assignFrame _ _) v).trans ?_
  · intro hcnd
    have hl : keys.length = vs.length := by
      rw [← List.length_map (f := FVal.sch)]
      exact eq_of_beq ((Bool.and_eq_true _ _).mp hcnd).2
    exact congrArg (assignCols · F.fr.cols) (zip_col_fst hl)
  · simp only [Bool.and_eq_true, Bool.not_eq_true', List.all_eq_true, List.mem_map, forall_exists_index, and_imp,
      forall_apply_eq_imp_iff₂, List.length_map, beq_iff_eq, and_assoc]
    rfl

/-- a defined Assign node: the frame and the values are defined, the values are Series, one for each key -/
theorem den_assign {I : Interp γ ι} {e x : Expr} {vals : List Expr} {keys : List Name} {v : FVal γ}
    (ho : e.op = .assign keys) (ha : e.args = x :: vals) (h : den I e = some v) :
    ∃ (vx : FVal γ) (vs : List (FVal γ)), den I x = some vx ∧ vals.map (den I) = vs.map some ∧ vx.ser = false ∧
      (∀ w, w ∈ vs → w.ser = true) ∧ keys.length = vs.length ∧
      v = ⟨assignFrame (keys.zip (vs.map (FVal.col I))) vx.fr, false⟩ := by
  obtain ⟨vx, vs, hvx, hvs, hs⟩ := den_cons_some ha h
  rw [ho] at hs
  exact ⟨vx, vs, hvx, hvs, (semOp_assign_iff I keys vx vs v).mp hs⟩

theorem den_assign_of {I : Interp γ ι} {x : Expr} {vals : List Expr} {keys : List Name} {vx : FVal γ} {vs : List (FVal γ)}
    (hx : den I x = some vx) (hvs : vals.map (den I) = vs.map some) (hser : vx.ser = false)
    (hsers : ∀ w, w ∈ vs → w.ser = true) (hlen : keys.length = vs.length) :
    den I (mk (.assign keys) (x :: vals)) = some ⟨assignFrame (keys.zip (vs.map (FVal.col I))) vx.fr, false⟩ := by
  rw [den_cons_of (mk_args _ _) hx hvs, mk_op]
  exact (semOp_assign_iff I keys vx vs _).mpr ⟨hser, hsers, hlen, rfl⟩

/-! ### `Projection._simplify_down` -/

theorem ite_ne {α : Type} {c : Prop} [Decidable c] {a b d : α} (ha : a ≠ d) (hb : b ≠ d) : (if c then a else b) ≠ d := by
  by_cases h : c
  · rw [if_pos h]; exact ha
  · rw [if_neg h]; exact hb

theorem projDown_ident {fc : List Name} {same : Bool} {self : Sel} {inner : Option Sel}
    (h : projDown fc same self inner = .ident) : fc = self.toList ∧ same = true := by
  unfold projDown at h
  by_cases hc : (decide (fc = self.toList) && same) = true
  · exact ⟨of_decide_eq_true (Bool.and_eq_true_iff.mp hc).1, (Bool.and_eq_true_iff.mp hc).2⟩
  · rw [if_neg hc] at h
    cases inner with
    | none => cases h
    | some i =>
      cases i with
      | one _ => cases h
      | many a =>
        cases self with
        | many b => exact absurd h (ite_ne nofun nofun)
        | one c => exact absurd h (ite_ne nofun nofun)

theorem projDown_squash {fc : List Name} {same : Bool} {self b : Sel} {inner : Option Sel}
    (h : projDown fc same self inner = .squash b) :
    ∃ a, inner = some (.many a) ∧ b = self ∧ ∀ c, c ∈ self.toList → c ∈ a := by
  cases inner with
  | none => exact absurd h (ite_ne nofun nofun)
  | some i =>
    cases i with
    | one _ => exact absurd h (ite_ne nofun nofun)
    | many a =>
      obtain ⟨h1, h2⟩ := C04_projdown_squash fc same self a b h
      exact ⟨a, rfl, h1, h2⟩

/-- Projection._simplify_down: the identity selection disappears, `x[a][b]` becomes `x[b]` -/
theorem downProj_sound (I : Interp γ ι) {sel : Sel} {x e o : Expr} (he : e.op = .proj sel) (ha : e.args = [x])
    (h : downProj sel x e = some o) : ∀ v, den I e = some v → den I o = some v := by
  unfold downProj at h
  split at h
  · next sx se hsx hse =>
    intro v hv
    obtain rfl := schema_of_den hv hse
    obtain ⟨vx, hvx, hv⟩ := den_unary he ha hv
    obtain ⟨_, hnd, hsub, rfl⟩ := (semOp_proj_iff I sel vx v).mp hv
    obtain rfl := schema_of_den hvx hsx
    dsimp only at h
    split at h
    · next hid =>
      cases h
      obtain ⟨hc, hs⟩ := projDown_ident hid
      have hc' : vx.fr.cols = sel.toList := hc
      have hs' : Sel.isOne sel = vx.ser := eq_of_beq hs
      rw [hvx, ← hc', select_self (den_normal hvx), hs']
    · next b hsq =>
      obtain ⟨a, hinner, rfl, hba⟩ := projDown_squash hsq
      -- the frame is itself a projection `y[a]`
      split at hinner
      · next a' y' hxop hxargs =>
        cases hinner
        rw [hxargs] at h
        cases h
        obtain ⟨vy, hvy, hvx'⟩ := den_unary hxop hxargs hvx
        obtain ⟨hyser, _, hasub, rfl⟩ := (semOp_proj_iff I (.many a) vy vx).mp hvx'
        exact den_proj_agree hvy hyser hnd (fun c hc => hasub c (hba c hc)) (fun c hc => (select_val_mem (hba c hc)).symm)
      · cases hinner
    · cases h
  · cases h

/-! ### `Assign._simplify_down` -/

theorem dedupFirst_append : ∀ (a b : List Name),
    dedupFirst (a ++ b) = dedupFirst a ++ (dedupFirst b).filter (fun y => !a.contains y)
  | [], b => (List.filter_eq_self.mpr fun _ _ => rfl).symm
  | x :: a, b => by
    simp only [List.cons_append, dedupFirst, dedupFirst_append a b, List.filter_append, List.filter_filter,
      List.contains_cons, Bool.not_or]
    rfl

theorem assignCols_assignCols (k k0 f : List Name) : assignCols k (assignCols k0 f) = assignCols (k0 ++ k) f := by
  unfold assignCols assignLabels
  rw [dedupFirst_append, List.filter_append, List.append_assoc, List.filter_filter]
  refine congrArg (f ++ ·) (congrArg (_ ++ ·) (List.filter_congr fun y _ => ?_))
  rw [List.contains_append, contains_filter_eq, contains_eq_of_mem_iff (mem_dedupFirst (l := k0))]
  cases f.contains y <;> cases k0.contains y <;> rfl

/-- the columns of an assignment under its labels: the last pair with that key, else the frame's -/
theorem assignFrame_val_eq {kv : List (Name × γ)} {F : Frame γ} {c : Name} (hc : c ∈ (assignFrame kv F).cols) :
    (assignFrame kv F).val c =
      if (kv.map (·.1)).contains c then (kv.reverse.find? (fun e => e.1 == c)).map (·.2) else F.val c :=
  assignFrame_val kv F c hc

theorem assignFrame_other {kv : List (Name × γ)} {F : Frame γ} {y : Name} (hy : y ∈ (assignFrame kv F).cols)
    (hk : y ∉ kv.map (·.1)) : y ∈ F.cols ∧ F.val y = (assignFrame kv F).val y := by
  refine ⟨(mem_assignCols.mp hy).resolve_right hk, ?_⟩
  rw [assignFrame_val_eq hy, contains_false.mpr hk, if_neg Bool.false_ne_true]

/-- assigning twice = assigning the concatenated pairs -/
theorem assignFrame_assignFrame (kv0 kv : List (Name × γ)) (F : Frame γ) :
    assignFrame kv (assignFrame kv0 F) = assignFrame (kv0 ++ kv) F := by
  have hcols : (assignFrame kv (assignFrame kv0 F)).cols = (assignFrame (kv0 ++ kv) F).cols := by
    show assignCols (kv.map (·.1)) (assignCols (kv0.map (·.1)) F.cols) = assignCols ((kv0 ++ kv).map (·.1)) F.cols
    rw [assignCols_assignCols, List.map_append]
  refine frame_ext hcols (normal_assignFrame _ _) (normal_assignFrame _ _) fun c hc => ?_
  have hc' : c ∈ (assignFrame (kv0 ++ kv) F).cols := hcols ▸ hc
  rw [assignFrame_val_eq hc, assignFrame_val_eq hc', List.map_append, List.contains_append, List.reverse_append,
    List.find?_append]
  by_cases hk : c ∈ kv.map (·.1)
  · -- the last pair for `c` is in `kv`
    obtain ⟨e, he, hec⟩ := List.mem_map.mp hk
    have hs : (kv.reverse.find? (fun e => e.1 == c)).isSome :=
      List.find?_isSome.mpr ⟨e, List.mem_reverse.mpr he, beq_iff_eq.mpr hec⟩
    rw [List.contains_iff_mem.mpr hk, Bool.or_true, if_pos rfl, if_pos rfl, Option.or_of_isSome hs]
  · have hn : kv.reverse.find? (fun e => e.1 == c) = none :=
      List.find?_eq_none.mpr fun e he hec => hk (List.mem_map.mpr ⟨e, List.mem_reverse.mp he, beq_iff_eq.mp hec⟩)
    rw [contains_false.mpr hk, Bool.or_false, if_neg Bool.false_ne_true, hn, Option.none_or,
      assignFrame_val_eq ((mem_assignCols.mp hc).resolve_right hk)]

theorem map_some_length {α : Type} {β : Type} {l : List β} {f : β → Option α} {vs : List α} (h : l.map f = vs.map some) :
    l.length = vs.length := by
  have := congrArg List.length h
  simpa using this

/-- Assign._simplify_down: `x.assign(k0 = v0).assign(k = v)` → `x.assign(k0 = v0, k = v)` -/
theorem downAssign_sound (I : Interp γ ι) {keys : List Name} {x e o : Expr} {vals : List Expr} (he : e.op = .assign keys)
    (ha : e.args = x :: vals) (h : downAssign keys x vals = some o) : ∀ v, den I e = some v → den I o = some v := by
  unfold downAssign at h
  split at h
  · rename_i keys0 x0 vals0 hxop hxargs
    split at h
    · cases h
    · cases h
      intro v hv
      obtain ⟨vx, vs, hvx, hvs, _, hsers, hlen, rfl⟩ := den_assign he ha hv
      obtain ⟨v0, vs0, hv0, hvs0, hser0, hsers0, hlen0, rfl⟩ := den_assign hxop hxargs hvx
      rw [den_assign_of hv0 (vs := vs0 ++ vs) (by rw [List.map_append, hvs0, hvs, List.map_append]) hser0
        (fun w hw => (List.mem_append.mp hw).elim (hsers0 w) (hsers w))
        (by rw [List.length_append, List.length_append, hlen0, hlen]),
        List.map_append, List.zip_append (by rw [List.length_map]; exact hlen0), assignFrame_assignFrame]
  · cases h

/-! ### `Assign._simplify_up` -/

/-- `C04_assign_values` when the rule keeps the Assign: under a requested label `y` the Assign of the surviving pairs
    to `F[child]` has the column of the Assign of all pairs to `F` -/
theorem assign_pruned_agree {kv : List (Name × γ)} {keys : List Name} (hkv : kv.map (·.1) = keys) {F : Frame γ}
    {p : Parent} {deps : List Dep} {rwr : Rw} {newKeys child : List Name} (h : assign F.cols keys p deps = some rwr)
    (hg : rwr.gone = false) (hk : rwr.keys = some newKeys) (hch : rwr.childs = [some (.many child)])
    (hnk : ∀ k, k ∈ keys → k ∈ p.cols → k ∈ newKeys)
    (had : Adequate F.cols [] (p.cols.filter (fun c => !keys.contains c)) child) {y : Name} (hy : y ∈ p.cols)
    (hyc : y ∈ (assignFrame kv F).cols) :
    y ∈ (assignFrame (kv.filter (fun e => newKeys.contains e.1)) (F.select child)).cols ∧
      (assignFrame (kv.filter (fun e => newKeys.contains e.1)) (F.select child)).val y = (assignFrame kv F).val y := by
  subst hkv
  have hkf : (kv.filter (fun e => newKeys.contains e.1)).map (·.1) = (kv.map (·.1)).filter newKeys.contains :=
    (List.filter_map (f := Prod.fst) (p := newKeys.contains) (l := kv)).symm
  have hmem : y ∈ assignCols ((kv.filter (fun e => newKeys.contains e.1)).map (·.1)) child := by
    rw [hkf, mem_assignCols, List.mem_filter]
    by_cases hyk : y ∈ kv.map (·.1)
    · exact Or.inr ⟨hyk, List.contains_iff_mem.mpr (hnk y hyk hy)⟩
    · exact Or.inl (had.req y (List.mem_filter.mpr ⟨hy, congrArg not (contains_false.mpr hyk)⟩)
        ((mem_assignCols.mp hyc).resolve_right hyk))
  refine ⟨hmem, ?_⟩
  have := C04_assign_values assignA kv F p deps rwr h y hy hyc
  simp only [evalAssign, hg, hch, hk, Option.getD_some, Sel.toList_many, Bool.false_eq_true, if_false] at this
  rw [select_val_mem hy, select_val_mem hy] at this
  exact ((assignFrame_val _ _ y hmem).trans this).trans (assignFrame_val _ _ y hyc).symm

/-- filtering (key, value) pairs by key commutes with mapping the values -/
theorem zip_map_filter {α β : Type} (g : α → β) (q : Name → Bool) (keys : List Name) (l : List α) :
    (keys.zip (l.map g)).filter (fun e => q e.1) = ((keys.zip l).filter (fun e => q e.1)).map (Prod.map id g) := by
  rw [List.zip_map_right, List.filter_map]
  rfl

/-- an Assign node written with its (key, expression) pairs denotes the assignment of the (key, value) pairs -/
theorem den_assign_pairs {I : Interp γ ι} {x : Expr} {vx : FVal γ} {kvE : List (Name × Expr)}
    {kvV : List (Name × FVal γ)} (hx : den I x = some vx) (hser : vx.ser = false)
    (h : kvE.map (Prod.map id (den I)) = kvV.map (Prod.map id some)) (hs : ∀ e, e ∈ kvV → e.2.ser = true) :
    den I (mk (.assign (kvE.map (·.1))) (x :: kvE.map (·.2))) =
      some ⟨assignFrame (kvV.map (Prod.map id (FVal.col I))) vx.fr, false⟩ := by
  -- keys and values are read off `h` by projecting
  have hk : kvE.map (·.1) = kvV.map (·.1) := by
    have := congrArg (List.map Prod.fst) h
    rwa [List.map_map, List.map_map] at this
  have hv : (kvE.map (·.2)).map (den I) = (kvV.map (·.2)).map some := by
    have := congrArg (List.map Prod.snd) h
    rw [List.map_map, List.map_map] at this
    rwa [List.map_map, List.map_map]
  have hs' : ∀ w, w ∈ kvV.map (·.2) → w.ser = true := fun w hw => by
    obtain ⟨e, he, rfl⟩ := List.mem_map.mp hw
    exact hs e he
  rw [hk, den_assign_of hx hv hser hs' ((List.length_map _).trans (List.length_map _).symm), List.map_map,
    List.zip_map']
  rfl

/-- Assign: `Projection(Assign(x, k…, v…), sel)` → `Projection(x, sel)` when no key is requested, else
    `Projection(Assign(x[child], surviving k…, v…), sel)` -/
theorem upAssign_sound (I : Interp γ ι) {keys : List Name} {x c p o : Expr} {vals : List Expr} {d : Deps}
    (hc : c.op = .assign keys) (ha : c.args = x :: vals) (h : upAssign keys x vals c p d = some o) :
    ∀ v, den I p = some v → den I o = some v := by
  unfold upAssign at h
  split at h
  · next sel sx hpo hsx =>
    cases hr : assign sx.cols keys (parentOf sel) (depsOf d c) with
    | none => rw [hr] at h; cases h
    | some rwr =>
      rw [hr] at h
      dsimp only at h
      obtain ⟨_, ⟨hg, hno⟩ | ⟨hg, newKeys, child, hk, hch, _, hnk, had⟩⟩ :=
        C04_assign_wf sx.cols keys (parentOf sel) (depsOf d c) rwr hr
      · -- the Assign disappears
        rw [hg] at h
        cases h
        refine projOver_sound hpo fun vc hvc _ hsub => ?_
        obtain ⟨vx, vs, hvx, _, hser, _, hlen, rfl⟩ := den_assign hc ha hvc
        refine ⟨vx.fr, by rw [← hser]; exact hvx, fun y hy => ?_⟩
        exact assignFrame_other (hsub y hy) fun hyk => hno y (zip_col_fst hlen ▸ hyk) (parentOf_cols sel ▸ hy)
      · -- the requested keys survive
        rw [hg, hch, hk] at h
        cases h
        refine projOver_sound hpo fun vc hvc _ hsub => ?_
        obtain ⟨vx, vs, hvx, hvs, hser, hsers, hlen, rfl⟩ := den_assign hc ha hvc
        obtain rfl := schema_of_den hvx hsx
        have hkv := zip_map_filter (den I) newKeys.contains keys vals
        rw [hvs, zip_map_filter some newKeys.contains keys vs] at hkv
        refine ⟨_, den_assign_pairs (den_proj_some (s := .many child) hvx hser (had.nodup (den_nodup hvx)) had.sub) rfl
          hkv.symm fun e he => hsers _ (List.of_mem_zip (List.mem_filter.mp he).1).2, fun y hy => ?_⟩
        rw [← zip_map_filter (FVal.col I) newKeys.contains keys vs]
        exact assign_pruned_agree (zip_col_fst hlen) hr hg hk hch hnk had (parentOf_cols sel ▸ hy) (hsub y hy)
  · cases h

end Dx.Frag

/-
  Lemmas/FusionSubst.lean — the substitution `expr.substitute(group[0], Fused(group, *deps))` of
  `optimize_blockwise_fusion` leaves the value of every key of every other expression unchanged.

  Reference semantics: `refGraph` (Fusion.lean) — every ordinary blockwise node contributes
  `Blockwise._task(i)`, a `Fused` node stands for its first member (`C14_task` proves that the task
  `Fused._task(i)` computes exactly that value).  After the substitution every operand `group[0]`
  has become the new `Fused` node; `_blockwise_arg` of a consumer looks at `npartitions`/`ndim` of the
  operand (`_broadcast_dep`), which `Fused` takes over from `group[0]` (`Fused._meta`,
  `Fused._divisions`): the consumer reads the same partition number, of the `Fused` node instead.

  Names: an expression is created after its operands and a `Fused` node after its members
  (`RankedBy dag id`, decidable: `nameRankedB`); the correspondence family numbers the nodes of the real
  plan in creation (topological) order and the driver re-checks `nameRankedB` on each real plan.
-/
import DxModel.Lemmas.FusionMeasure
namespace Dx.Fusion
open Dx

/-- operands and the first member of a `Fused` node have smaller names than the node -/
def RankedBy (dag : Dag) (ρ : Nat → Nat) : Prop :=
  ∀ x nd, getNode dag x = some nd →
    (∀ d ∈ nd.deps, ρ d < ρ x) ∧ (∀ r rs, nd.members = r :: rs → ρ r < ρ x)

/-- the first member of every `Fused` node is a node of the plan -/
def MembersKnown (dag : Dag) : Prop :=
  ∀ x nd, getNode dag x = some nd → ∀ m rs, nd.members = m :: rs → (getNode dag m).isSome = true

theorem membersKnownB_sound (dag : Dag) (h : membersKnownB dag = true) :
    ∀ x nd, getNode dag x = some nd → ∀ m rs, nd.members = m :: rs → (getNode dag m).isSome = true := by
  intro x nd hg m rs hm
  have := List.all_eq_true.mp h nd (getNode_mem hg).1
  rwa [hm] at this

/-- the instance used by the correspondence family: the names themselves are a rank -/
theorem nameRankedB_sound (dag : Dag) (h : nameRankedB dag = true) : RankedBy dag id := by
  intro x nd hg
  obtain ⟨hm, hn⟩ := getNode_mem hg
  have h1 := List.all_eq_true.mp h nd hm
  rw [Bool.and_eq_true, List.all_eq_true] at h1
  refine ⟨fun d hd => ?_, fun r rs hr => ?_⟩
  · exact hn ▸ of_decide_eq_true (h1.1 d hd)
  · have := h1.2
    rw [headLt, hr] at this
    exact hn ▸ of_decide_eq_true this

/-- what the substitution needs to know about the new node: it is a `Fused` node whose first member
    is `old`, reporting `old`'s partition count and dimension under a name above every name of the plan -/
structure FusedFor (dag : Dag) (old : Nat) (f : Node) : Prop where
  bw : f.blockwise = true
  head : ∃ rs, f.members = old :: rs
  npart : f.npart = npartOf dag old
  ndim : ∀ on, getNode dag old = some on → f.ndim = on.ndim
  fresh : ∀ x ∈ allNames dag, x ≠ f.name
  /-- the first member of an existing `Fused` node is not the new name either (members are nodes of the plan) -/
  rfresh : ∀ x nd, getNode dag x = some nd → ∀ r rs, nd.members = r :: rs → r ≠ f.name

/-- `_broadcast_dep` looks at the consumer's rule and dimension and at the operand's partition count and dimension -/
theorem bcast_congr {c c' d d' : Node} (hck : c'.kall = c.kall) (hcn : c'.ndim = c.ndim)
    (hp : d'.npart = d.npart) (hd : d'.ndim = d.ndim) : bcast c' d' = bcast c d := by
  simp only [bcast, hck, hcn, hp, hd]

/-- `c._blockwise_arg(d', i)` after the substitution is the old argument with the name renamed -/
theorem argKey_subst (dag : Dag) (old : Nat) (f : Node) (hf : FusedFor dag old f)
    (c c' : Node) (hck : c'.kall = c.kall) (hcn : c'.ndim = c.ndim) (i d : Nat) (hd : d ≠ f.name) :
    argKey (substitute dag old f.name ++ [f]) c' i (sub old f.name d) =
      (match argKey dag c i d with
       | .part n j => .part (sub old f.name n) j
       | k => k) := by
  have hnode := getNode_subst_append dag old f (getNode_none_of_fresh hf.fresh) (sub old f.name d)
  unfold argKey
  by_cases hdo : d = old
  · -- the operand is `old`: it has become `f`, which reports `old`'s partition count and dimension
    have hs : sub old f.name d = f.name := if_pos hdo
    rw [hs] at hnode ⊢
    rw [if_pos rfl] at hnode
    rw [hnode]
    subst hdo
    cases hg : getNode dag d with
    | none =>
      have hnp : f.npart = 0 := by rw [hf.npart, npartOf, hg]
      have hb : bcast c' f = false := by simp only [bcast, hnp]; rfl
      simp only [hb, hs, Bool.false_eq_true, if_false]
    | some on =>
      have hnp : f.npart = on.npart := by rw [hf.npart, npartOf, hg]
      simp only [bcast_congr hck hcn hnp (hf.ndim on hg), hs]
  · have hs : sub old f.name d = d := if_neg hdo
    rw [hs] at hnode ⊢
    rw [if_neg hd] at hnode
    rw [hnode]
    cases hg : getNode dag d with
    | none => simp only [Option.map_none, hs]
    | some dn =>
      have hb : bcast c' (subNode old f.name dn) = bcast c dn := bcast_congr hck hcn rfl rfl
      simp only [Option.map_some, hb, hs]

theorem refGraph_subst_fused (dag : Dag) (old : Nat) (f : Node) (hf : FusedFor dag old f) (i : Nat) :
    refGraph (substitute dag old f.name ++ [f]) (.part f.name i) = some (.alias (.part old i)) := by
  obtain ⟨rs, hrs⟩ := hf.head
  have hnode := getNode_subst_append dag old f (getNode_none_of_fresh hf.fresh) f.name
  rw [if_pos rfl] at hnode
  exact refGraph_fused hnode hf.bw hrs i

/-- **Substitution lemma.**  For every node `x` of the old plan (every name but the new one), every
    partition `i` and all sufficiently large fuels, the key `(x, i)` has the same value in the plan
    after the substitution as before.  `ρ` is any rank of the old plan (expressions are acyclic).
    The new plan needs twice the fuel: an operand `old` has become the new node, which takes the extra
    step `(f, j) ↦ (old, j)`. -/
theorem subst_value (I : Interp) (dag : Dag) (old : Nat) (f : Node) (hf : FusedFor dag old f)
    (ρ : Nat → Nat) (hr : RankedBy dag ρ) (inp : FKey → Option V) :
    ∀ (N x : Nat), x ≠ f.name → ∀ (i N' : Nat), ρ x < N → 2 * ρ x + 2 ≤ N' →
      run I (refGraph (substitute dag old f.name ++ [f])) inp N' (.part x i) =
        run I (refGraph dag) inp N (.part x i) := by
  intro N
  induction N with
  | zero => intro x _ i N' h; exact absurd h (Nat.not_lt_zero _)
  | succ n ih =>
    intro x hx i N' hN hN'
    obtain ⟨n', rfl, hn'⟩ := pred_fuel hN'
    obtain ⟨n'', rfl, hn''⟩ := pred_fuel hn'
    -- keys of smaller rank, with the fuel that is left
    have ihd : ∀ d, ρ d < ρ x → d ≠ f.name → ∀ j M, n'' ≤ M →
        run I (refGraph (substitute dag old f.name ++ [f])) inp M (.part d j) =
          run I (refGraph dag) inp n (.part d j) :=
      fun d hd hne j M hM => ih d hne j M (Nat.lt_of_lt_of_le hd (Nat.le_of_lt_succ hN))
        (Nat.le_trans (Nat.le_trans (Nat.mul_le_mul_left 2 hd) hn'' : 2 * ρ d + 2 ≤ n'') hM)
    have hnode := getNode_subst_append dag old f (getNode_none_of_fresh hf.fresh) x
    rw [if_neg hx] at hnode
    cases hg : getNode dag x with
    | none =>
      rw [hg] at hnode
      rw [run_undefined I _ _ _ (refGraph_no_node hnode i), run_undefined I _ _ _ (refGraph_no_node hg i)]
    | some nd =>
      rw [hg] at hnode
      obtain ⟨hdeps, hmem⟩ := hr x nd hg
      cases hb : nd.blockwise with
      | false =>
        rw [run_undefined I _ _ _ (refGraph_not_bw hnode hb i), run_undefined I _ _ _ (refGraph_not_bw hg hb i)]
      | true =>
        cases hm : nd.members with
        | cons r rs =>
          refine run_step_congr I (refGraph_fused hnode hb hm i) (refGraph_fused hg hb hm i) fun k hk => ?_
          cases List.mem_singleton.mp hk
          exact ihd r (hmem r rs hm) (hf.rfresh x nd hg r rs hm) i (n'' + 1) (Nat.le_succ _)
        | nil =>
          have e' : refGraph (substitute dag old f.name ++ [f]) (.part x i) =
              if i < nd.npart then some (plainTask _ (subNode old f.name nd) i) else none :=
            refGraph_plain hnode hb hm i
          have e := refGraph_plain hg hb hm i
          by_cases hi : i < nd.npart
          · rw [if_pos hi] at e e'
            rw [run_defined I _ _ _ _ _ e', run_defined I _ _ _ _ _ e]
            show I nd.name (List.map _ (List.map _ (nd.deps.map (sub old f.name)))) =
              I nd.name (List.map _ (List.map _ nd.deps))
            rw [List.map_map, List.map_map, List.map_map]
            refine congrArg _ (List.map_congr_left fun d hd => ?_)
            have hdfr := (node_ne_of_fresh hf.fresh hg).2 d hd
            show run I _ inp (n'' + 1) (argKey _ (subNode old f.name nd) i (sub old f.name d)) =
              run I _ inp n (argKey dag nd i d)
            rw [argKey_subst dag old f hf nd (subNode old f.name nd) rfl rfl i d hdfr]
            obtain ⟨j, hj⟩ := argKey_name dag nd i d
            rw [hj]
            show run I _ inp (n'' + 1) (.part (sub old f.name d) j) = _
            by_cases hdo : d = old
            · rw [show sub old f.name d = f.name from if_pos hdo,
                run_defined I _ _ _ _ _ (refGraph_subst_fused dag old f hf j)]
              subst hdo
              exact ihd d (hdeps d hd) hdfr j n'' (Nat.le_refl _)
            · rw [show sub old f.name d = d from if_neg hdo]
              exact ihd d (hdeps d hd) hdfr j (n'' + 1) (Nat.le_succ _)
          · rw [if_neg hi] at e e'
            rw [run_undefined I _ _ _ e', run_undefined I _ _ _ e]

/-- the new root of the plan (`Fused` if the root itself is `group[0]`) has the old root's value -/
theorem subst_root_value (I : Interp) (dag : Dag) (old : Nat) (f : Node) (hf : FusedFor dag old f)
    (ρ : Nat → Nat) (hr : RankedBy dag ρ) (inp : FKey → Option V) (root : Nat) (hroot : root ≠ f.name)
    (i N N' : Nat) (hN : ρ root < N) (hN' : 2 * ρ root + 3 ≤ N') :
    run I (refGraph (substitute dag old f.name ++ [f])) inp N'
        (.part (if root = old then f.name else root) i) =
      run I (refGraph dag) inp N (.part root i) := by
  obtain ⟨n', rfl, hn'⟩ := pred_fuel hN'
  by_cases h : root = old
  · rw [if_pos h, run_defined I _ _ _ _ _ (refGraph_subst_fused dag old f hf i)]
    subst h
    exact subst_value I dag root f hf ρ hr inp N root hroot i n' hN hn'
  · rw [if_neg h]
    exact subst_value I dag old f hf ρ hr inp N root hroot i (n' + 1) hN (Nat.le_succ_of_le hn')

theorem fusedNode_for (dag : Dag) (G : List Nat) (hG : G ≠ [])
    (hmem : ∀ x nd, getNode dag x = some nd → ∀ r rs, nd.members = r :: rs → r ≠ freshName dag) :
    FusedFor dag (G.headD 0) (fusedNode dag G) := by
  refine ⟨rfl, ?_, rfl, ?_, fun x hx => Nat.ne_of_lt (lt_freshName dag x hx), hmem⟩
  · cases G with
    | nil => exact absurd rfl hG
    | cons g gs => exact ⟨gs, rfl⟩
  · intro on hon
    show (match getNode dag (G.headD 0) with | some nd => nd.ndim | none => 0) = on.ndim
    rw [hon]

end Dx.Fusion

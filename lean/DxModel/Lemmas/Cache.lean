/-
  Lemmas/Cache.lean — invariants of the LRU model and of the weak singleton table.
-/
import DxModel.Cache
import DxModel.Lemmas.ListBasics
namespace Dx.Cache

variable {κ ν : Type} [DecidableEq κ] {f : κ → Option ν} {cap : Nat} {c c' : LRU κ ν} {k : κ} {v : ν}

/-! ### find / erase / put, one equation and one characterisation each -/

theorem find_cons (k' : κ) (v : ν) (t : LRU κ ν) (k : κ) :
    find ((k', v) :: t) k = if k' = k then some v else find t k := rfl

theorem erase_cons (k' : κ) (v : ν) (t : LRU κ ν) (k : κ) :
    erase ((k', v) :: t) k = if k' = k then t else (k', v) :: erase t k := rfl

theorem put_cons (k' : κ) (v' : ν) (t : LRU κ ν) (k : κ) (v : ν) :
    put ((k', v') :: t) k v = if k' = k then (k, v) :: t else (k', v') :: put t k v := rfl

/-- the keys, in OrderedDict order -/
def keys (c : LRU κ ν) : List κ := c.map (·.1)

theorem find_mem (h : find c k = some v) : (k, v) ∈ c := by
  induction c with
  | nil => cases h
  | cons p t ih =>
    obtain ⟨k', v'⟩ := p
    rw [find_cons] at h
    split at h
    · next hk => cases h; rw [hk]; exact List.mem_cons_self
    · exact List.mem_cons_of_mem _ (ih h)

/-- `key in cache` holds exactly when `cache[key]` succeeds -/
theorem isSome_find (c : LRU κ ν) (k : κ) : (find c k).isSome = has c k := by
  induction c with
  | nil => rfl
  | cons p t ih =>
    obtain ⟨k', v'⟩ := p
    rw [find_cons, has, List.any_cons]
    by_cases hk : k' = k
    · rw [if_pos hk, beq_iff_eq.mpr hk]; rfl
    · rw [if_neg hk, beq_false_of_ne hk, ih]; rfl

theorem has_of_find {c : LRU κ ν} {k : κ} {v : ν} (h : find c k = some v) : has c k = true := by
  rw [← isSome_find, h]; rfl

/-- on keys, `erase` is `List.erase`: what the library knows about that carries over -/
theorem keys_erase (c : LRU κ ν) (k : κ) : keys (erase c k) = (keys c).erase k := by
  induction c with
  | nil => rfl
  | cons p t ih =>
    obtain ⟨k', v'⟩ := p
    show keys (erase ((k', v') :: t) k) = (k' :: keys t).erase k
    rw [erase_cons, List.erase_cons]
    by_cases hk : k' = k
    · rw [if_pos hk, if_pos (beq_iff_eq.mpr hk)]
    · rw [if_neg hk, if_neg (by rwa [beq_iff_eq]), ← ih]; rfl

theorem erase_sublist (c : LRU κ ν) (k : κ) : (erase c k).Sublist c := by
  induction c with
  | nil => exact List.Sublist.refl _
  | cons p t ih =>
    obtain ⟨k', v'⟩ := p
    rw [erase_cons]
    split
    · exact List.sublist_cons_self _ _
    · exact ih.cons_cons _

theorem length_erase (h : find c k = some v) : (erase c k).length + 1 = c.length := by
  induction c with
  | nil => cases h
  | cons p t ih =>
    obtain ⟨k', v'⟩ := p
    rw [find_cons] at h
    rw [erase_cons]
    by_cases hk : k' = k
    · rw [if_pos hk]; rfl
    · rw [if_neg hk] at h ⊢
      exact congrArg (· + 1) (ih h)

/-- the keys after a write: an overwrite keeps them, a new key goes to the end -/
theorem keys_put (c : LRU κ ν) (k : κ) (v : ν) :
    keys (put c k v) = if k ∈ keys c then keys c else keys c ++ [k] := by
  induction c with
  | nil => rfl
  | cons p t ih =>
    obtain ⟨k', v'⟩ := p
    rw [put_cons]
    by_cases hk : k' = k
    · rw [if_pos hk, if_pos (by rw [hk]; exact List.mem_cons_self), hk]; rfl
    · have hmem : k ∈ keys ((k', v') :: t) ↔ k ∈ keys t :=
        ⟨fun h => (List.mem_cons.mp h).resolve_left (Ne.symm hk), List.mem_cons_of_mem _⟩
      rw [if_neg hk, keys, List.map_cons, ← keys, ih]
      by_cases hm : k ∈ keys t
      · rw [if_pos hm, if_pos (hmem.mpr hm)]; rfl
      · rw [if_neg hm, if_neg (mt hmem.mp hm)]; rfl

theorem mem_put {p : κ × ν} (h : p ∈ put c k v) : p ∈ c ∨ p = (k, v) := by
  induction c with
  | nil => exact Or.inr (List.mem_singleton.mp h)
  | cons q t ih =>
    obtain ⟨k', v'⟩ := q
    rw [put_cons] at h
    split at h
    · exact (List.mem_cons.mp h).symm.imp (List.mem_cons_of_mem _) id
    · rcases List.mem_cons.mp h with h | h
      · exact Or.inl (h ▸ List.mem_cons_self)
      · exact (ih h).imp (List.mem_cons_of_mem _) id

theorem length_put_le (c : LRU κ ν) (k : κ) (v : ν) : (put c k v).length ≤ c.length + 1 := by
  have h := congrArg List.length (keys_put c k v)
  rw [keys, keys, List.length_map] at h
  rw [h]
  split
  · rw [List.length_map]; exact Nat.le_succ _
  · rw [List.length_append, List.length_map]; exact Nat.le_refl _

theorem find_put_self (c : LRU κ ν) (k : κ) (v : ν) : find (put c k v) k = some v := by
  induction c with
  | nil => exact if_pos rfl
  | cons q t ih =>
    obtain ⟨k', v'⟩ := q
    rw [put_cons]
    split
    · exact if_pos rfl
    · next hk => rw [find_cons, if_neg hk, ih]

theorem nodup_put (hn : (keys c).Nodup) : (keys (put c k v)).Nodup := by
  rw [keys_put]
  split
  · exact hn
  · next hm => exact nodup_snoc hn hm

/-! ### `get` and `set` in terms of them -/

theorem get_fst (c : LRU κ ν) (k : κ) : (get c k).1 = find c k := by
  unfold get; cases find c k <;> rfl

/-- a write is a `put` into the cache or into the cache without its oldest entry -/
theorem set_some (h : set cap c k v = some c') :
    ∃ d : LRU κ ν, d.Sublist c ∧ d.length < max c.length cap ∧ c' = put d k v := by
  unfold set at h
  split at h
  · cases c with
    | nil => cases h
    | cons q rest =>
      exact ⟨rest, List.sublist_cons_self _ _, Nat.lt_of_lt_of_le (Nat.lt_succ_self _) (Nat.le_max_left _ _),
        (Option.some.inj h).symm⟩
  · next hc =>
    exact ⟨c, List.Sublist.refl _, Nat.lt_of_lt_of_le (Nat.lt_of_not_le hc) (Nat.le_max_right _ _),
      (Option.some.inj h).symm⟩

theorem set_isSome (hcap : 0 < cap) (c : LRU κ ν) (k : κ) (v : ν) :
    ∃ c', set cap c k v = some c' := by
  unfold set
  split
  · next hc =>
    cases c with
    | nil => exact absurd hc (Nat.not_le_of_gt hcap)
    | cons q rest => exact ⟨_, rfl⟩
  · exact ⟨_, rfl⟩

theorem find_set_self (h : set cap c k v = some c') :
    find c' k = some v := by
  obtain ⟨d, -, -, rfl⟩ := set_some h
  exact find_put_self d k v

/-! ### unfolding `step`, and the two shapes every invariant proof has -/

theorem step_get (cap : Nat) (c : LRU κ ν) (k : κ) :
    step cap c (Op.get k) = (match (get c k).1 with | some v => Obs.hit v | none => Obs.miss, (get c k).2) := by
  rw [step]
  cases get c k with
  | mk o c' => cases o <;> rfl

/-- what every read and every successful write keeps, every operation keeps -/
theorem step_preserves {P : LRU κ ν → Prop} (op : Op κ ν) (h : P c)
    (hget : ∀ k, P (get c k).2)
    (hset : ∀ k v c', op = Op.set k v → set cap c k v = some c' → P c') : P (step cap c op).2 := by
  cases op with
  | get k => rw [step_get]; exact hget k
  | set k v =>
    rw [step]
    cases hs : set cap c k v with
    | none => exact h
    | some c' => exact hset k v c' rfl hs
  | has k => exact h
  | len => exact h

theorem runOps_preserves {P : LRU κ ν → Prop} (hstep : ∀ c op, P c → P (step cap c op).2)
    (ops : List (Op κ ν)) : ∀ c, P c → P (runOps cap c ops).2 := by
  induction ops with
  | nil => exact fun _ h => h
  | cons op rest ih => exact fun c h => ih _ (hstep c op h)

/-! ### keys stay unique (the list really represents a dict) -/

theorem nodup_get (hn : (keys c).Nodup) : (keys (get c k).2).Nodup := by
  unfold get
  cases hf : find c k with
  | none => exact hn
  | some v =>
    show (keys (erase c k ++ [(k, v)])).Nodup
    rw [show keys (erase c k ++ [(k, v)]) = keys (erase c k) ++ [k] from List.map_append, keys_erase]
    exact nodup_snoc (hn.erase k) hn.not_mem_erase

theorem nodup_set (hn : (keys c).Nodup)
    (h : set cap c k v = some c') : (keys c').Nodup := by
  obtain ⟨d, hd, -, rfl⟩ := set_some h
  exact nodup_put ((hd.map _).nodup hn)

theorem nodup_step (op : Op κ ν) (hn : (keys c).Nodup) :
    (keys (step cap c op).2).Nodup :=
  step_preserves (P := fun c => (keys c).Nodup) op hn (fun _ => nodup_get hn) (fun _ _ _ _ hs => nodup_set hn hs)

theorem length_get (c : LRU κ ν) (k : κ) : (get c k).2.length = c.length := by
  unfold get
  cases hf : find c k with
  | none => rfl
  | some v => rw [List.length_append]; exact length_erase hf

/-- a full cache never grows, whatever its size -/
theorem length_set_le (h : set cap c k v = some c') :
    c'.length ≤ max c.length cap := by
  obtain ⟨d, -, hd, rfl⟩ := set_some h
  exact Nat.le_trans (length_put_le d k v) hd

theorem length_step (op : Op κ ν) (hc : c.length ≤ cap) :
    (step cap c op).2.length ≤ cap :=
  step_preserves (P := fun c => c.length ≤ cap) op hc (fun k => (length_get c k).symm ▸ hc)
    (fun _ _ _ _ hs => Nat.max_eq_right hc ▸ length_set_le hs)

/-! ### refinement: every stored value is the pure function of its key -/

/-- all entries are `f`-values (`f` may be partial: failed computations store nothing) -/
def Inv (f : κ → Option ν) (c : LRU κ ν) : Prop := ∀ p ∈ c, f p.1 = some p.2

omit [DecidableEq κ] in
theorem inv_nil (f : κ → Option ν) : Inv f ([] : LRU κ ν) := fun _ hp => nomatch hp

theorem inv_get (k : κ) (hi : Inv f c) : Inv f (get c k).2 := by
  unfold get
  cases hf : find c k with
  | none => exact hi
  | some v =>
    intro p hp
    rcases List.mem_append.mp hp with hp | hp
    · exact hi p ((erase_sublist c k).subset hp)
    · rw [List.mem_singleton.mp hp]; exact hi _ (find_mem hf)

theorem inv_set (hi : Inv f c)
    (hv : f k = some v) (h : set cap c k v = some c') : Inv f c' := by
  obtain ⟨d, hd, -, rfl⟩ := set_some h
  intro p hp
  rcases mem_put hp with hp | hp
  · exact hi p (hd.subset hp)
  · rw [hp]; exact hv

/-- histories in which every `set k v` stores the value of one function of the key -/
def SetsAre (f : κ → Option ν) (ops : List (Op κ ν)) : Prop :=
  ∀ k v, Op.set k v ∈ ops → f k = some v

theorem inv_step (op : Op κ ν) (hi : Inv f c)
    (hs : ∀ k v, op = Op.set k v → f k = some v) : Inv f (step cap c op).2 :=
  step_preserves op hi (fun k => inv_get k hi) (fun k v _ he hset => inv_set hi (hs k v he) hset)

theorem hits_step (hi : Inv f c) (h : (step cap c (Op.get k)).1 = Obs.hit v) : f k = some v := by
  rw [step_get, get_fst] at h
  cases hg : find c k with
  | none => rw [hg] at h; cases h
  | some v' => rw [hg] at h; cases h; exact hi _ (find_mem hg)

theorem hits_runOps (cap : Nat) (ops : List (Op κ ν)) :
    ∀ (c : LRU κ ν), Inv f c → SetsAre f ops →
      ∀ k v, (Op.get k, Obs.hit v) ∈ ops.zip (runOps cap c ops).1 → f k = some v := by
  induction ops with
  | nil => intro c _ _ k v h; cases h
  | cons op rest ih =>
    intro c hi hs k v h
    rcases List.mem_cons.mp h with h | h
    · obtain ⟨h1, h2⟩ := Prod.mk.inj h
      subst h1
      exact hits_step hi h2.symm
    · exact ih _ (inv_step op hi fun k' v' he => hs k' v' (he ▸ List.mem_cons_self))
        (fun k' v' he => hs k' v' (List.mem_cons_of_mem _ he)) k v h

/-! ### get-or-compute -/

theorem get_hit (hi : Inv f c) (hh : has c k = true) :
    (get c k).1 = f k := by
  obtain ⟨v, hv⟩ := Option.isSome_iff_exists.mp ((isSome_find c k).trans hh)
  rw [get_fst, hv, hi _ (find_mem hv)]

theorem goA_spec (hcap : 0 < cap) (k : κ) (hi : Inv f c) :
    (getOrComputeA cap f c k).1 = f k ∧ Inv f (getOrComputeA cap f c k).2 := by
  unfold getOrComputeA
  cases hh : has c k with
  | true => exact ⟨get_hit hi hh, inv_get k hi⟩
  | false =>
    rw [if_neg Bool.false_ne_true]
    cases hf : f k with
    | none => exact ⟨rfl, hi⟩
    | some v =>
      obtain ⟨c', hc'⟩ := set_isSome hcap c k v
      simp only [hc']
      exact ⟨trivial, inv_set hi hf hc'⟩

theorem goB_spec (hcap : 0 < cap) (k : κ) (hi : Inv f c) :
    (getOrComputeB cap f c k).1 = f k ∧ Inv f (getOrComputeB cap f c k).2 := by
  unfold getOrComputeB
  cases hh : has c k with
  | true => exact ⟨get_hit hi hh, inv_get k hi⟩
  | false =>
    rw [if_neg Bool.false_ne_true]
    cases hf : f k with
    | none => exact ⟨rfl, hi⟩
    | some v =>
      obtain ⟨c', hc'⟩ := set_isSome hcap c k v
      simp only [hc']
      have hi' := inv_set hi hf hc'
      exact ⟨(get_hit hi' (has_of_find (find_set_self hc'))).trans hf, inv_get k hi'⟩

/-- states reachable by any number of get-or-compute calls (either pattern) from the empty cache -/
inductive Reach (cap : Nat) (f : κ → Option ν) : LRU κ ν → Prop where
  | empty : Reach cap f []
  | stepA (c : LRU κ ν) (k : κ) : Reach cap f c → Reach cap f (getOrComputeA cap f c k).2
  | stepB (c : LRU κ ν) (k : κ) : Reach cap f c → Reach cap f (getOrComputeB cap f c k).2
  | read (c : LRU κ ν) (k : κ) : Reach cap f c → Reach cap f (assertHit c k).2

theorem inv_assertHit (k : κ) (hi : Inv f c) : Inv f (assertHit c k).2 := by
  unfold assertHit
  cases has c k with
  | true => exact inv_get k hi
  | false => exact hi

theorem reach_inv (hcap : 0 < cap) (h : Reach cap f c) : Inv f c := by
  induction h with
  | empty => exact inv_nil f
  | stepA c k _ ih => exact (goA_spec hcap k ih).2
  | stepB c k _ ih => exact (goB_spec hcap k ih).2
  | read c k _ ih => exact inv_assertHit k ih

/-! ### weak singleton table -/

section Table
variable {η α : Type} [DecidableEq η]

/-- every entry is filed under the name of its own content -/
def TInv (name : α → η) (t : Tbl η α) : Prop := ∀ p ∈ t, p.1 = name p.2.val

/-- the table look-up is the cache look-up at another value type -/
theorem tfind_eq_find (t : Tbl η α) (n : η) : tfind t n = find t n := by
  induction t with
  | nil => rfl
  | cons p rest ih => exact congrArg (fun r => if p.1 = n then some p.2 else r) ih

theorem tfind_mem {t : Tbl η α} {n : η} {o : Obj α} (h : tfind t n = some o) : (n, o) ∈ t :=
  find_mem ((tfind_eq_find t n).symm.trans h)

omit [DecidableEq η] in
theorem tinv_gc {name : α → η} {t : Tbl η α} (keep : η → Bool) (h : TInv name t) : TInv name (tgc keep t) := by
  intro p hp
  exact h p (List.mem_filter.mp hp).1

theorem tinv_new {name : α → η} {t : Tbl η α} (n : Nat) (x : α) (h : TInv name t) :
    TInv name (tnew name t n x).2 := by
  unfold tnew
  cases hf : tfind t (name x) with
  | some o => exact h
  | none =>
    intro p hp
    rcases List.mem_append.mp hp with hp | hp
    · exact h p hp
    · simp only [List.mem_singleton] at hp; rw [hp]

omit [DecidableEq η] in
theorem tinv_nil (name : α → η) : TInv name ([] : Tbl η α) := fun _ hp => nomatch hp

theorem tinv_trun {name : α → η} (ops : List (TOp η α)) :
    ∀ (t : Tbl η α) (n : Nat), TInv name t → TInv name (trun name t n ops).2 := by
  induction ops with
  | nil => exact fun _ _ h => h
  | cons op rest ih =>
    intro t n h
    cases op with
    | new y => exact ih _ _ (tinv_new n y h)
    | gc keep => exact ih _ _ (tinv_gc keep h)

theorem tnew_val {name : α → η} (hinj : ∀ a b, name a = name b → a = b) {t : Tbl η α} (n : Nat) (x : α)
    (h : TInv name t) : (tnew name t n x).1.val = x := by
  unfold tnew
  cases hf : tfind t (name x) with
  | some o =>
    have := h _ (tfind_mem hf)
    exact (hinj _ _ this).symm
  | none => rfl

/-- the contents requested by the `new` steps of a history -/
def requested : List (TOp η α) → List α
  | [] => []
  | .new x :: rest => x :: requested rest
  | .gc _ :: rest => requested rest

theorem trun_vals {name : α → η} (hinj : ∀ a b, name a = name b → a = b) (ops : List (TOp η α)) :
    ∀ (t : Tbl η α) (n : Nat), TInv name t → (trun name t n ops).1.map (·.val) = requested ops := by
  induction ops with
  | nil => intro t n _; rfl
  | cons op rest ih =>
    intro t n h
    cases op with
    | new x =>
      simp only [trun, requested, List.map_cons]
      rw [tnew_val hinj n x h, ih _ _ (tinv_new n x h)]
    | gc keep =>
      simp only [trun, requested]
      exact ih _ _ (tinv_gc keep h)

end Table

/-! ### observables -/

section Obs
variable {κ ν : Type} [DecidableEq κ]

theorem observe_spec {f : κ → Option ν} {cap : Nat} (hcap : 0 < cap) (d : Discipline) (hd : d ≠ .assertHit)
    {c : LRU κ ν} (hi : Inv f c) (k : κ) :
    (observe d cap f c k).1 = f k ∧ Inv f (observe d cap f c k).2 := by
  cases d with
  | pure => exact ⟨rfl, hi⟩
  | recompute => exact goA_spec hcap k hi
  | assertHit => exact absurd rfl hd

theorem observe_assert_cold (cap : Nat) (f : κ → Option ν) (k : κ) :
    (observe .assertHit cap f ([] : LRU κ ν) k).1 = none := by
  simp [observe, assertHit, has]

end Obs

end Dx.Cache

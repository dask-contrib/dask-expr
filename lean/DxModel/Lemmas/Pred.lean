/-
  Lemmas/Pred.lean — truth preservation of OR-factoring (`rewrite_filters`), all trees, all valuations.
-/
import DxModel.Pred
import DxModel.Lemmas.ListBasics
import DxModel.Lemmas.PredDNF
namespace Dx.Pred

variable {α : Type}

theorem eval_getComponents_or (v : α → Bool) (p : T α) :
    (getComponents .or p).any (eval2 v) = eval2 v p := by
  induction p with
  | or a b iha ihb => simp only [getComponents, if_true, List.any_append, iha, ihb, eval2]
  | _ => exact Bool.or_false _

theorem eval_getComponents_and (v : α → Bool) (p : T α) :
    (getComponents .and p).all (eval2 v) = eval2 v p := by
  induction p with
  | and a b iha ihb => simp only [getComponents, if_true, List.all_append, iha, ihb, eval2]
  | _ => exact Bool.and_true _

theorem eval_mkAnd (v : α → Bool) (l : List (T α)) (acc : T α) :
    eval2 v (mkAnd acc l) = (eval2 v acc && l.all (eval2 v)) := by
  induction l generalizing acc with
  | nil => exact (Bool.and_true _).symm
  | cons c t ih => simp only [mkAnd, ih, eval2, List.all_cons, Bool.and_assoc]

theorem eval_mkOr (v : α → Bool) (l : List (T α)) (acc : T α) :
    eval2 v (mkOr acc l) = (eval2 v acc || l.any (eval2 v)) := by
  induction l generalizing acc with
  | nil => exact (Bool.or_false _).symm
  | cons c t ih => simp only [mkOr, ih, eval2, List.any_cons, Bool.or_assoc]

variable [DecidableEq α]

theorem mem_convertMapping (l : List (T α)) (x : T α) : x ∈ convertMapping l ↔ x ∈ l := by
  induction l with
  | nil => exact Iff.rfl
  | cons a t ih =>
    simp only [convertMapping, List.mem_cons, List.mem_filter, ih, bne_iff_ne, ne_eq]
    by_cases hxa : x = a <;> simp only [hxa, true_or, false_or, not_false_eq_true, and_true]

theorem all_convertMapping (v : α → Bool) (l : List (T α)) :
    (convertMapping l).all (eval2 v) = l.all (eval2 v) :=
  all_congr_mem _ _ _ (mem_convertMapping l)

theorem all_split (v : α → Bool) (repl comp : List (T α)) (hsub : ∀ x ∈ repl, x ∈ comp) :
    comp.all (eval2 v) = (repl.all (eval2 v) && (comp.filter (fun c => !repl.contains c)).all (eval2 v)) := by
  rw [Bool.eq_iff_iff]
  simp only [Bool.and_eq_true, List.all_eq_true, List.mem_filter]
  constructor
  · intro h
    refine ⟨?_, ?_⟩
    · intro x hx; exact h x (hsub x hx)
    · intro x hx; exact h x hx.1
  · rintro ⟨h1, h2⟩ x hx
    by_cases hr : x ∈ repl
    · exact h1 x hr
    · exact h2 x ⟨hx, by simpa using hr⟩

/-- the loop returns early only when the replacements consume a whole branch -/
theorem keepComponents_none (repl : List (T α)) (comps : List (List (T α))) (h : keepComponents repl comps = none) :
    ∃ comp ∈ comps, comp.filter (fun c => !repl.contains c) = [] := by
  induction comps with
  | nil => cases h
  | cons comp rest ih =>
    simp only [keepComponents] at h
    split at h
    · next hk => exact ⟨comp, List.mem_cons_self .., hk⟩
    · split at h
      · next hrec => obtain ⟨c, hc, he⟩ := ih hrec; exact ⟨c, List.mem_cons_of_mem _ hc, he⟩
      · cases h

/-- otherwise each rebuilt conjunction has the meaning of the kept members of its branch -/
theorem keepComponents_some (v : α → Bool) (repl : List (T α)) (comps : List (List (T α))) (rs : List (T α))
    (h : keepComponents repl comps = some rs) :
    rs.any (eval2 v) = comps.any (fun comp => (comp.filter (fun c => !repl.contains c)).all (eval2 v)) := by
  induction comps generalizing rs with
  | nil => cases h; rfl
  | cons comp rest ih =>
    simp only [keepComponents] at h
    split at h
    · cases h
    · next k ks hk =>
      split at h
      · cases h
      · next rs' hrec =>
        cases h
        simp only [List.any_cons, ih rs' hrec, hk, eval_mkAnd, List.all_cons]

/-- Every OR-branch is the conjunction of the common components `R` and of what is kept of it, `Kᵢ`, so the
    disjunction is `∨ᵢ (R ∧ Kᵢ) = R ∧ ∨ᵢ Kᵢ`; the early return of the code (`keepComponents = none`) is the case of
    an empty `Kᵢ`, where the right side is `R`. -/
theorem replaceCommonOr_sound (v : α → Bool) (first : T α) (rest : List (T α)) (r : T α)
    (h : replaceCommonOr first rest = some r) :
    eval2 v r = (first :: rest).any (eval2 v) := by
  unfold replaceCommonOr at h
  simp only at h
  generalize hm : convertMapping (getComponents .and first) = mapping at h
  generalize hms : rest.map (fun c => convertMapping (getComponents .and c)) = andComponents at h
  generalize hrepl : mapping.filter (fun c => andComponents.all (fun comp => comp.contains c)) = repl at h
  have evalAll : (first :: rest).any (eval2 v) = (mapping :: andComponents).any (fun comp => comp.all (eval2 v)) := by
    subst hm hms
    simp only [List.any_cons, all_convertMapping, eval_getComponents_and, List.any_map]
    congr 1
    exact any_congr_mem _ _ _ (fun c _ => by simp only [Function.comp, all_convertMapping, eval_getComponents_and])
  have hsub : ∀ comp ∈ mapping :: andComponents, ∀ x ∈ repl, x ∈ comp := by
    intro comp hcomp x hx
    rw [← hrepl, List.mem_filter] at hx
    rcases List.mem_cons.mp hcomp with hc | hc
    · rw [hc]; exact hx.1
    · exact List.contains_iff_mem.mp (List.all_eq_true.mp hx.2 comp hc)
  have hbranch : (mapping :: andComponents).any (fun comp => comp.all (eval2 v)) =
      (repl.all (eval2 v) &&
        (mapping :: andComponents).any (fun comp => (comp.filter (fun c => !repl.contains c)).all (eval2 v))) := by
    rw [← any_and_left]
    exact any_congr_mem _ _ _ (fun comp hc => all_split v repl comp (hsub comp hc))
  rw [evalAll, hbranch]
  cases repl with
  | nil => cases h
  | cons r0 rs =>
    simp only at h
    have houter : eval2 v (mkAnd r0 rs) = (r0 :: rs).all (eval2 v) := by rw [eval_mkAnd]; rfl
    cases hk : keepComponents (r0 :: rs) (mapping :: andComponents) with
    | none =>
      rw [hk] at h
      cases h
      obtain ⟨comp, hc, he⟩ := keepComponents_none _ _ hk
      rw [houter, List.any_eq_true.mpr ⟨comp, hc, by rw [he]; rfl⟩, Bool.and_true]
    | some comps =>
      rw [hk] at h
      cases comps with
      | nil => cases h
      | cons c cs =>
        cases h
        simp only [eval2, eval_mkOr, houter]
        rw [← keepComponents_some v _ _ _ hk, List.any_cons]

end Dx.Pred

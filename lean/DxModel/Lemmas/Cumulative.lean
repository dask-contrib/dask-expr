/-
  Lemmas/Cumulative.lean — `IsCarry v a`: the value `v` handed from partition to partition stands for
  the accumulated value `a` of all rows before.  `_cum_aggregate_apply` keeps that relation
  (`cumAgg_carry`) and continues a partition's own scan from the carry (`cumAgg_out`); empty
  partitions are the case `a = none`.  Scans are taken apart one row at a time by `acc_cons` / `scanFrom_cons`.
-/
import DxModel.Layers.Cumulative
import DxModel.Lemmas.LayerRun
namespace Dx
open Cum

/-- `op` is associative and commutative (`+`, `*`, `max`, `min`) -/
structure CumOp (op : Nat → Nat → Nat) : Prop where
  assoc : ∀ a b c, op (op a b) c = op a (op b c)
  comm : ∀ a b, op a b = op b a

/-- the accumulated value after one more row -/
def accStep (op : Nat → Nat → Nat) : Option Nat → Row → Nat
  | none, r => r.pay
  | some a, r => op a r.pay

variable (op : Nat → Nat → Nat)

theorem acc_nil (a : Option Nat) : acc op a [] = a := by
  cases a <;> rfl

theorem acc_cons (a : Option Nat) (r : Row) (t : List Row) :
    acc op a (r :: t) = acc op (some (accStep op a r)) t := by
  cases a <;> rfl

theorem scanFrom_nil (a : Option Nat) : scanFrom op a [] = [] := by
  cases a <;> rfl

theorem scanFrom_cons (a : Option Nat) (r : Row) (t : List Row) :
    scanFrom op a (r :: t) = { r with pay := accStep op a r } :: scanFrom op (some (accStep op a r)) t := by
  cases a <;> rfl

theorem scanFrom_append : ∀ (l₁ l₂ : List Row) (a : Option Nat),
    scanFrom op a (l₁ ++ l₂) = scanFrom op a l₁ ++ scanFrom op (acc op a l₁) l₂ := by
  intro l₁ l₂
  induction l₁ with
  | nil =>
    intro a
    rw [List.nil_append, scanFrom_nil, acc_nil, List.nil_append]
  | cons r t ih =>
    intro a
    rw [List.cons_append, scanFrom_cons, scanFrom_cons, acc_cons, ih, List.cons_append]

theorem acc_append : ∀ (l₁ l₂ : List Row) (a : Option Nat),
    acc op a (l₁ ++ l₂) = acc op (acc op a l₁) l₂ := by
  intro l₁ l₂
  induction l₁ with
  | nil =>
    intro a
    rw [List.nil_append, acc_nil]
  | cons r t ih =>
    intro a
    rw [List.cons_append, acc_cons, acc_cons, ih]

/-- a carried value `v` represents the accumulated value `a`: `TakeLast` of a partition is a one-row frame holding the running value, or `None` (here `unit`) for an
    empty partition that nothing precedes (dask-expr fix 7fd4a29); `a` is that running value, if any -/
def IsCarry (v : V) (a : Option Nat) : Prop :=
  (v = .unit ∧ a = none) ∨ ∃ c : Row, v = .frame [c] ∧ a = some c.pay

/-- the last row of a non-empty scan holds the accumulated value -/
theorem takeLast_scanFrom : ∀ (t : List Row) (r : Row) (a : Option Nat),
    ∃ c : Row, takeLast (scanFrom op a (r :: t)) = .frame [c] ∧ acc op a (r :: t) = some c.pay := by
  intro t
  induction t with
  | nil =>
    intro r a
    rw [scanFrom_cons, scanFrom_nil, acc_cons]
    exact ⟨_, rfl, rfl⟩
  | cons r' t ih =>
    intro r a
    obtain ⟨c, hc, ha⟩ := ih r' (some (accStep op a r))
    rw [scanFrom_cons] at hc
    rw [scanFrom_cons, scanFrom_cons, acc_cons]
    exact ⟨c, hc, ha⟩

/-- `TakeLast` of the per-partition cumulative result carries the accumulated value of the partition -/
theorem takeLast_isCarry : ∀ l : List Row, IsCarry (takeLast (cum op l)) (acc op none l)
  | [] => .inl ⟨rfl, rfl⟩
  | r :: t => .inr (takeLast_scanFrom op t r none)

/-- shifting the start value by `c` shifts the accumulated value by `c` (associativity) -/
theorem acc_shift (h : CumOp op) (c : Nat) : ∀ (l : List Row) (a : Nat),
    acc op (some (op c a)) l = (acc op (some a) l).map (op c) := by
  intro l
  induction l with
  | nil => intro a; rfl
  | cons r t ih =>
    intro a
    show acc op (some (op (op c a) r.pay)) t = _
    rw [h.assoc]
    exact ih _

/-- combining every row of a scan with a carry `c` is scanning from the start value extended by `c`
    (associativity and commutativity) -/
theorem aggRows_scanFrom (h : CumOp op) (c : Row) : ∀ (l : List Row) (a : Option Nat),
    aggRows op (scanFrom op a l) c = scanFrom op (some (accStep op a c)) l := by
  intro l
  induction l with
  | nil =>
    intro a
    rw [scanFrom_nil]
    rfl
  | cons r t ih =>
    intro a
    have e : op (accStep op a r) c.pay = op (accStep op a c) r.pay := by
      cases a with
      | none => exact h.comm _ _
      | some x => exact (h.assoc x _ _).trans ((congrArg (op x) (h.comm _ _)).trans (h.assoc x _ _).symm)
    rw [scanFrom_cons, scanFrom_cons]
    show { r with pay := op (accStep op a r) c.pay } :: aggRows op (scanFrom op (some (accStep op a r)) t) c =
      { r with pay := op (accStep op a c) r.pay } :: scanFrom op (some (op (accStep op a c) r.pay)) t
    rw [← e]
    exact congrArg (_ :: ·) (ih _)

/-- combining an older carry with the carry of the next partition -/
theorem cumAgg_carry (h : CumOp op) (x y : V) (a : Option Nat) (l : List Row)
    (hx : IsCarry x a) (hy : IsCarry y (acc op none l)) :
    IsCarry (cumAggregateApply op x y) (acc op a l) := by
  rcases hy with ⟨rfl, hn⟩ | ⟨c, rfl, hc⟩
  · -- nothing accumulated in `l`: `l` is empty and the older carry stays
    cases l with
    | cons r t =>
      obtain ⟨_, _, e⟩ := takeLast_scanFrom op t r none
      cases hn.symm.trans e
    | nil =>
      rw [acc_nil]
      have : cumAggregateApply op x .unit = x := by cases x <;> rfl
      exact this ▸ hx
  · rcases hx with ⟨rfl, rfl⟩ | ⟨cx, rfl, rfl⟩
    · exact .inr ⟨c, rfl, hc⟩
    · refine .inr ⟨{ cx with pay := op cx.pay c.pay }, rfl, ?_⟩
      cases l with
      | nil => cases hc
      | cons r t => exact (acc_shift op h cx.pay t r.pay).trans (congrArg (Option.map _) hc)

/-- combining the per-partition cumulative result with the carry of everything before -/
theorem cumAgg_out (h : CumOp op) (y : V) (a : Option Nat) (l : List Row)
    (hy : IsCarry y a) :
    cumAggregateApply op (.frame (cum op l)) y = .frame (scanFrom op a l) := by
  rcases hy with ⟨rfl, rfl⟩ | ⟨c, rfl, rfl⟩
  · rfl
  · exact congrArg V.frame (aggRows_scanFrom op h c l none)

theorem before_succ (parts : Nat → List Row) (i : Nat) : before parts (i+1) = before parts i ++ parts i :=
  flatMap_range_succ parts i

theorem layer_inter_one {n : Nat} (hn : 1 < n) : layer n (.inter 1) = some (.alias (.prev 0)) :=
  if_pos hn

theorem layer_inter_succ {n i : Nat} (hi : i + 2 < n) :
    layer n (.inter (i+2)) = some (.apply aggFn [.inter (i+1), .prev (i+1)]) :=
  if_pos hi

theorem layer_out_succ {n i : Nat} (hi : i + 1 < n) :
    layer n (.out (i+1)) = some (.apply aggFn [.dep (i+1), .inter (i+1)]) :=
  if_pos hi

theorem cum_run_apply (n : Nat) (parts : Nat → List Row) {k a b : Key}
    (hk : layer n k = some (.apply aggFn [a, b])) (F : Nat) :
    run (interp op) (layer n) (inputs op parts) (F+1) k =
      cumAggregateApply op (run (interp op) (layer n) (inputs op parts) F a)
        (run (interp op) (layer n) (inputs op parts) F b) := by
  rw [run_defined _ _ _ F _ _ hk]
  rfl

/-- the intermediate key `i` carries the accumulated value of all partitions before `i` -/
theorem cum_run_inter (h : CumOp op) (n : Nat) (parts : Nat → List Row) (i : Nat) :
    i + 1 < n → ∀ F, i ≤ F →
      IsCarry (run (interp op) (layer n) (inputs op parts) (F+1) (.inter (i+1)))
        (acc op none (before parts (i+1))) := by
  induction i with
  | zero =>
    intro hi F _
    rw [run_defined _ _ _ F _ _ (layer_inter_one hi)]
    show IsCarry (run _ _ _ F _) _
    rw [run_input _ (layer n) (inputs op parts) (.prev 0) _ rfl rfl, before_succ]
    exact takeLast_isCarry op (parts 0)
  | succ i ih =>
    intro hi F hF
    cases F with
    | zero => cases hF
    | succ F =>
      rw [cum_run_apply op n parts (layer_inter_succ hi),
        run_input _ (layer n) (inputs op parts) (.prev (i+1)) _ rfl rfl, before_succ parts (i+1), acc_append]
      exact cumAgg_carry op h _ _ _ _ (ih (Nat.lt_of_succ_lt hi) F (Nat.le_of_succ_le_succ hF))
        (takeLast_isCarry op (parts (i+1)))

theorem cum_run_out (h : CumOp op) (n : Nat) (parts : Nat → List Row)
    (i : Nat) (hi : i < n) (F : Nat) (hF : i + 1 ≤ F) :
    run (interp op) (layer n) (inputs op parts) F (.out i) =
      .frame (scanFrom op (acc op none (before parts i)) (parts i)) := by
  cases F with
  | zero => cases hF
  | succ F =>
    cases i with
    | zero =>
      rw [run_defined _ _ _ F _ _ (rfl : layer n (.out 0) = some (.alias (.dep 0)))]
      exact run_input _ (layer n) (inputs op parts) (.dep 0) _ rfl rfl F
    | succ i =>
      rw [cum_run_apply op n parts (layer_out_succ hi), run_input _ (layer n) (inputs op parts) (.dep (i+1)) _ rfl rfl]
      cases F with
      | zero => exact absurd (Nat.le_of_succ_le_succ hF) (Nat.not_succ_le_zero _)
      | succ F =>
        exact cumAgg_out op h _ _ _
          (cum_run_inter op h n parts i hi F (Nat.le_of_succ_le_succ (Nat.le_of_succ_le_succ hF)))

theorem scan_concat (parts : Nat → List Row) (n : Nat) :
    (List.range n).flatMap (fun i => scanFrom op (acc op none (before parts i)) (parts i)) =
      cum op (before parts n) := by
  induction n with
  | zero => rfl
  | succ n ih =>
    rw [flatMap_range_succ, ih, before_succ]
    simp only [cum]
    rw [scanFrom_append]

def cumRank : Key → Nat
  | .dep _ => 0
  | .prev _ => 0
  | .inter i => i
  | .out i => i + 1

theorem layer_inter_isSome {n i : Nat} (hi : i + 1 < n) : (layer n (.inter (i+1))).isSome := by
  cases i with
  | zero => rw [layer_inter_one hi]; rfl
  | succ i => rw [layer_inter_succ hi]; rfl

/-- The layer is stratified over any input function that defines `frame`'s partition 0 (read by
    `(name, 0)` whatever `n` is) and the `n` partitions of `frame` and `previous_partitions`. -/
theorem cum_stratified' (n : Nat) (inp : Key → Option V) (h0 : (inp (.dep 0)).isSome)
    (h : ∀ i, i < n → (inp (.dep i)).isSome ∧ (inp (.prev i)).isSome) :
    Stratified (layer n) inp cumRank := by
  intro k t hk d hd
  cases k with
  | dep i => cases hk
  | prev i => cases hk
  | out i =>
    cases i with
    | zero =>
      cases hk
      cases List.mem_singleton.mp hd
      exact .inr ⟨rfl, h0⟩
    | succ i =>
      obtain ⟨hi, ⟨⟩⟩ := Option.ite_none_right_eq_some.mp hk
      rcases List.mem_cons.mp hd with rfl | hd
      · exact .inr ⟨rfl, (h _ hi).1⟩
      · cases List.mem_singleton.mp hd
        exact .inl ⟨layer_inter_isSome hi, Nat.lt_succ_self _⟩
  | inter i =>
    cases i with
    | zero => cases hk
    | succ i =>
      cases i with
      | zero =>
        obtain ⟨hi, ⟨⟩⟩ := Option.ite_none_right_eq_some.mp hk
        cases List.mem_singleton.mp hd
        exact .inr ⟨rfl, (h 0 (Nat.lt_of_succ_lt hi)).2⟩
      | succ i =>
        obtain ⟨hi, ⟨⟩⟩ := Option.ite_none_right_eq_some.mp hk
        rcases List.mem_cons.mp hd with rfl | hd
        · exact .inl ⟨layer_inter_isSome (Nat.lt_of_succ_lt hi), Nat.lt_succ_self _⟩
        · cases List.mem_singleton.mp hd
          exact .inr ⟨rfl, (h _ (Nat.lt_of_succ_lt hi)).2⟩

end Dx

/-
  Lemmas/RepartitionPlanner.lean — facts about the model of RepartitionDivisions._layer (`planner`):
  rejection of uncovered requests, no spurious rejection, and the loop invariants showing that for strictly
  increasing old/new divisions with equal end points the emitted plan passes the validator.
-/
import DxModel.Lemmas.RepartitionDiv
namespace Dx.Repartition
open Dx

/-! ### end points -/

/-- a list with two entries or more: its last two entries, and what `last2`, `isSingleLastDiv` make of them -/
theorem last2_of_length (b : List Int) (h : 2 ≤ b.length) :
    ∃ bp bn, last2 b = some (bp, bn) ∧ b.getLast? = some bn ∧ b[b.length - 2]? = some bp ∧
      isSingleLastDiv b = (bn == bp) := by
  unfold last2 isSingleLastDiv
  have hlen : b.reverse.length = b.length := List.length_reverse
  have hrev : b = b.reverse.reverse := (List.reverse_reverse b).symm
  cases hr : b.reverse with
  | nil => rw [hr] at hlen; simp at hlen; omega
  | cons l t =>
    cases t with
    | nil => rw [hr] at hlen; simp at hlen; omega
    | cons l2 t' =>
      refine ⟨l2, l, rfl, ?_, ?_, rfl⟩
      · rw [← List.head?_reverse, hr]; rfl
      · rw [hrev, hr]
        simp

theorem head?_of_length {α} (l : List α) (h : 1 ≤ l.length) : ∃ x, l.head? = some x :=
  List.head?_eq_getElem? ▸ getElem?_of_lt h

theorem getLast?_of_length {α} (l : List α) (h : 1 ≤ l.length) : ∃ x, l.getLast? = some x :=
  List.getLast?_eq_getElem? ▸ getElem?_of_lt (Nat.sub_lt h Nat.one_pos)

/-! ### rejection -/

theorem planner_rejects (a b : List Int) (force : Bool) (hla : 2 ≤ a.length)
    (h : covered a b force = false) : planner a b force = .error .value := by
  unfold planner
  by_cases hb : b.length < 2
  · rw [if_pos hb]
  · have hlb := Nat.le_of_not_lt hb
    obtain ⟨a0, ha0⟩ := head?_of_length a (Nat.le_of_succ_le hla)
    obtain ⟨an, han⟩ := getLast?_of_length a (Nat.le_of_succ_le hla)
    obtain ⟨b0, hb0⟩ := head?_of_length b (Nat.le_of_succ_le hlb)
    obtain ⟨bp, bn, hl2, hbn, _⟩ := last2_of_length b hlb
    unfold covered at h
    simp only [ha0, han, hb0, hbn, decide_eq_true hlb, Bool.true_and, Bool.not_eq_false'] at h
    rw [if_neg hb, if_neg (Nat.not_lt.mpr hla)]
    simp only [ha0, han, hb0, hl2, h, if_true]

theorem phase1_no_value (a b : List Int) : ∀ (fuel : Nat) (s : P1), phase1 a b fuel s ≠ .error .value := by
  intro fuel
  induction fuel with
  | zero => intro s h; cases h
  | succ fuel ih =>
    intro s
    unfold phase1
    split
    · split
      · exact ih _
      · split
        · exact ih _
        · exact ih _
    · intro h; cases h

theorem inner1_no_value (c : List Int) (bj : Int) : ∀ (fuel i : Nat) (tmp : List Nat),
    inner1 c bj fuel i tmp ≠ .error .value := by
  intro fuel
  induction fuel with
  | zero => intro i tmp h; cases h
  | succ fuel ih =>
    intro i tmp
    unfold inner1
    split
    · intro h; cases h
    · split
      · exact ih _ _
      · intro h; cases h

theorem inner2_no_value (c : List Int) (bn : Int) (cond : Bool) (k : Nat) : ∀ (fuel i : Nat) (tmp : List Nat),
    inner2 c bn cond k fuel i tmp ≠ .error .value := by
  intro fuel
  induction fuel with
  | zero => intro i tmp h; cases h
  | succ fuel ih =>
    intro i tmp
    unfold inner2
    split
    · intro h; cases h
    · split
      · exact ih _ _
      · intro h; cases h

theorem phase2_no_value (c : List Int) (k : Nat) (le : Bool) (bp bn : Int) (blen : Nat) :
    ∀ (rest : List Int) (j i : Nat) (outs : List (List Nat)),
      phase2 c k le bp bn blen rest j i outs ≠ .error .value := by
  intro rest
  induction rest with
  | nil => intro j i outs h; cases h
  | cons bj rest ih =>
    intro j i outs
    unfold phase2
    split
    · rename_i e he
      intro h
      cases h
      exact inner1_no_value c bj _ _ _ he
    · split
      · rename_i e he
        intro h
        cases h
        split at he
        · exact inner2_no_value c bn _ k _ _ _ he
        · cases he
      · exact ih _ _ _

theorem planner_no_value_error (a b : List Int) (force : Bool)
    (h : covered a b force = true) : planner a b force ≠ .error .value := by
  unfold covered at h
  split at h
  · rename_i a0 an b0 bn ha0 han hb0 hbn
    simp only [Bool.and_eq_true, decide_eq_true_eq, Bool.not_eq_true'] at h
    obtain ⟨hlb, hg⟩ := h
    obtain ⟨bp, bn', hl2, hbn', _⟩ := last2_of_length b hlb
    obtain rfl : bn = bn' := Option.some.inj (hbn.symm.trans hbn')
    unfold planner
    rw [if_neg (Nat.not_lt.mpr hlb)]
    by_cases hla : a.length < 2
    · simp [hla]
    · simp only [hla, if_false, ha0, han, hb0, hl2, hg, Bool.false_eq_true]
      intro hcontra
      split at hcontra
      · rename_i e he
        cases hcontra
        exact phase1_no_value a b _ _ he
      · split at hcontra
        · rename_i e he
          cases hcontra
          unfold setLastIncl at he
          split at he <;> cases he
        · split at hcontra
          · rename_i e he
            cases hcontra
            exact phase2_no_value _ _ _ _ _ _ _ _ _ _ he
          · cases hcontra
  · cases h

/-! ### strictly sorted lists -/

theorem isStrictSorted_cons {a b : Int} {t : List Int} :
    isStrictSorted (a :: b :: t) = true ↔ a < b ∧ isStrictSorted (b :: t) = true := by
  simp [isStrictSorted]

theorem strict_pairwise (l : List Int) (h : isStrictSorted l = true) : l.Pairwise (· < ·) :=
  pairwise_of_adjacent (R := (· < ·)) (fun _ _ _ => Int.lt_trans) (P := fun l => isStrictSorted l = true)
    (fun _ _ _ => isStrictSorted_cons.mp) l h

theorem strict_lt {l : List Int} (h : isStrictSorted l = true) {i j : Nat} {x y : Int} (hij : i < j)
    (hx : l[i]? = some x) (hy : l[j]? = some y) : x < y :=
  pairwise_getElem? (strict_pairwise l h) hij hx hy

theorem strict_le_last {l : List Int} (h : isStrictSorted l = true) {i : Nat} {x n : Int}
    (hx : l[i]? = some x) (hn : l.getLast? = some n) : x ≤ n :=
  sorted_getElem? ((strict_pairwise l h).imp Int.le_of_lt) (Nat.le_sub_one_of_lt (lt_of_getElem? hx)) hx
    (List.getLast?_eq_getElem? ▸ hn)

theorem strict_last2 {l : List Int} (h : isStrictSorted l = true) {p n : Int} (hp : l[l.length - 2]? = some p)
    (hn : l.getLast? = some n) (hl : 2 ≤ l.length) : p < n :=
  strict_lt h (by omega) hp (List.getLast?_eq_getElem? ▸ hn)

theorem strict_last_index {b : List Int} (hb : isStrictSorted b = true) {bn : Int} (hbn : b.getLast? = some bn)
    {j : Nat} (hj : b[j]? = some bn) : j + 1 = b.length := by
  rw [List.getLast?_eq_getElem?] at hbn
  refine Nat.le_antisymm (lt_of_getElem? hj) (Nat.le_of_not_lt fun h => ?_)
  exact Int.lt_irrefl bn (strict_lt hb (Nat.lt_sub_of_add_lt h) hj hbn)

theorem strict_isSorted : ∀ (l : List Int), isStrictSorted l = true → isSorted l = true := by
  intro l
  induction l with
  | nil => intro _; rfl
  | cons a t ih =>
    intro h
    cases t with
    | nil => rfl
    | cons b t' =>
      have ⟨hab, h'⟩ := isStrictSorted_cons.mp h
      exact isSorted_cons.mpr ⟨by omega, ih h'⟩

theorem isSingleLastDiv_snoc (c : List Int) (x : Int) :
    isSingleLastDiv (c ++ [x]) = (match c.getLast? with | some y => x == y | none => false) := by
  unfold isSingleLastDiv
  rw [List.reverse_append, ← List.head?_reverse]
  cases c.reverse with
  | nil => rfl
  | cons l t => rfl

/-! ### phase 1 (merging the two boundary lists) for strictly increasing divisions -/

/-- piece `p` is the `m`-th interval `[c[m], c[m+1])`, cut from an input partition whose range contains it -/
def PieceAt (a c : List Int) (p : Slice) (m : Nat) : Prop :=
  ∃ lo hi, a[p.i]? = some lo ∧ a[p.i + 1]? = some hi ∧ c[m]? = some p.lo ∧ c[m+1]? = some p.hi ∧
    lo ≤ p.lo ∧ p.lo < p.hi ∧ p.hi ≤ hi ∧ p.incl = false

theorem PieceAt.append {a c : List Int} {p : Slice} {m : Nat} (h : PieceAt a c p m) (t : List Int) :
    PieceAt a (c ++ t) p m := by
  obtain ⟨lo, hi, h1, h2, h3, h4, h5⟩ := h
  exact ⟨lo, hi, h1, h2, getElem?_append_some h3, getElem?_append_some h4, h5⟩

/-- The loop variable `i` (or `j`) of phase 1 as a position in its strictly increasing list, relative to the
    last boundary emitted: `l[i-1] ≤ low < l[i]`.  Both lists are walked in the same way, so the facts about
    a position are proved once. -/
structure Cursor (l : List Int) (i : Nat) (low : Int) : Prop where
  pos : 1 ≤ i
  le : i ≤ l.length
  lo : ∀ x, l[i - 1]? = some x → x ≤ low
  hi : ∀ x, l[i]? = some x → low < x

theorem Cursor.init {l : List Int} (hl : isStrictSorted l = true) (h1 : 1 ≤ l.length) {x0 : Int}
    (h0 : l[0]? = some x0) : Cursor l 1 x0 :=
  ⟨Nat.le_refl 1, h1, fun _ hx => Int.le_of_eq (Option.some.inj (hx.symm.trans h0)),
    fun _ hx => strict_lt hl Nat.zero_lt_one h0 hx⟩

/-- emitting the boundary `new`: the position moves on iff `new` is the entry it points at -/
theorem Cursor.step {l : List Int} (hl : isStrictSorted l = true) {i : Nat} {low x new : Int} (hc : Cursor l i low)
    (hx : l[i]? = some x) (hlow : low < new) {i' : Nat} (h : (new = x ∧ i' = i + 1) ∨ (new < x ∧ i' = i)) :
    Cursor l i' new := by
  rcases h with ⟨rfl, rfl⟩ | ⟨hlt, rfl⟩
  · exact ⟨Nat.le_add_left 1 i, lt_of_getElem? hx,
      fun y hy => Int.le_of_eq (Option.some.inj (hy.symm.trans hx)),
      fun y hy => strict_lt hl (Nat.lt_succ_self i) hx hy⟩
  · exact ⟨hc.pos, hc.le, fun y hy => Int.le_of_lt (Int.lt_of_le_of_lt (hc.lo y hy) hlow),
      fun y hy => Option.some.inj (hx.symm.trans hy) ▸ hlt⟩

theorem Cursor.last_le {l : List Int} {i : Nat} {low : Int} (hc : Cursor l i low) (hend : l[i]? = none)
    {x : Int} (hlast : l.getLast? = some x) : x ≤ low := by
  have hi : i = l.length := Nat.le_antisymm hc.le (List.getElem?_eq_none_iff.mp hend)
  exact hc.lo x (by rw [hi, ← List.getLast?_eq_getElem?]; exact hlast)

/-- Invariant of the first `while` loop for strictly increasing `a`, `b` with last entry `an`: `i`, `j` are
    positions in `a`, `b` at the last emitted boundary `low` (`i_pos … a_hi` and `j_pos … b_hi` are the fields of
    `Cursor a s.i s.low` and `Cursor b s.j s.low`, see `Inv1.curA`, `Inv1.curB`), `c` lists the `k+1` boundaries
    emitted from `a0` to `low`, piece `m` is the interval `[c[m], c[m+1])`, and every entry of `b` already passed
    occurs in `c`. -/
structure Inv1 (a b : List Int) (a0 an : Int) (s : P1) : Prop where
  i_pos : 1 ≤ s.i
  j_pos : 1 ≤ s.j
  i_le : s.i ≤ a.length
  j_le : s.j ≤ b.length
  clen : s.c.length = s.pieces.length + 1
  clast : s.c[s.pieces.length]? = some s.low
  c0 : s.c[0]? = some a0
  a_lo : ∀ x, a[s.i - 1]? = some x → x ≤ s.low
  a_hi : ∀ x, a[s.i]? = some x → s.low < x
  b_lo : ∀ x, b[s.j - 1]? = some x → x ≤ s.low
  b_hi : ∀ x, b[s.j]? = some x → s.low < x
  low_le : s.low ≤ an
  pieces : ∀ m p, s.pieces[m]? = some p → PieceAt a s.c p m
  b_in : ∀ j' x, j' < s.j → b[j']? = some x → ∃ m, m ≤ s.pieces.length ∧ s.c[m]? = some x

theorem Inv1.curA {a b : List Int} {a0 an : Int} {s : P1} (h : Inv1 a b a0 an s) : Cursor a s.i s.low :=
  ⟨h.i_pos, h.i_le, h.a_lo, h.a_hi⟩

theorem Inv1.curB {a b : List Int} {a0 an : Int} {s : P1} (h : Inv1 a b a0 an s) : Cursor b s.j s.low :=
  ⟨h.j_pos, h.j_le, h.b_lo, h.b_hi⟩

/-- One iteration of the first loop.  Its three branches differ only in which of `a[i]`, `b[j]` is the new
    boundary and which of `i`, `j` move on; `hi'`, `hj'` say so for each list separately. -/
theorem inv1_step {a b : List Int} {a0 an : Int} (ha : isStrictSorted a = true) (hb : isStrictSorted b = true)
    (han : a.getLast? = some an)
    {s : P1} (hinv : Inv1 a b a0 an s) {ai bj : Int} (hai : a[s.i]? = some ai) (hbj : b[s.j]? = some bj)
    {i' j' : Nat} {new : Int} (hlow : s.low < new)
    (hi' : (new = ai ∧ i' = s.i + 1) ∨ (new < ai ∧ i' = s.i))
    (hj' : (new = bj ∧ j' = s.j + 1) ∨ (new < bj ∧ j' = s.j)) :
    Inv1 a b a0 an { i := i', j := j', low := new, c := s.c ++ [new],
                     pieces := s.pieces ++ [⟨s.i - 1, s.low, new, false⟩] } := by
  have ca := hinv.curA.step ha hai hlow hi'
  have cb := hinv.curB.step hb hbj hlow hj'
  have hnew : new ≤ ai := hi'.elim (fun h => Int.le_of_eq h.1) (fun h => Int.le_of_lt h.1)
  have hcnew : (s.c ++ [new])[s.pieces.length + 1]? = some new := hinv.clen ▸ List.getElem?_concat_length
  exact {
    i_pos := ca.pos, j_pos := cb.pos, i_le := ca.le, j_le := cb.le
    a_lo := ca.lo, a_hi := ca.hi, b_lo := cb.lo, b_hi := cb.hi
    clen := by simp only [List.length_append, List.length_singleton, hinv.clen]
    clast := by rw [List.length_append]; exact hcnew
    c0 := getElem?_append_some hinv.c0
    low_le := Int.le_trans hnew (strict_le_last ha hai han)
    pieces := fun m p hp => by
      rcases getElem?_concat_some hp with h | ⟨rfl, rfl⟩
      · exact (hinv.pieces m p h).append [new]
      · obtain ⟨lo, hlo⟩ := getElem?_of_lt (Nat.lt_of_lt_of_le (Nat.sub_lt hinv.i_pos Nat.one_pos) hinv.i_le)
        exact ⟨lo, ai, hlo, (Nat.sub_add_cancel hinv.i_pos).symm ▸ hai, getElem?_append_some hinv.clast, hcnew,
          hinv.a_lo lo hlo, hlow, hnew, rfl⟩
    b_in := fun j'' x hlt hx => by
      rw [List.length_append]
      by_cases hold : j'' < s.j
      · obtain ⟨m, hm, hcm⟩ := hinv.b_in j'' x hold hx
        exact ⟨m, Nat.le_succ_of_le hm, getElem?_append_some hcm⟩
      · rcases hj' with ⟨rfl, rfl⟩ | ⟨_, rfl⟩
        · obtain rfl : j'' = s.j := Nat.le_antisymm (Nat.le_of_lt_succ hlt) (Nat.le_of_not_lt hold)
          exact ⟨s.pieces.length + 1, Nat.le_refl _, (hx.symm.trans hbj) ▸ hcnew⟩
        · exact absurd hlt hold }

theorem advJ_strict {a : List Int} (ha : isStrictSorted a = true) {i : Nat} {ai : Int} (hai : a[i]? = some ai) :
    advJ a i ai = true := by
  unfold advJ
  cases hx : a[i+1]? with
  | none => rfl
  | some x => simp; exact strict_lt ha (Nat.lt_succ_self i) hai hx

theorem phase1_spec {a b : List Int} {a0 an : Int} (ha : isStrictSorted a = true) (hb : isStrictSorted b = true)
    (han : a.getLast? = some an) :
    ∀ (fuel : Nat) (s : P1), Inv1 a b a0 an s → a.length + b.length < fuel + (s.i + s.j) →
      ∃ s', phase1 a b fuel s = .ok s' ∧ Inv1 a b a0 an s' ∧ (a[s'.i]? = none ∨ b[s'.j]? = none) := by
  intro fuel
  induction fuel with
  | zero =>
    intro s hinv h
    rw [Nat.zero_add] at h
    exact absurd (Nat.add_le_add hinv.i_le hinv.j_le) (Nat.not_le_of_lt h)
  | succ fuel ih =>
    intro s hinv hfuel
    unfold phase1
    cases hai : a[s.i]? with
    | none => exact ⟨s, rfl, hinv, Or.inl hai⟩
    | some ai =>
      cases hbj : b[s.j]? with
      | none => exact ⟨s, rfl, hinv, Or.inr hbj⟩
      | some bj =>
        -- every branch moves `i` or `j` on, so `i + j` grows
        have hfuel' : a.length + b.length < fuel + (s.i + s.j + 1) := by omega
        simp only
        by_cases h1 : ai < bj
        · rw [if_pos h1]
          exact ih _ (inv1_step ha hb han hinv hai hbj (hinv.a_hi ai hai) (Or.inl ⟨rfl, rfl⟩) (Or.inr ⟨h1, rfl⟩))
            (Nat.add_right_comm s.i s.j 1 ▸ hfuel')
        · rw [if_neg h1]
          by_cases h2 : ai > bj
          · rw [if_pos h2]
            exact ih _ (inv1_step ha hb han hinv hai hbj (hinv.b_hi bj hbj) (Or.inr ⟨h2, rfl⟩) (Or.inl ⟨rfl, rfl⟩))
              hfuel'
          · rw [if_neg h2, if_pos (advJ_strict ha hai)]
            exact ih _ (inv1_step ha hb han hinv hai hbj (hinv.b_hi bj hbj)
                (Or.inl ⟨Int.le_antisymm (Int.not_lt.mp h1) (Int.not_lt.mp h2), rfl⟩) (Or.inl ⟨rfl, rfl⟩))
              (show a.length + b.length < fuel + (s.i + 1 + (s.j + 1)) by omega)

theorem inv1_init {a b : List Int} {a0 an : Int} (ha : isStrictSorted a = true) (hb : isStrictSorted b = true)
    (hla : 2 ≤ a.length) (hlb : 2 ≤ b.length) (ha0 : a[0]? = some a0) (hb0 : b[0]? = some a0)
    (han : a.getLast? = some an) :
    Inv1 a b a0 an ⟨1, 1, a0, [a0], []⟩ :=
  have ca := Cursor.init ha (Nat.le_of_succ_le hla) ha0
  have cb := Cursor.init hb (Nat.le_of_succ_le hlb) hb0
  { i_pos := ca.pos, j_pos := cb.pos, i_le := ca.le, j_le := cb.le
    a_lo := ca.lo, a_hi := ca.hi, b_lo := cb.lo, b_hi := cb.hi
    clen := rfl, clast := rfl, c0 := rfl
    low_le := strict_le_last ha ha0 han
    pieces := fun m p hp => by rw [List.getElem?_nil] at hp; cases hp
    b_in := fun j' x hj hx => by
      obtain rfl : j' = 0 := Nat.lt_one_iff.mp hj
      exact ⟨0, Nat.le_refl 0, hb0.symm.trans hx⟩ }

/-! ### the merged boundary list after phase 1 (`c` with `a[-1]` appended) -/

/-- The list `c` and the `k` pieces after phase 1, before the last piece is made inclusive.  `c` has `k+2` entries and
    holds `an` twice (`ck`, `ck1`): the loop ends with `low = an` as `c[k]`, and the `else` branch after it does
    `c.append(a[-1])` once more — which is what makes `_is_single_last_div(c)` true in phase 2. -/
structure CFacts (a b : List Int) (a0 an : Int) (c : List Int) (ps : List Slice) : Prop where
  clen : c.length = ps.length + 2
  ck : c[ps.length]? = some an
  ck1 : c[ps.length + 1]? = some an
  c0 : c[0]? = some a0
  pieces : ∀ m p, ps[m]? = some p → PieceAt a c p m
  b_in : ∀ (j : Nat) (x : Int), b[j]? = some x → ∃ m, m ≤ ps.length ∧ c[m]? = some x

theorem cfacts_of_inv1 {a b : List Int} {a0 an : Int} (hb : isStrictSorted b = true)
    (han : a.getLast? = some an) (hbn : b.getLast? = some an)
    {s : P1} (hinv : Inv1 a b a0 an s) (hexit : a[s.i]? = none ∨ b[s.j]? = none) :
    s.low = an ∧ CFacts a b a0 an (s.c ++ [an]) s.pieces := by
  have hlow : s.low = an := Int.le_antisymm hinv.low_le
    (hexit.elim (fun h => hinv.curA.last_le h han) (fun h => hinv.curB.last_le h hbn))
  -- all of `b` has been consumed: an entry at `s.j` would lie above `low = an`, the last entry
  have hjall : ∀ j x, b[j]? = some x → j < s.j := fun j x hx => Nat.lt_of_not_le fun hle => by
    obtain ⟨y, hy⟩ := getElem?_of_lt (Nat.lt_of_le_of_lt hle (lt_of_getElem? hx))
    exact absurd (hlow ▸ hinv.b_hi y hy) (Int.not_lt.mpr (strict_le_last hb hy hbn))
  exact ⟨hlow, {
    clen := by rw [List.length_append, hinv.clen]; rfl
    ck := hlow ▸ getElem?_append_some hinv.clast
    ck1 := hinv.clen ▸ List.getElem?_concat_length
    c0 := getElem?_append_some hinv.c0
    pieces := fun m p hp => (hinv.pieces m p hp).append [an]
    b_in := fun j x hx => (hinv.b_in j x (hjall j x hx) hx).imp fun m h => ⟨h.1, getElem?_append_some h.2⟩ }⟩

/-- `c[0..k]` is strictly increasing: consecutive entries are the ends of a non-empty piece -/
theorem cfacts_lt {a b : List Int} {a0 an : Int} {c : List Int} {ps : List Slice} (hf : CFacts a b a0 an c ps) :
    ∀ {m2 m1 : Nat} {x y : Int}, m1 < m2 → m2 ≤ ps.length → c[m1]? = some x → c[m2]? = some y → x < y := by
  intro m2
  induction m2 with
  | zero => intro m1 x y h; exact absurd h (Nat.not_lt_zero _)
  | succ m2 ih =>
    intro m1 x y h12 h2 hx hy
    obtain ⟨p, hp⟩ := getElem?_of_lt (Nat.lt_of_succ_le h2)
    obtain ⟨_, _, _, _, h3, h4, _, h6, _⟩ := hf.pieces m2 p hp
    obtain rfl : p.hi = y := Option.some.inj (h4.symm.trans hy)
    rcases Nat.lt_succ_iff_lt_or_eq.mp h12 with hlt | rfl
    · exact Int.lt_trans (ih hlt (Nat.le_of_succ_le h2) hx h3) h6
    · exact Option.some.inj (h3.symm.trans hx) ▸ h6

theorem cfacts_le {a b : List Int} {a0 an : Int} {c : List Int} {ps : List Slice} (hf : CFacts a b a0 an c ps)
    {m1 m2 : Nat} {x y : Int} (h12 : m1 ≤ m2) (h2 : m2 ≤ ps.length) (hx : c[m1]? = some x) (hy : c[m2]? = some y) :
    x ≤ y := by
  rcases Nat.lt_or_eq_of_le h12 with hlt | rfl
  · exact Int.le_of_lt (cfacts_lt hf hlt h2 hx hy)
  · exact Int.le_of_eq (Option.some.inj (hx.symm.trans hy))

/-! ### phase 2 (regrouping the pieces along the new divisions) -/

/-- `inner1` collects the pieces `[i, i')` up to the first `i'` whose boundary is not below `bj` -/
theorem inner1_spec (c : List Int) (bj : Int) {i' : Nat} {y : Int} (hy : c[i']? = some y) (hstop : ¬ y < bj) :
    ∀ (n i : Nat) (tmp : List Nat) (fuel : Nat), i + n = i' →
      (∀ m x, i ≤ m → m < i' → c[m]? = some x → x < bj) → n < fuel →
      inner1 c bj fuel i tmp = .ok (i', tmp ++ List.range' i n) := by
  intro n
  induction n with
  | zero =>
    intro i tmp fuel hi _ hf
    obtain rfl : i = i' := hi
    obtain ⟨f, rfl⟩ := Nat.exists_eq_succ_of_ne_zero (Nat.ne_of_gt hf)
    unfold inner1
    simp only [hy, hstop, if_false, List.range'_zero, List.append_nil]
  | succ n ih =>
    intro i tmp fuel hi hgo hf
    obtain ⟨f, rfl⟩ := Nat.exists_eq_succ_of_ne_zero (Nat.ne_of_gt (Nat.lt_of_le_of_lt (Nat.zero_le _) hf))
    have hii' : i < i' := by omega
    obtain ⟨x, hx⟩ := getElem?_of_lt (Nat.lt_trans hii' (lt_of_getElem? hy))
    unfold inner1
    simp only [hx, hgo i x (Nat.le_refl i) hii' hx, if_true]
    rw [ih (i+1) (tmp ++ [i]) f (by omega) (fun m x h1 h2 => hgo m x (Nat.le_of_succ_le h1) h2)
      (Nat.lt_of_succ_lt_succ hf), List.range'_succ, List.append_assoc]
    rfl

theorem inner2_noop (c : List Int) (bn : Int) (cond : Bool) (k : Nat) (f i : Nat) (tmp : List Nat) (ci : Int)
    (hci : c[i]? = some ci) (hno : i < k → ci ≠ bn) :
    inner2 c bn cond k (f+1) i tmp = .ok (i, tmp) := by
  unfold inner2
  simp only [hci]
  by_cases hik : i < k
  · have := hno hik
    simp [this]
  · simp [hik]

/-- shape of the regrouping: output for `bj` takes the pieces `[i, i')` where `c[i'] = bj` -/
inductive Groups (c : List Int) (k : Nat) : Nat → List Int → List (List Nat) → Prop
  | nil : Groups c k k [] []
  | cons (i i' : Nat) (bj : Int) (rest : List Int) (outs : List (List Nat)) :
      i < i' → i' ≤ k → c[i']? = some bj → Groups c k i' rest outs →
      Groups c k i (bj :: rest) (List.range' i (i' - i) :: outs)

/-- The second `while` on strictly increasing `b`.  `last_elem = _is_single_last_div(c)` is `true` (`c` ends in
    `an, an`), so the second inner loop is entered, but it stops at once: it wants `c[i] = b[-1]` with `i < k`, and
    `c[0..k]` is strictly increasing with `c[k] = an = b[-1]` (`hinner2`).  Hence `bp = b[-2]` and `blen`, which only
    that loop reads, are arbitrary. -/
theorem phase2_spec {a b : List Int} {a0 an : Int} {c : List Int} {ps : List Slice} (hf : CFacts a b a0 an c ps)
    (bp : Int) (blen : Nat) :
    ∀ (rest : List Int) (j i : Nat) (outs : List (List Nat)) (bprev : Int),
      i ≤ ps.length → c[i]? = some bprev → isStrictSorted (bprev :: rest) = true →
      (∀ x ∈ rest, ∃ m, m ≤ ps.length ∧ c[m]? = some x) → (bprev :: rest).getLast? = some an →
      ∃ outs', phase2 c ps.length true bp an blen rest j i outs = .ok (outs ++ outs') ∧
        Groups c ps.length i rest outs' := by
  intro rest
  induction rest with
  | nil =>
    intro j i outs bprev hik hci _ _ hlast
    simp at hlast
    subst hlast
    obtain rfl : i = ps.length := Nat.le_antisymm hik
      (Nat.le_of_not_lt fun h => Int.lt_irrefl bprev (cfacts_lt hf h (Nat.le_refl _) hci hf.ck))
    exact ⟨[], by simp [phase2], Groups.nil⟩
  | cons bj rest ih =>
    intro j i outs bprev hik hci hstrict hin hlast
    have ⟨hlt, hstrict'⟩ := isStrictSorted_cons.mp hstrict
    obtain ⟨i', hi'k, hci'⟩ := hin bj (by simp)
    have hii' : i < i' := Nat.lt_of_not_le fun h => Int.not_lt.mpr (cfacts_le hf h hik hci' hci) hlt
    have hinner1 : inner1 c bj (c.length + 1) i [] = .ok (i', List.range' i (i' - i)) :=
      inner1_spec c bj hci' (Int.lt_irrefl bj) (i' - i) i [] (c.length + 1) (Nat.add_sub_cancel' (Nat.le_of_lt hii'))
        (fun m x _ h2 hx => cfacts_lt hf h2 hi'k hx hci')
        (Nat.lt_succ_of_le (Nat.le_trans (Nat.sub_le i' i) (Nat.le_of_lt (lt_of_getElem? hci'))))
    have hinner2 : inner2 c an (an != bp || j == blen - 1) ps.length (ps.length + 1) i' (List.range' i (i' - i)) =
        .ok (i', List.range' i (i' - i)) := by
      apply inner2_noop c an _ ps.length ps.length i' _ bj hci'
      intro hlt'
      have := cfacts_lt hf hlt' (Nat.le_refl _) hci' hf.ck
      omega
    unfold phase2
    simp only [hinner1, if_true, hinner2]
    obtain ⟨outs', hrun, hg⟩ := ih (j+1) i' (outs ++ [List.range' i (i' - i)]) bj hi'k hci' hstrict'
      (fun x hx => hin x (by simp [hx])) (by rw [List.getLast?_cons_cons] at hlast; exact hlast)
    refine ⟨List.range' i (i' - i) :: outs', ?_, Groups.cons i i' bj rest outs' hii' hi'k hci' hg⟩
    rw [hrun, List.append_assoc]
    rfl

/-! ### from the regrouping to the validator -/

/-- doubled end points of the final pieces: `2·c[m]`, `+1` at the (inclusive) right end `m = k` -/
def endPt (c : List Int) (k m : Nat) : Int := 2 * c.getD m 0 + (if m = k then 1 else 0)

theorem endPt_of {c : List Int} {k m : Nat} {x : Int} (h : c[m]? = some x) :
    endPt c k m = 2 * x + (if m = k then 1 else 0) := by
  simp [endPt, List.getD_eq_getElem?_getD, h]

/-- the pieces after `d[(out1, k-1)] = … + (True,)` -/
def lastIncl (ps : List Slice) : List Slice :=
  match ps.getLast? with
  | none => ps
  | some p => ps.dropLast ++ [{ p with incl := true }]

theorem setLastIncl_ok {ps : List Slice} (h : 1 ≤ ps.length) : setLastIncl ps = .ok (lastIncl ps) := by
  unfold setLastIncl lastIncl
  obtain ⟨p, hp⟩ := getLast?_of_length ps h
  simp [hp]

theorem lastIncl_concat (ys : List Slice) (p : Slice) : lastIncl (ys ++ [p]) = ys ++ [{ p with incl := true }] := by
  unfold lastIncl
  rw [List.getLast?_concat, List.dropLast_concat]

theorem lastIncl_length (ps : List Slice) : (lastIncl ps).length = ps.length := by
  cases h : ps.getLast? with
  | none => unfold lastIncl; rw [h]
  | some p =>
    obtain ⟨ys, rfl⟩ := List.getLast?_eq_some_iff.mp h
    rw [lastIncl_concat, List.length_append, List.length_append]
    rfl

theorem lastIncl_get {ps : List Slice} {m : Nat} {q : Slice} (hq : (lastIncl ps)[m]? = some q) :
    ∃ p, ps[m]? = some p ∧
      ((m + 1 < ps.length ∧ q = p) ∨ (m + 1 = ps.length ∧ q = { p with incl := true })) := by
  cases h : ps.getLast? with
  | none =>
    rw [List.getLast?_eq_none_iff.mp h] at hq
    cases hq
  | some pl =>
    obtain ⟨ys, rfl⟩ := List.getLast?_eq_some_iff.mp h
    rw [lastIncl_concat] at hq
    rw [List.length_append]
    rcases getElem?_concat_some hq with h1 | ⟨rfl, rfl⟩
    · exact ⟨q, getElem?_append_some h1, Or.inl ⟨Nat.succ_lt_succ (lt_of_getElem? h1), rfl⟩⟩
    · exact ⟨pl, List.getElem?_concat_length, Or.inr ⟨rfl, rfl⟩⟩

theorem eff_piece {a b : List Int} {a0 an : Int} {c : List Int} {ps : List Slice} (hf : CFacts a b a0 an c ps)
    (ha : isStrictSorted a = true) (han : a.getLast? = some an)
    (m : Nat) (q : Slice) (hq : (lastIncl ps)[m]? = some q) :
    effIv a q = some (endPt c ps.length m, endPt c ps.length (m+1)) ∧ endPt c ps.length m < endPt c ps.length (m+1) := by
  obtain ⟨p, hp, hcase⟩ := lastIncl_get hq
  obtain ⟨lo, hi, h1, h2, h3, h4, h5, h6, h7, h8⟩ := hf.pieces m p hp
  rw [endPt_of h3, endPt_of h4, if_neg (Nat.ne_of_lt (lt_of_getElem? hp)), Int.add_zero]
  rcases hcase with ⟨hlt, rfl⟩ | ⟨hlast, rfl⟩
  · rw [if_neg (Nat.ne_of_lt hlt), Int.add_zero]
    exact ⟨effIv_inner h1 h2 h5 h7 h8, by omega⟩
  · -- the last piece ends at `c[k] = an`, so it is cut from the last input partition
    rw [if_pos hlast]
    have hpan : p.hi = an := Option.some.inj (h4.symm.trans (hlast ▸ hf.ck))
    obtain rfl : hi = p.hi := Int.le_antisymm (hpan ▸ strict_le_last ha h2 han) h7
    exact ⟨effIv_last h1 h2 (strict_last_index ha han (hpan ▸ h2)) h5 rfl, by omega⟩

theorem chain_indexed (a : List Int) : ∀ (qs : List Slice) (f : Nat → Int),
    (∀ m q, qs[m]? = some q → effIv a q = some (f m, f (m+1)) ∧ f m < f (m+1)) →
    chain a (f 0) qs = some (f qs.length) := by
  intro qs
  induction qs with
  | nil => intro f _; rfl
  | cons q t ih =>
    intro f h
    have ⟨he, hlt⟩ := h 0 q rfl
    unfold chain
    simp only [he, hlt, if_true]
    have := ih (fun m => f (m+1)) (fun m q' hq' => h (m+1) q' (by simpa using hq'))
    simpa using this

theorem groups_le {c : List Int} {k i : Nat} {rest : List Int} {outs : List (List Nat)}
    (h : Groups c k i rest outs) : i ≤ k := by
  induction h with
  | nil => exact Nat.le_refl _
  | cons i i' bj rest outs h1 h2 _ _ _ => omega

theorem groups_len {c : List Int} {k i : Nat} {rest : List Int} {outs : List (List Nat)}
    (h : Groups c k i rest outs) : outs.length = rest.length := by
  induction h with
  | nil => rfl
  | cons i i' bj rest outs _ _ _ _ ih => simp [ih]

theorem groups_flat {c : List Int} {k i : Nat} {rest : List Int} {outs : List (List Nat)}
    (h : Groups c k i rest outs) : outs.flatten = List.range' i (k - i) := by
  induction h with
  | nil => simp
  | cons i i' bj rest outs h1 h2 _ hg ih =>
    rw [List.flatten_cons, ih]
    exact range'_append_range' (Nat.le_of_lt h1) h2

theorem groups_mem {c : List Int} {k i : Nat} {rest : List Int} {outs : List (List Nat)}
    (h : Groups c k i rest outs) : ∀ tmp ∈ outs, tmp.isEmpty = false ∧ ∀ m ∈ tmp, m < k := by
  induction h with
  | nil => intro tmp ht; cases ht
  | cons i i' bj rest outs h1 h2 _ hg ih =>
    intro tmp ht
    cases ht with
    | head =>
      refine ⟨?_, ?_⟩
      · obtain ⟨n, hn⟩ := Nat.exists_eq_succ_of_ne_zero (Nat.sub_ne_zero_of_lt h1)
        rw [hn, List.range'_succ]; rfl
      · intro m hm
        have := (List.mem_range'_1.mp hm).2
        rw [Nat.add_sub_cancel' (Nat.le_of_lt h1)] at this
        exact Nat.lt_of_lt_of_le this h2
    | tail _ ht' => exact ih tmp ht'

theorem endPt_mono {a b : List Int} {a0 an : Int} {c : List Int} {ps : List Slice} (hf : CFacts a b a0 an c ps)
    {m1 m2 : Nat} (h12 : m1 ≤ m2) (h2 : m2 ≤ ps.length) : endPt c ps.length m1 ≤ endPt c ps.length m2 := by
  rcases Nat.lt_or_eq_of_le h12 with hlt | rfl
  · have hl2 : m2 < c.length := by rw [hf.clen]; exact Nat.lt_succ_of_le (Nat.le_succ_of_le h2)
    obtain ⟨x, hx⟩ := getElem?_of_lt (Nat.lt_trans hlt hl2)
    obtain ⟨y, hy⟩ := getElem?_of_lt hl2
    have := cfacts_lt hf hlt h2 hx hy
    rw [endPt_of hx, endPt_of hy, if_neg (Nat.ne_of_lt (Nat.lt_of_lt_of_le hlt h2))]
    split <;> omega
  · exact Int.le_refl _

theorem groups_bounds {a b : List Int} {a0 an : Int} {c : List Int} {ps : List Slice} (hf : CFacts a b a0 an c ps)
    (hb : isStrictSorted b = true) (hbn : b.getLast? = some an) (qs : List Slice)
    (heff : ∀ m q, qs[m]? = some q →
      effIv a q = some (endPt c ps.length m, endPt c ps.length (m+1)) ∧ endPt c ps.length m < endPt c ps.length (m+1)) :
    ∀ (i : Nat) (rest : List Int) (outs : List (List Nat)), Groups c ps.length i rest outs →
      ∀ (j : Nat) (bprev : Int), b.drop j = bprev :: rest → c[i]? = some bprev →
        boundsOK a b j (outs.map (fun tmp => tmp.filterMap (fun m => qs[m]?))) = true := by
  intro i rest outs h
  induction h with
  | nil => intro j bprev _ _; rfl
  | cons i i' bj rest outs h1 h2 hci' hg ih =>
    intro j bprev hdrop hci
    have hbj0 : b[j]? = some bprev := by rw [← List.head?_drop, hdrop]; rfl
    have hbj1 : b[j+1]? = some bj := by rw [← List.getElem?_drop, hdrop]; rfl
    have hdrop' : b.drop (j+1) = bj :: rest := by rw [← List.tail_drop, hdrop]; rfl
    -- the group `[i, i')` lies between `endPt i = 2·b[j]` and `endPt i' ≤ 2·b[j+1] (+1 at the last division)`
    have hlo : endPt c ps.length i = 2 * bprev := by
      rw [endPt_of hci, if_neg (Nat.ne_of_lt (Nat.lt_of_lt_of_le h1 h2))]; exact Int.add_zero _
    have hhi : endPt c ps.length i' ≤ 2 * bj + (if j + 2 = b.length then 1 else 0) := by
      rw [endPt_of hci']
      by_cases hk : i' = ps.length
      · -- `c[k] = an` is the last new division
        have hbj : bj = an := Option.some.inj (hci'.symm.trans (hk ▸ hf.ck))
        have hj2 : j + 2 = b.length := strict_last_index hb hbn (hbj ▸ hbj1)
        rw [if_pos hk, if_pos hj2]
        exact Int.le_refl _
      · rw [if_neg hk]
        split <;> omega
    simp only [List.map_cons, boundsOK, hbj0, hbj1, Bool.and_eq_true]
    refine ⟨withinB_of fun q hq => ?_, ih (j+1) bj hdrop' hci'⟩
    obtain ⟨m, hm, hqm⟩ := List.mem_filterMap.mp hq
    have ⟨hm1, hm2⟩ := List.mem_range'_1.mp hm
    have hmi' : m + 1 ≤ i' := by omega
    exact ⟨_, _, (heff m q hqm).1, hlo ▸ endPt_mono hf hm1 (Nat.le_trans (Nat.le_of_succ_le hmi') h2),
      Int.le_trans (endPt_mono hf hmi' h2) hhi⟩

theorem planOf_groups {c : List Int} {k i : Nat} {rest : List Int} {outs : List (List Nat)}
    (hg : Groups c k i rest outs) (qs : List Slice) (a0 : Int) :
    planOf ⟨qs, outs, a0⟩ = outs.map (fun tmp => tmp.filterMap (fun m => qs[m]?)) := by
  unfold planOf
  apply List.map_congr_left
  intro tmp ht
  have := (groups_mem hg tmp ht).1
  simp [this]

/-- Strictly increasing old and new divisions with equal end points: the planner succeeds and its plan
    passes the validator.  Phase 1 keeps `Inv1` and ends in `CFacts` (`phase1_spec`, `cfacts_of_inv1`); phase 2 yields
    `Groups` (`phase2_spec`).  Of the validator's conjuncts, the chain comes from `groups_flat` (the outputs list every
    piece once, in order) with `chain_indexed` over `eff_piece`, the bounds from `groups_bounds`. -/
theorem planner_strict (a b : List Int) (force : Bool)
    (ha : isStrictSorted a = true) (hb : isStrictSorted b = true)
    (hla : 2 ≤ a.length) (hlb : 2 ≤ b.length)
    (h0 : a.head? = b.head?) (hn : a.getLast? = b.getLast?) :
    ∃ st, planner a b force = .ok st ∧ closedOK st = true ∧ planOK a b (planOf st) = true := by
  obtain ⟨a0, ha0⟩ := head?_of_length a (Nat.le_of_succ_le hla)
  obtain ⟨an, han⟩ := getLast?_of_length a (Nat.le_of_succ_le hla)
  cases b with
  | nil => cases hlb
  | cons b0 bt =>
    obtain rfl : b0 = a0 := Option.some.inj (h0.symm.trans ha0)
    have hbn : (b0 :: bt).getLast? = some an := hn ▸ han
    obtain ⟨bp, bn, hl2, hbn', hbp, _⟩ := last2_of_length (b0 :: bt) hlb
    obtain rfl : an = bn := Option.some.inj (hbn.symm.trans hbn')
    have hbpn : bp < an := strict_last2 hb hbp hbn hlb
    obtain ⟨ap, an', _, han'', hap, hsa⟩ := last2_of_length a hla
    obtain rfl : an = an' := Option.some.inj (han.symm.trans han'')
    have hsa' : isSingleLastDiv a = false := hsa.trans (by simp [Int.ne_of_gt (strict_last2 ha hap han hla)])
    have ha0' : a[0]? = some b0 := List.head?_eq_getElem? ▸ ha0
    have ha0an : b0 < an := strict_lt ha (Nat.sub_pos_of_lt hla) ha0' (List.getLast?_eq_getElem? ▸ han)
    obtain ⟨s1, hp1, hinv1, hexit⟩ := phase1_spec ha hb han (a.length + (b0 :: bt).length + 1) ⟨1, 1, b0, [b0], []⟩
      (inv1_init ha hb hla hlb ha0' rfl han) (Nat.lt_add_right 2 (Nat.lt_add_one _))
    have ⟨hlow, hf⟩ := cfacts_of_inv1 hb han hbn hinv1 hexit
    have hk : 1 ≤ s1.pieces.length := Nat.pos_of_ne_zero fun hk =>
      Int.lt_irrefl an (Option.some.inj (hf.c0.symm.trans (hk ▸ hf.ck)) ▸ ha0an)
    obtain ⟨outs, hp2, hg⟩ := phase2_spec hf bp (b0 :: bt).length bt 1 0 [] b0 (Nat.zero_le _) hf.c0 hb
      (fun x hx => (List.mem_iff_getElem?.mp hx).elim fun j hj => hf.b_in (j+1) x hj)
      hbn
    simp only [List.nil_append] at hp2
    have hqlen := lastIncl_length s1.pieces
    refine ⟨⟨lastIncl s1.pieces, outs, b0⟩, ?_, ?_, ?_⟩
    · -- the planner computes exactly this state
      have hclast : s1.c.getLast? = some an := by
        rw [List.getLast?_eq_getElem?, hinv1.clen, Nat.add_sub_cancel, hinv1.clast, hlow]
      have hsl : isSingleLastDiv (s1.c ++ [an]) = true := by
        rw [isSingleLastDiv_snoc, hclast]; simp
      have hgf : guardFails force b0 an b0 an = false := by
        unfold guardFails; cases force <;> simp
      have hcond : (decide (an < an) || an == bp) = false := by
        simp [(Int.ne_of_lt hbpn).symm]
      unfold planner
      simp only [Nat.not_lt.mpr hlb, Nat.not_lt.mpr hla, if_false, ha0, han, List.head?_cons, hl2, hgf, Bool.false_eq_true, hp1, hcond,
        hsa', setLastIncl_ok hk, hsl, hqlen, List.drop_succ_cons, List.drop_zero, hp2]
    · unfold closedOK
      simp only [List.all_eq_true, decide_eq_true_eq]
      intro tmp ht m hm
      rw [hqlen]
      exact (groups_mem hg tmp ht).2 m hm
    · have heff := eff_piece hf ha han
      have hplan := planOf_groups hg (lastIncl s1.pieces) b0
      have hflat : (planOf ⟨lastIncl s1.pieces, outs, b0⟩).flatten = lastIncl s1.pieces := by
        rw [hplan, ← List.filterMap_flatten, groups_flat hg, Nat.sub_zero, ← List.range_eq_range', ← hqlen]
        exact filterMap_range_getElem? _
      have hchain : chain a (2 * b0) (lastIncl s1.pieces) = some (2 * an + 1) := by
        have := chain_indexed a (lastIncl s1.pieces) (endPt (s1.c ++ [an]) s1.pieces.length) heff
        rwa [endPt_of hf.c0, if_neg (Nat.ne_of_lt hk), Int.add_zero, hqlen, endPt_of hf.ck, if_pos rfl] at this
      unfold planOK
      simp only [Bool.and_eq_true, decide_eq_true_eq]
      refine ⟨⟨⟨strict_isSorted _ hb, ?_⟩, ?_⟩, ?_⟩
      · rw [hplan, List.length_map, groups_len hg]; rfl
      · simp only [ha0, han, hflat, hchain, beq_self_eq_true]
      · rw [hplan]; exact groups_bounds hf hb hbn (lastIncl s1.pieces) heff 0 bt outs hg 0 b0 rfl hf.c0

end Dx.Repartition

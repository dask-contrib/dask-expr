/-
  Lemmas/FragMerge.lean — soundness of `Merge._simplify_up` (Projection parent) in the fragment.  The side condition
  `mergeOK` (the join keys are columns; `KeysDoNotCollide`, open finding D34; duplicate-free result labels) is part of
  the node's definedness: the pruned join is `mergeOK` again and has every requested label over the same column.
-/
import DxModel.Lemmas.FragRules
namespace Dx.Frag
open Dx Dx.Cols

variable {γ ι : Type}

theorem mergeOK_iff (m : MergeP) (L R : List Name) :
    mergeOK m L R = true ↔ (∀ k, k ∈ m.leftOn → k ∈ L) ∧ (∀ k, k ∈ m.rightOn → k ∈ R) ∧
      KeysDoNotCollide m L R ∧ (mergeLabels m L R).Nodup := by
  simp only [mergeOK, KeysDoNotCollide, Bool.and_eq_true, subsetB_iff, List.all_eq_true, Bool.or_eq_true,
    Bool.not_eq_true', decide_eq_true_eq, ← Bool.not_eq_true, List.contains_iff_mem, ← Decidable.imp_iff_not_or,
    and_assoc]

theorem semOp_merge_iff (I : Interp γ ι) (how : Nat) (m : MergeP) (A B v : FVal γ) :
    semOp I (.merge how m) [A, B] = some v ↔
      A.ser = false ∧ B.ser = false ∧ how < 4 ∧ mergeOK m A.fr.cols B.fr.cols = true ∧
        v = ⟨mergeFrame I how m A.fr B.fr, false⟩ := by
  refine (semOp_iff (I := I) (o := .merge how m) (vs := [A, B]) (s := ⟨mergeLabels m A.fr.cols B.fr.cols, false⟩) rfl
    (fun _ => rfl) (normal_mergeFrame I how m A.fr B.fr) v).trans ?_
  simp only [Bool.and_eq_true, Bool.not_eq_true', decide_eq_true_eq, and_assoc]
  rfl

theorem mergeOK_pruned {m : MergeP} {L R : List Name} (hL : L.Nodup) (hR : R.Nodup) (hok : mergeOK m L R = true)
    (pj : List Name) : mergeOK m (mergeLists m L R pj).1 (mergeLists m L R pj).2 = true := by
  obtain ⟨hlo, hro, hkeys, hlnd⟩ := (mergeOK_iff m L R).mp hok
  obtain ⟨hlnd', hkeys'⟩ := C04_merge_pruned_wf m L R hL hR hkeys hlnd pj
  exact (mergeOK_iff m _ _).mpr ⟨fun k hk => merge_left_keys m L R pj hR hk (hlo k hk),
    fun k hk => merge_right_keys m L R pj hR hk (hro k hk), hkeys', hlnd'⟩

/-- `C04_merge_labels_partial` and the two `C04_merge_values_*_partial` together: a requested label of the join is a
    label of the pruned join, over the same column -/
theorem mergeOp_pruned (M : MergeOp γ) {A B : Frame γ} (hA : A.cols.Nodup) (hB : B.cols.Nodup)
    (hok : mergeOK M.m A.cols B.cols = true) {p : Parent} {deps : List Dep} {rwr : Rw}
    (h : merge M.m A.cols B.cols p deps = some rwr) {pl pr : List Name} (hch : rwr.childs = [some (.many pl), some (.many pr)])
    {l : Name} (hl : l ∈ p.cols) (hml : l ∈ mergeLabels M.m A.cols B.cols) :
    l ∈ (M.op (A.select pl) (B.select pr)).cols ∧ (M.op (A.select pl) (B.select pr)).val l = (M.op A B).val l := by
  obtain ⟨hlo, hro, hkeys, hlnd⟩ := (mergeOK_iff M.m A.cols B.cols).mp hok
  obtain ⟨_, _, hch', hlab⟩ := C04_merge_labels_partial M.m A.cols B.cols hB hkeys p deps rwr h
  cases hch.symm.trans hch'
  have hval : (evalMerge M p.cols rwr A B).val l = ((M.op A B).select p.cols).val l := by
    rcases List.mem_append.mp hml with hm | hm
    · obtain ⟨c, hc, rfl⟩ := List.mem_map.mp hm
      exact C04_merge_values_left_partial M A B hA hB hlnd hkeys hlo hro p deps rwr h c hc hl
    · obtain ⟨c, hc, rfl⟩ := List.mem_map.mp hm
      obtain ⟨hcB, hck⟩ := List.mem_filter.mp hc
      exact C04_merge_values_right_partial M A B hA hB hlnd hkeys hlo hro p deps rwr h c hcB ((Bool.not_eq_true' _).mp hck) hl
  simp only [evalMerge, hch, selOpt_many, select_val_mem hl] at hval
  exact ⟨M.op_cols _ _ ▸ hlab l hl hml, hval⟩

/-- Merge: `Projection(merge(a, b), sel)` → `Projection(merge(a[pl], b[pr]), sel)` -/
theorem upMerge_sound (I : Interp γ ι) {how : Nat} {m : MergeP} {a b c p o : Expr} {d : Deps}
    (hc : c.op = .merge how m) (ha : c.args = [a, b]) (h : upMerge how m a b c p d = some o) :
    ∀ v, den I p = some v → den I o = some v := by
  unfold upMerge at h
  split at h
  · next sel sa sb hpo hsa hsb =>
    generalize hr : merge m sa.cols sb.cols (parentOf sel) (depsOf d c) = r at h
    cases r with
    | none => cases h
    | some rwr =>
      obtain rfl := merge_spec hr
      cases h
      refine projOver_sound hpo fun vc hvc _ hsub => ?_
      obtain ⟨va, vb, hva, hvb, hvc⟩ := den_binary hc ha hvc
      obtain ⟨hA, hB, hhow, hok, rfl⟩ := (semOp_merge_iff I how m va vb vc).mp hvc
      obtain rfl := schema_of_den hva hsa
      obtain rfl := schema_of_den hvb hsb
      -- duplicate-free as the label lists of the schemas, the form in which the goal has them
      have hLn := schemaOf_nodup a _ hsa
      have hRn := schemaOf_nodup b _ hsb
      have hag := fun l hl => mergeOp_pruned (mergeM I how m) hLn hRn hok hr rfl (parentOf_cols sel ▸ hl) (hsub l hl)
      rw [mergeM_op] at hag
      refine ⟨_, ?_, hag⟩
      rw [den_mk2, den_proj_some (s := .many _) hva hA (merge_left_nodup m _ _ _ hLn hRn) (merge_left_sub m _ _ _ hRn),
        den_proj_some (s := .many _) hvb hB (merge_right_nodup m _ _ _ hLn hRn) (merge_right_sub m _ _ _ hRn),
        Option.bind_some, Option.bind_some]
      exact (semOp_merge_iff I how m _ _ _).mpr ⟨rfl, rfl, hhow, mergeOK_pruned hLn hRn hok _, rfl⟩
  · cases h

end Dx.Frag

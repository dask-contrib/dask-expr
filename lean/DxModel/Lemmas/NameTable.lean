/-
  Lemmas/NameTable.lean — from linear / per-group decidable checks on the grouped name table to pairwise
  separation of all classes with a constant prefix.  The checks (`sortedKeys` … `tableOK`, `goodRow`, `goodClass`)
  occur in the statements `C08_name_table`, `C08_injective_on_table`; they are defined here, next to the proof that
  they suffice.
-/
import DxModel.Lemmas.Names
import DxModel.Lemmas.ListBasics
namespace Dx.Names

/-- group keys strictly ascending (adjacent check, linear) -/
def sortedKeys {α : Type} : List (Nat × α) → Bool
  | [] => true
  | [_] => true
  | a :: b :: t => a.1 < b.1 && sortedKeys (b :: t)

/-- in a list with strictly ascending keys an element is determined by its key -/
theorem sortedKeys_unique {α : Type} (l : List (Nat × α)) (h : sortedKeys l = true) :
    ∀ x ∈ l, ∀ y ∈ l, x.1 = y.1 → x = y :=
  inj_of_nodup_map Prod.fst l <| List.pairwise_map.mpr <|
    (pairwise_of_adjacent (R := fun a b : Nat × α => a.1 < b.1) (fun _ _ _ => Nat.lt_trans)
      (P := fun l => sortedKeys l = true)
      (fun a b t h => by simpa only [sortedKeys, Bool.and_eq_true, decide_eq_true_eq] using h) l h).imp
    Nat.ne_of_lt

/-- within one prefix group: any two classes are separated, or the group's prefix is exempt -/
def groupPairsOK (exempt : List String) (g : List Row) : Bool :=
  g.all (fun a => g.all (fun b => !(a.id < b.id) || separated a.rule b.rule
    || (exempt.contains a.pfx && exempt.contains b.pfx)))

/-- every member carries the group's prefix number -/
def groupPfxOK (g : Nat × List Row) : Bool := g.2.all (fun r => r.rule.pfxConst == some g.1)

/-- all the checks on the grouped table (each linear, or quadratic within one prefix group) -/
def tableOK (exempt : List String) (dyn : List Row) (groups : List (Nat × List Row)) : Bool :=
  sortedKeys groups && groups.all groupPfxOK && groups.all (fun g => groupPairsOK exempt g.2)
    && dyn.all (fun r => r.rule.pfxConst.isNone)

/-- a class the injectivity theorem speaks about: constant, non-exempt prefix and a token over all operands -/
def goodRow (exempt : List String) (r : Row) : Bool :=
  r.rule.pfxConst.isSome && !exempt.contains r.pfx && ownComplete r.rule

theorem table_separates {exempt : List String} {dyn : List Row} {groups : List (Nat × List Row)}
    (h : tableOK exempt dyn groups = true) {a b : Row}
    (ha : a ∈ dyn ++ groups.flatMap (·.2)) (hb : b ∈ dyn ++ groups.flatMap (·.2))
    (ga : goodRow exempt a = true) (gb : goodRow exempt b = true) (hne : a.id ≠ b.id) :
    separated a.rule b.rule = true := by
  simp only [tableOK, Bool.and_eq_true, List.all_eq_true] at h
  obtain ⟨⟨⟨hs, hp⟩, hg⟩, hd⟩ := h
  simp only [goodRow, Bool.and_eq_true, Bool.not_eq_true'] at ga gb
  -- a row with a constant prefix sits in a group, under the group's prefix number
  have inGroup : ∀ r : Row, r ∈ dyn ++ groups.flatMap (·.2) → r.rule.pfxConst.isSome = true →
      ∃ g ∈ groups, r ∈ g.2 ∧ r.rule.pfxConst = some g.1 := by
    intro r hr hsome
    rcases List.mem_append.mp hr with hr | hr
    · rw [Option.isNone_iff_eq_none.mp (hd r hr)] at hsome; cases hsome
    · obtain ⟨g, hg, hrg⟩ := List.mem_flatMap.mp hr
      exact ⟨g, hg, hrg, beq_iff_eq.mp (List.all_eq_true.mp (hp g hg) r hrg)⟩
  obtain ⟨g₁, hg₁, ha₁, pa⟩ := inGroup a ha ga.1.1
  obtain ⟨g₂, hg₂, hb₂, pb⟩ := inGroup b hb gb.1.1
  by_cases hk : g₁.1 = g₂.1
  · -- same group: the pair check, read in the order of the ids
    obtain rfl : g₁ = g₂ := sortedKeys_unique groups hs g₁ hg₁ g₂ hg₂ hk
    have pair : ∀ x ∈ g₁.2, ∀ y ∈ g₁.2, exempt.contains x.pfx = false → x.id < y.id →
        separated x.rule y.rule = true := by
      intro x hx y hy gx hlt
      have := List.all_eq_true.mp (List.all_eq_true.mp (hg g₁ hg₁) x hx) y hy
      simpa only [hlt, decide_true, Bool.not_true, Bool.false_or, gx, Bool.false_and, Bool.or_false] using this
    rcases Nat.lt_or_gt_of_ne hne with hlt | hgt
    · exact pair a ha₁ b hb₂ ga.1.2 hlt
    · rw [separated_symm]; exact pair b hb₂ a ha₁ gb.1.2 hgt
  · -- different groups: constant prefixes differ
    simp only [separated, constPfxDiffer, pa, pb, Bool.or_eq_true, bne_iff_ne, ne_eq]
    exact Or.inl (Or.inl hk)

/-! ### the scheme whose rules are read off a table -/

theorem findRow_spec {rows : List Row} {c : Nat} {r : Row} (h : findRow rows c = some r) : r ∈ rows ∧ r.id = c := by
  unfold findRow at h
  exact ⟨List.mem_of_find?_eq_some h, by simpa using List.find?_some h⟩

/-- the classes of a table the injectivity theorem covers -/
def goodClass (exempt : List String) (rows : List Row) (c : Nat) : Prop :=
  ∃ r, findRow rows c = some r ∧ goodRow exempt r = true

theorem table_complete {exempt : List String} {dyn : List Row} {groups : List (Nat × List Row)}
    (h : tableOK exempt dyn groups = true) {L τ : Type} (S : Scheme L τ)
    (hS : S.rules = ruleOf (dyn ++ groups.flatMap (·.2))) :
    NameRuleComplete S (goodClass exempt (dyn ++ groups.flatMap (·.2))) := by
  refine ⟨?_, ?_⟩
  · intro c ⟨r, hr, hg⟩
    rw [hS]; unfold ruleOf; rw [hr]
    simp only [goodRow, Bool.and_eq_true] at hg
    exact hg.2
  · intro c₁ c₂ ⟨r₁, hr₁, g₁⟩ ⟨r₂, hr₂, g₂⟩ hne
    rw [hS]; unfold ruleOf; rw [hr₁, hr₂]
    obtain ⟨m₁, i₁⟩ := findRow_spec hr₁
    obtain ⟨m₂, i₂⟩ := findRow_spec hr₂
    exact table_separates h m₁ m₂ g₁ g₂ (by rw [i₁, i₂]; exact hne)

end Dx.Names

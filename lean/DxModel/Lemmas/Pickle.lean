/-
  Lemmas/Pickle.lean — reduce/reconstruct round trip by structural induction (incl. nested lists).
-/
import DxModel.Pickle
namespace Dx.Pickle
open Dx.Names

mutual
theorem roundtripE : ∀ e : PE, reconstruct (reduce e) = .sub (cold e)
  | .node c ops => by simp only [reduce, reconstruct, cold, roundtripOps ops]
theorem roundtripO : ∀ o : POp, reconstruct (reduceO o) = coldO o
  | .lit t => by simp only [reduceO, reconstruct, coldO]
  | .sub e => by simp only [reduceO, coldO, roundtripE e]
  | .seq l => by simp only [reduceO, reconstruct, coldO, roundtripOps l]
  | .backend d c => by simp only [reduceO, reconstruct, coldO]
theorem roundtripOps : ∀ l : List POp, reconstructs (reduceOps l) = coldOps l
  | [] => by simp only [reduceOps, reconstructs, coldOps]
  | o :: os => by simp only [reduceOps, reconstructs, coldOps, roundtripO o, roundtripOps os]
end

mutual
theorem toE_cold : ∀ e : PE, toE (cold e) = toE e
  | .node c ops => by simp only [cold, toE, toOps_cold ops]
theorem toO_cold : ∀ o : POp, toO (coldO o) = toO o
  | .lit t => by simp only [coldO]
  | .sub e => by simp only [coldO, toO, toE_cold e]
  | .seq l => by simp only [coldO, toO, toOps_cold l]
  | .backend d c => by simp only [coldO, toO]
theorem toOps_cold : ∀ l : List POp, toOps (coldOps l) = toOps l
  | [] => by simp only [coldOps]
  | o :: os => by simp only [coldOps, toOps, toO_cold o, toOps_cold os]
end

mutual
/-- no `_BackendData` wrapper below has a warm cache -/
def ColdE : PE → Prop
  | .node _ ops => ColdOps ops
def ColdO : POp → Prop
  | .lit _ => True
  | .sub e => ColdE e
  | .seq l => ColdOps l
  | .backend _ c => c = []
def ColdOps : List POp → Prop
  | [] => True
  | o :: os => ColdO o ∧ ColdOps os
end

mutual
theorem cold_idE : ∀ e : PE, ColdE e → cold e = e
  | .node c ops, h => by simp only [ColdE] at h; simp only [cold, cold_idOps ops h]
theorem cold_idO : ∀ o : POp, ColdO o → coldO o = o
  | .lit t, _ => by simp only [coldO]
  | .sub e, h => by simp only [ColdO] at h; simp only [coldO, cold_idE e h]
  | .seq l, h => by simp only [ColdO] at h; simp only [coldO, cold_idOps l h]
  | .backend d c, h => by simp only [ColdO] at h; simp only [coldO, h]
theorem cold_idOps : ∀ l : List POp, ColdOps l → coldOps l = l
  | [], _ => by simp only [coldOps]
  | o :: os, h => by simp only [ColdOps] at h; simp only [coldOps, cold_idO o h.1, cold_idOps os h.2]
end

end Dx.Pickle

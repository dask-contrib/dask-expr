/-
  Lemmas/FragCode.lean — the literal code of DxModel/Fragment.lean is invertible: `opOf o.cls o.lit = o` for every
  class/operand view `o`, hence `(mk o args).op = o`.
-/
import DxModel.Fragment
namespace Dx.Frag
open Dx Dx.Cols

/-! ### lists of naturals (`tz f n`: the trailing zero bits of `n`, at most `f`; `encL`/`decL` of Fragment.lean §1) -/

theorem tz_pow (m : Nat) (hm : m % 2 = 1) : ∀ a f, a ≤ f → tz f (2 ^ a * m) = a
  | 0, 0, _ => rfl
  | 0, f + 1, _ => by rw [Nat.pow_zero, Nat.one_mul, tz, if_pos hm]
  | a + 1, 0, h => absurd h (Nat.not_succ_le_zero a)
  | a + 1, f + 1, h => by
    have e : 2 ^ (a + 1) * m = 2 * (2 ^ a * m) := by rw [Nat.pow_succ, Nat.mul_comm (2 ^ a) 2, Nat.mul_assoc]
    rw [tz, e, Nat.mul_mod_right, if_neg Nat.zero_ne_one, Nat.mul_div_cancel_left _ Nat.two_pos,
      tz_pow m hm a f (Nat.le_of_succ_le_succ h), Nat.add_comm]

theorem encL_cons_pos (a : Nat) (t : List Nat) : 0 < encL (a :: t) :=
  Nat.mul_pos (Nat.two_pow_pos a) (Nat.succ_pos _)

/-- the fuel `encL l` suffices: the head exponent and the code of the tail are both below the code -/
theorem decL_encL : ∀ (l : List Nat) (f : Nat), encL l ≤ f → decL f (encL l) = l
  | [], 0, _ => rfl
  | [], f + 1, _ => by rw [encL, decL, if_pos rfl]
  | a :: t, 0, h => absurd h (Nat.not_le_of_gt (encL_cons_pos a t))
  | a :: t, f + 1, h => by
    have hp : 0 < 2 ^ a := Nat.two_pow_pos a
    have hge : a ≤ 2 ^ a * (2 * encL t + 1) :=
      Nat.le_trans (Nat.le_of_lt Nat.lt_two_pow_self) (Nat.le_mul_of_pos_right _ (Nat.succ_pos _))
    have hle : encL t ≤ f := by
      have h1 : 2 * encL t + 1 ≤ f + 1 := Nat.le_trans (Nat.le_mul_of_pos_left _ hp) h
      omega
    rw [decL, if_neg (Nat.ne_of_gt (encL_cons_pos a t)), encL, tz_pow _ (Nat.mul_add_mod 2 _ 1) a _ hge,
      Nat.mul_div_cancel_left _ hp, Nat.mul_add_div Nat.two_pos, Nat.add_zero, decL_encL t f hle]

/-! ### sentences -/

theorem splitW_word (w : List Nat) (rest : List Nat) :
    splitW (w.map (· + 1) ++ 0 :: rest) = w :: splitW rest := by
  induction w with
  | nil => rfl
  | cons a t ih => simp only [List.map_cons, List.cons_append, splitW, ih]

theorem splitW_flatW : ∀ s : Sentence, splitW (flatW s) = s
  | [] => rfl
  | w :: ws => by rw [flatW, splitW_word, splitW_flatW ws]

theorem decS_encS (s : Sentence) : decS (encS s) = s := by
  unfold decS encS
  rw [decL_encL _ _ (Nat.le_refl _), splitW_flatW]

theorem nameW_wName (s : Name) : nameW (wName s) = s := by
  unfold nameW wName
  rw [List.map_map]
  have : (Char.ofNat ∘ Char.toNat) = id := by
    funext c; simp
  rw [this, List.map_id]
  simp

theorem names_rt (l : List Name) : (l.map wName).map nameW = l := by
  rw [List.map_map]
  have : (nameW ∘ wName) = id := by
    funext c; exact nameW_wName c
  rw [this, List.map_id]

theorem pairsOf_unpairs : ∀ m : List (Name × Name), pairsOf (unpairs m) = m
  | [] => rfl
  | kv :: t => by simp only [unpairs, pairsOf, pairsOf_unpairs t]

/-! ### classes -/

theorem take_names (l : List Name) (r : Sentence) : (l.map wName ++ r).take l.length = l.map wName :=
  List.take_left' (List.length_map _)

theorem drop_names (l : List Name) (r : Sentence) : (l.map wName ++ r).drop l.length = r :=
  List.drop_left' (List.length_map _)

theorem srcOfSent_sent (l : SrcLit) : srcOfSent (Op.src l).sent = .src l := by
  obtain ⟨tid, full, cols⟩ := l
  cases cols <;> simp only [Op.sent, srcOfSent, take_names, drop_names, names_rt]

theorem mergeOfSent_sent (how : Nat) (m : MergeP) : mergeOfSent (Op.merge how m).sent = .merge how m := by
  obtain ⟨lo, ro, ls, rs⟩ := m
  simp only [Op.sent, mergeOfSent, take_names, drop_names, names_rt, nameW_wName]

theorem opOfSent_sent (o : Op) : opOfSent o.cls o.sent = o := by
  cases o with
  | src l => exact srcOfSent_sent l
  | proj sel =>
    cases sel with
    | one c => simp only [Op.cls, Op.sent, opOfSent, nameW_wName]
    | many cs => simp only [Op.cls, Op.sent, opOfSent, names_rt]
  | elem op => rfl
  | bink op k => rfl
  | bin op => rfl
  | assign keys => simp only [Op.cls, Op.sent, opOfSent, names_rt]
  | rename m => simp only [Op.cls, Op.sent, opOfSent, names_rt, pairsOf_unpairs]
  | filter => rfl
  | merge how m => exact mergeOfSent_sent how m
  | concat inner => cases inner <;> rfl
  | bad => rfl

/-- the code of a node determines its class and non-expression operands -/
theorem opOf_code (o : Op) : opOf o.cls o.lit = o := by
  unfold opOf Op.lit
  rw [decS_encS, opOfSent_sent]

@[simp] theorem mk_op (o : Op) (args : List Expr) : (mk o args).op = o := opOf_code o
@[simp] theorem mk_args (o : Op) (args : List Expr) : (mk o args).args = args := rfl
@[simp] theorem proj_op (s : Sel) (x : Expr) : (proj s x).op = .proj s := mk_op _ _
@[simp] theorem proj_args (s : Sel) (x : Expr) : (proj s x).args = [x] := rfl

end Dx.Frag

/-
  Lemmas/Shuffle.lean — the dict returned by `shuffle_group` (`lookupG`), `run` of a `ssplit` key of the
  SimpleShuffle layer, the barrier of the DiskShuffle layer, and the concrete shuffles the `example`s of Props/C12.lean instantiate.
-/
import DxModel.Layers.Shuffle
namespace Dx
open Shuffle

theorem lookupG_map (F : Nat → List Row) (ks : List Nat) (o : Nat) (h : o ∈ ks) :
    lookupG (ks.map (fun k => (k, F k))) o = .frame (F o) := by
  induction ks with
  | nil => cases h
  | cons a t ih =>
    simp only [List.map_cons, lookupG]
    by_cases hao : a = o
    · simp [hao]
    · simp only [hao, if_false]
      cases h with
      | head => exact absurd rfl hao
      | tail _ h => exact ih h

theorem lookupG_spec (rows : List Row) (f : Option (List Nat)) (stage k nin c : Nat) (hc : c < k)
    (hf : ∀ l, f = some l → c ∈ l) :
    lookupG (shuffleGroupSpec rows f stage k nin) c =
      .frame (rows.filter (fun r => stageDigit nin k stage r == c)) := by
  unfold shuffleGroupSpec
  apply lookupG_map (fun c => rows.filter (fun r => stageDigit nin k stage r == c))
  rw [List.mem_filter]
  refine ⟨List.mem_range.mpr hc, ?_⟩
  cases f with
  | none => rfl
  | some l => simpa using hf l rfl

theorem run_ssplit (I : Interp) (p : Params) (rows : Nat → List Row) (n o i : Nat) (hi : i < p.nin)
    (ho : o ∈ p.parts) (hon : o < p.nout) (hrows : ∀ r ∈ rows i, r.tgt < p.nout) :
    run I (simpleTask p) (inputs rows) (n+2) (.ssplit o i) =
      .frame ((rows i).filter (fun r => r.tgt == o)) := by
  rw [run_defined I (simpleTask p) _ (n+1) (.ssplit o i) _ (if_pos ⟨ho, hi⟩)]
  rw [evalTsk, run_defined I (simpleTask p) _ n (.sgroup i) _ (if_pos ⟨hi, List.ne_nil_of_mem ho⟩)]
  simp only [evalTsk, run_input I (simpleTask p) (inputs rows) (.dep i) (.frame (rows i)) rfl rfl n]
  rw [lookupG_spec _ _ _ _ _ _ hon]
  · congr 1
    apply List.filter_congr
    intro r hr
    simp only [stageDigit, Nat.mod_eq_of_lt (hrows r hr), Nat.pow_zero, Nat.div_one]
  · intro l hl
    cases hf : p.filtered with
    | false => rw [hf] at hl; cases hl
    | true => rw [hf] at hl; cases hl; exact ho

theorem run_barrier (I : Interp) (p : Params) (rows : Nat → List Row) (n : Nat) :
    run I (diskTask p) (inputs rows) (n+2) .barrier = .unit := by
  rw [run_defined I _ _ (n+1) _ (.barrier ((List.range p.nin).map Key.dwrite)) rfl]
  simp only [evalTsk, List.map_map]
  rw [if_pos]
  rw [List.all_eq_true]
  intro v hv
  obtain ⟨i, hi, rfl⟩ := List.mem_map.mp hv
  simp only [Function.comp]
  rw [run_defined I (diskTask p) _ n (.dwrite i) _ (if_pos (List.mem_range.mp hi))]
  simp only [evalTsk, run_input I (diskTask p) (inputs rows) (.dep i) (.frame (rows i)) rfl rfl n]
  rfl

/-! ### concrete instances for the non-vacuity `example`s of Props/C12.lean -/

namespace C12Ex
/-- 3-stage shuffle, `nin = nout = 5`, fan-out 2, `_partitions = [2,3,4]` (filtered; defect D6's shape) -/
def pEq : Params :=
  { nin := 5, nout := 5, parts := [2, 3, 4], filtered := true, ignoreIndex := false,
    maxBranch := 2, stages := 3, nsplits := 2 }
/-- 2-stage shuffle with final regrouping, `nin = 3`, `nout = 7`, `_partitions = [6,0,4]` -/
def pNe : Params :=
  { nin := 3, nout := 7, parts := [6, 0, 4], filtered := true, ignoreIndex := true,
    maxBranch := 2, stages := 2, nsplits := 2 }
/-- unfiltered versions (`_partitions = range nout`) -/
def pEqAll : Params := { pEq with parts := List.range 5, filtered := false }
def pNeAll : Params := { pNe with parts := List.range 7, filtered := false }
/-- three rows per input partition, targets spread over `0 .. n-1` -/
def rowsMod (n : Nat) (i : Nat) : List Row :=
  [⟨i, i % n, 0⟩, ⟨i + 10, (2 * i + 1) % n, 1⟩, ⟨i + 20, (i * i + 3) % n, 2⟩]
theorem rowsMod_lt (n : Nat) (hn : 0 < n) : ∀ i, ∀ r ∈ rowsMod n i, r.tgt < n := by
  intro i r hr
  simp only [rowsMod, List.mem_cons, List.not_mem_nil, or_false] at hr
  rcases hr with rfl | rfl | rfl <;> exact Nat.mod_lt _ hn
def I0 : Interp := fun _ _ => .err
end C12Ex

end Dx

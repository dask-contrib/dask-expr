/-
  Schema.lean — declared schema vs computed data for the label-level operators (C07).
  A frame is a list of named columns (all of one length); `Op` are the operators whose `_meta` the
  planner derives by hand-written label logic or by running the operation on an empty stand-in.
  `schemaOp` is the declared schema, `evalOp` the operation on data; `labels (evalOp op f) = schemaOp op (labels f)`
  for every frame — in particular for every partition, including empty ones.
-/
namespace Dx.Schema

abbrev Name := String
abbrev Col := List Int
abbrev Frame := List (Name × Col)

def labels (f : Frame) : List Name := f.map Prod.fst

inductive Op where
  | proj (cols : List Name)                 -- df[cols]  (cols ⊆ labels, checked by the caller)
  | rename (m : List (Name × Name))         -- df.rename(columns=m)
  | addPrefix (p : String)
  | addSuffix (s : String)
  | filterRows (keep : Nat → Bool)          -- df[mask]: positional row filter
  | assign (c : Name) (vals : Nat → Int)    -- df.assign(c=…): replaces in place or appends
  | dropCols (cols : List Name)
deriving Inhabited

def renameOne (m : List (Name × Name)) (n : Name) : Name :=
  match m.lookup n with
  | some n' => n'
  | none => n

def schemaOp : Op → List Name → List Name
  | .proj cols, ls => cols.filter (fun c => ls.contains c)
  | .rename m, ls => ls.map (renameOne m)
  | .addPrefix p, ls => ls.map (fun l => p ++ l)
  | .addSuffix s, ls => ls.map (fun l => l ++ s)
  | .filterRows _, ls => ls
  | .assign c _, ls => if ls.contains c then ls else ls ++ [c]
  | .dropCols cols, ls => ls.filter (fun l => !cols.contains l)

def nrows (f : Frame) : Nat := match f with | [] => 0 | (_, c) :: _ => c.length

def filterCol (keep : Nat → Bool) (c : Col) : Col :=
  ((List.range c.length).zip c).filterMap (fun (i, v) => if keep i then some v else none)

def evalOp : Op → Frame → Frame
  | .proj cols, f => cols.filterMap (fun c => (f.lookup c).map (fun col => (c, col)))
  | .rename m, f => f.map (fun (n, c) => (renameOne m n, c))
  | .addPrefix p, f => f.map (fun (n, c) => (p ++ n, c))
  | .addSuffix s, f => f.map (fun (n, c) => (n ++ s, c))
  | .filterRows keep, f => f.map (fun (n, c) => (n, filterCol keep c))
  | .assign c vals, f =>
      let newCol : Col := (List.range (nrows f)).map vals
      if (labels f).contains c then f.map (fun (n, col) => if n = c then (n, newCol) else (n, col))
      else f ++ [(c, newCol)]
  | .dropCols cols, f => f.filter (fun x => !cols.contains x.1)

theorem lookup_isSome_iff (f : Frame) (c : Name) : (f.lookup c).isSome = (labels f).contains c := by
  induction f with
  | nil => rfl
  | cons p t ih =>
    obtain ⟨n, col⟩ := p
    rw [List.lookup_cons, labels, List.map_cons, List.contains_cons]
    cases c == n with
    | true => rfl
    | false => exact ih

/-- **declared labels = computed labels**, for every operator, every frame (hence every partition) -/
theorem labels_evalOp (op : Op) (f : Frame) : labels (evalOp op f) = schemaOp op (labels f) := by
  cases op with
  | proj cols =>
    simp only [evalOp, schemaOp]
    induction cols with
    | nil => rfl
    | cons c t ih =>
      rw [List.filterMap_cons, List.filter_cons, ← lookup_isSome_iff]
      cases f.lookup c with
      | none => exact ih
      | some col => exact congrArg (c :: ·) ih
  | rename m => simp only [evalOp, schemaOp, labels, List.map_map, Function.comp_def]
  | addPrefix p => simp only [evalOp, schemaOp, labels, List.map_map, Function.comp_def]
  | addSuffix s => simp only [evalOp, schemaOp, labels, List.map_map, Function.comp_def]
  | filterRows k => simp only [evalOp, schemaOp, labels, List.map_map, Function.comp_def]
  | assign c vals =>
    simp only [evalOp, schemaOp]
    cases (labels f).contains c with
    | true =>
      simp only [if_true, labels, List.map_map]
      exact List.map_congr_left (fun p _ => by simp only [Function.comp]; split <;> rfl)
    | false => simp only [Bool.false_eq_true, if_false, labels, List.map_append, List.map_cons, List.map_nil]
  | dropCols cols =>
    simp only [evalOp, schemaOp, labels, List.filter_map]
    rfl

/-- a chain of operators -/
def schemaChain (ops : List Op) (ls : List Name) : List Name := ops.foldl (fun l op => schemaOp op l) ls
def evalChain (ops : List Op) (f : Frame) : Frame := ops.foldl (fun g op => evalOp op g) f

theorem labels_evalChain (ops : List Op) (f : Frame) :
    labels (evalChain ops f) = schemaChain ops (labels f) := by
  induction ops generalizing f with
  | nil => rfl
  | cons op t ih =>
    simp only [evalChain, schemaChain, List.foldl_cons]
    have := ih (evalOp op f)
    simp only [evalChain, schemaChain] at this
    rw [this, labels_evalOp]

end Dx.Schema

import DxModel.Lemmas.ListBasics
import DxModel.Graph
import DxModel.Sched
import DxModel.GraphCheck
import DxModel.Layers.Shuffle
import DxModel.Props.C12
import DxModel.Layers.Repartition
import DxModel.Lemmas.ShufflePerm
import DxModel.Lemmas.ShuffleStagedSem
import DxModel.Lemmas.ShuffleStaged
import DxModel.Lemmas.LayerRun
import DxModel.Lemmas.ShuffleWF
import DxModel.Pred
import DxModel.Lemmas.Pred
import DxModel.Lemmas.PredDNF
import DxModel.Lemmas.PredJoin
import DxModel.Lemmas.PredCross
import DxModel.Generated.FilterFlags
import DxModel.Props.C03
import DxModel.Props.C13
import DxModel.Cache
import DxModel.Names
import DxModel.Pickle
import DxModel.Lemmas.Cache
import DxModel.Lemmas.Names
import DxModel.Lemmas.NameTable
import DxModel.Lemmas.Pickle
import DxModel.Props.C15
import DxModel.Props.C08
import DxModel.Props.C16
import DxModel.Cols
import DxModel.Fusion
import DxModel.FusionCheck
import DxModel.Plan
import DxModel.Cut
import DxModel.Props.C05
import DxModel.Props.C09
import DxModel.Props.C17
import DxModel.Parquet
import DxModel.Props.C18
import DxModel.Layers.TreeReduce
import DxModel.Layers.Cumulative
import DxModel.Layers.Overlap
import DxModel.Layers.Blockwise
import DxModel.Layers.GroupJoin
import DxModel.Lemmas.TreeReduce
import DxModel.Lemmas.Cumulative
import DxModel.Lemmas.Overlap
import DxModel.Lemmas.Blockwise
import DxModel.Lemmas.GroupJoin
import DxModel.Props.C02
import DxModel.Props.C10
import DxModel.Expr
import DxModel.Drivers
import DxModel.Lemmas.DriversSem
import DxModel.Lemmas.Drivers
import DxModel.Props.C01
import DxModel.Lemmas.FusionBasic
import DxModel.Lemmas.FusionWalk
import DxModel.Lemmas.FusionPass
import DxModel.Lemmas.FusionMeasure
import DxModel.Lemmas.FusionSubst
import DxModel.Lemmas.FusionLoop
import DxModel.Lemmas.FusionTask
import DxModel.Props.C14
import DxModel.Lemmas.Cols
import DxModel.Lemmas.ColsRules
import DxModel.Lemmas.ColsSem
import DxModel.Lemmas.ColsMerge
import DxModel.Lemmas.ColsAssign
import DxModel.Generated.ProjFlags
import DxModel.Props.C04
import DxModel.Schema
import DxModel.Props.C07
import DxModel.Layers.Partitions
import DxModel.Layers.Head
import DxModel.Layers.Divisions
import DxModel.Lemmas.Partitions
import DxModel.Lemmas.FromArray
import DxModel.Lemmas.Head
import DxModel.Lemmas.HeadPush
import DxModel.Lemmas.SortedHead
import DxModel.Props.C11
import DxModel.Termination
import DxModel.Lemmas.Termination
import DxModel.Lemmas.TerminationLower
import DxModel.Generated.Lowers
import DxModel.Props.C19
import DxModel.Lemmas.Divisions
import DxModel.Generated.LengthFlags
import DxModel.Lemmas.FusedIO
import DxModel.Props.C06
import DxModel.ParquetStats
import DxModel.Layers.Boundary
import DxModel.Lemmas.Boundary
import DxModel.Meta
import DxModel.MetaPush
import DxModel.Layers.KnobJoin
import DxModel.Layers.KnobSort
import DxModel.Layers.KnobReduce
import DxModel.Lemmas.Knobs
import DxModel.Lemmas.ParquetStats
import DxModel.Lemmas.Meta
import DxModel.Lemmas.MetaConcat
import DxModel.Lemmas.MetaPush
import DxModel.Lemmas.MetaPushMerge
import DxModel.Lemmas.MetaPushConcat
import DxModel.Fragment
import DxModel.SimplifyMeasure
import DxModel.Lemmas.SimplifyMeasure
import DxModel.LayerOK
import DxModel.LayerHashes
import DxModel.Layers.Flat
import DxModel.Layers.Gather
import DxModel.Layers.LayerChecks
import DxModel.Lemmas.LayerFlat
import DxModel.Lemmas.LayerModels
import DxModel.Lemmas.LayerRepartition
import DxModel.Lemmas.LayerBoundary
import DxModel.Generated.LayerClasses
import DxModel.Lemmas.LayerTable
import DxModel.Layers.MergeTree
import DxModel.Lemmas.LayerMergeTree
import DxModel.Layers.MergeAsof
import DxModel.Lemmas.LayerMergeAsof
import DxModel.Lemmas.FragCode
import DxModel.Lemmas.FragSem
import DxModel.Lemmas.FragOps
import DxModel.Lemmas.FragRules
import DxModel.Lemmas.FragPred
import DxModel.Lemmas.FragAssign
import DxModel.Lemmas.FragConcat
import DxModel.Lemmas.FragMerge
import DxModel.Lemmas.FragSound
import DxModel.Lemmas.ColsInst
